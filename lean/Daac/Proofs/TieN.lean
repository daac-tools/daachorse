/-
Translation tie, pattern-insertion side: `NfaBuilder::{new, add, is_registered, child_id}` GENERATED
from the repository's `src/nfa_builder.rs` by tools/nfa2lean.py (`Daac/Gen/Nfa.lean`: states in an
id-indexed array, edges as label-sorted association lists of child ids) refines the hand-written
path-keyed model `NfaAcc.add` / `Trie.insert` (Daac/Model/Trie.lean).

`Rep st pth t id pre`: the array `st` represents the tree `t` at state `id`; `pth` is a ghost
labelling of state ids by their path (it makes distinct nodes have distinct ids, which is what the
frame argument needs: a write to one state does not disturb the subtrees of its siblings).

The generated loop `add.loop0` is unfolded once, in `add_loop0_eq`; invariants of its
successful runs (here `loop0_bounds`; `Fresh`, `Reach` in Proofs/TieFFresh, TiePReach) are instances of
the rule `loop0_ok_induct`, and of `addAllGen_ok_induct` for the fold over the patterns.
-/
import Daac.Gen.Nfa
import Daac.Proofs.TrieFacts
namespace Daac.Tie.N
open Daac Daac.Gen Daac.Gen.N

variable {V : Type}

abbrev St (V : Type) := Array (NfaBuilderState V)
abbrev Pth := Nat → Option (List Nat)

mutual
def Rep (st : St V) (pth : Pth) : Trie V → Nat → List Nat → Prop
  | .node out kids, id, pre =>
    ∃ s, st[id]? = some s ∧ pth id = some pre ∧ s.output = out ∧ RepK st pth kids pre 0 s.edges
/-- The edge list `es` (labels ≥ `lo`, strictly increasing) represents the children `ks`. -/
def RepK (st : St V) (pth : Pth) : Kids V → List Nat → Nat → List (Nat × Nat) → Prop
  | .nil, _, _, es => es = []
  | .cons l t ks, pre, lo, es =>
    ∃ cid es', es = (l, cid) :: es' ∧ lo ≤ l ∧ Rep st pth t cid (pre ++ [l]) ∧ RepK st pth ks pre (l + 1) es'
end

section rep
variable {st st' : St V} {pth pth' : Pth}

/-- Every state whose path satisfies `P` (or that has no path: the dead state) is the same in
`st'` / `pth'`. -/
def Keeps (st st' : St V) (pth pth' : Pth) (P : List Nat → Prop) : Prop :=
  ∀ j s, st[j]? = some s → (∀ pj, pth j = some pj → P pj) → st'[j]? = some s ∧ pth' j = pth j

theorem Keeps.mono {P P' : List Nat → Prop}
    (h : Keeps st st' pth pth' P) (hp : ∀ q, P' q → P q) : Keeps st st' pth pth' P' :=
  fun j s h1 h2 => h j s h1 (fun pj e => hp pj (h2 pj e))

theorem Keeps.trans {st2 : St V} {pth2 : Pth} {P : List Nat → Prop}
    (h1 : Keeps st st2 pth pth2 P) (h2 : Keeps st2 st' pth2 pth' P) : Keeps st st' pth pth' P := by
  intro j s hs hp
  have a := h1 j s hs hp
  have b := h2 j s a.1 (by rw [a.2]; exact hp)
  exact ⟨b.1, by rw [b.2, a.2]⟩

theorem snoc_prefix_inj {pre pj : List Nat} {l c : Nat}
    (h1 : (pre ++ [l]) <+: pj) (h2 : (pre ++ [c]) <+: pj) : l = c := by
  obtain ⟨r1, h1⟩ := h1
  obtain ⟨r2, h2⟩ := h2
  rw [← h2, List.append_assoc, List.append_assoc] at h1
  exact (List.cons.inj (List.append_cancel_left h1)).1

theorem not_snoc_prefix (pre : List Nat) (c : Nat) : ¬ (pre ++ [c]) <+: pre := by
  intro h
  have := h.length_le
  rw [List.length_append, List.length_singleton] at this
  exact Nat.not_succ_le_self _ this

theorem rep_frame :
    (∀ (t : Trie V) (id : Nat) (pre : List Nat),
      Rep st pth t id pre → Keeps st st' pth pth' (pre <+: ·) → Rep st' pth' t id pre) ∧
    ∀ (ks : Kids V) (pre : List Nat) (lo : Nat) (es : List (Nat × Nat)), RepK st pth ks pre lo es →
      (∀ l, lo ≤ l → Keeps st st' pth pth' ((pre ++ [l]) <+: ·)) → RepK st' pth' ks pre lo es := by
  refine Trie.induction ?_ ?_ ?_
  · intro out kids ih id pre h hf
    unfold Rep at h ⊢
    obtain ⟨s, h1, h2, h3, h4⟩ := h
    have := hf id s h1 (fun pj e => by rw [h2] at e; cases e; exact List.prefix_refl _)
    exact ⟨s, this.1, by rw [this.2, h2], h3, ih pre 0 s.edges h4
      (fun l _ => hf.mono (fun q hq => (List.prefix_append _ _).trans hq))⟩
  · intro pre lo es h hf
    unfold RepK at h ⊢
    exact h
  · intro l t r iht ihr pre lo es h hf
    unfold RepK at h ⊢
    obtain ⟨cid, es', h1, h2, h3, h4⟩ := h
    exact ⟨cid, es', h1, h2, iht cid _ h3 (hf l h2),
      ihr pre (l + 1) es' h4 (fun l' hl' => hf l' (Nat.le_trans h2 (Nat.le_of_succ_le hl')))⟩

theorem Rep.frame (t : Trie V) (id : Nat) (pre : List Nat) (h : Rep st pth t id pre)
    (hf : Keeps st st' pth pth' (pre <+: ·)) : Rep st' pth' t id pre :=
  rep_frame.1 t id pre h hf

theorem RepK.frame (ks : Kids V) (pre : List Nat) (lo : Nat) (es : List (Nat × Nat))
    (h : RepK st pth ks pre lo es) (hf : ∀ l, lo ≤ l → Keeps st st' pth pth' ((pre ++ [l]) <+: ·)) :
    RepK st' pth' ks pre lo es :=
  rep_frame.2 ks pre lo es h hf

theorem RepK.find_cases (c : Nat) (ks : Kids V) (pre : List Nat) (lo : Nat) (es : List (Nat × Nat))
    (h : RepK st pth ks pre lo es) :
    (ks.find? c = none ∧ Rs.EdgeMap.get es c = none) ∨
      ∃ t cid, ks.find? c = some t ∧ Rs.EdgeMap.get es c = some cid ∧ Rep st pth t cid (pre ++ [c]) ∧
        Rs.EdgeMap.insert es c cid = es ∧ lo ≤ c := by
  induction ks using Kids.induction generalizing lo es with
  | nil =>
    unfold RepK at h; subst h; exact Or.inl ⟨rfl, rfl⟩
  | cons l t r ih =>
    unfold RepK at h
    obtain ⟨cid, es', rfl, h2, h3, h4⟩ := h
    unfold Kids.find? Rs.EdgeMap.get Rs.EdgeMap.insert
    by_cases hl : l = c
    · subst hl
      rw [if_pos rfl, if_pos rfl]
      exact Or.inr ⟨t, cid, rfl, rfl, h3, by rw [if_neg (Nat.lt_irrefl l), if_pos rfl], h2⟩
    · rw [if_neg hl, if_neg hl]
      rcases ih (l + 1) es' h4 with hn | ⟨tc, w, hf, hg, hr, hi, hlo⟩
      · exact Or.inl hn
      · refine Or.inr ⟨tc, w, hf, hg, hr, ?_, Nat.le_trans h2 (Nat.le_of_succ_le hlo)⟩
        rw [if_neg (Nat.not_lt_of_le (Nat.le_of_succ_le hlo)), if_neg (fun e => hl e.symm), hi]

theorem index_ok_iff {α : Type} {a : Array α} {i : Nat} {s : α} : Rs.index a i = .ok s ↔ a[i]? = some s := by
  unfold Rs.index
  cases a[i]? with
  | none => exact ⟨fun h => (by cases h), fun h => (by cases h)⟩
  | some x => exact ⟨fun h => (by cases h; rfl), fun h => (by cases h; rfl)⟩

theorem index_eq {α : Type} (a : Array α) (i : Nat) (s : α) (h : a[i]? = some s) : Rs.index a i = .ok s :=
  index_ok_iff.2 h

theorem child_id_eq (g : NfaBuilder V) (id c : Nat) (s : NfaBuilderState V) (h : g.states[id]? = some s) :
    NfaBuilder.child_id g id c = .ok (Rs.EdgeMap.get s.edges c) := by
  simp only [NfaBuilder.child_id, index_eq _ _ _ h]

theorem is_registered_loop (g : NfaBuilder V) (pth : Pth) (pat cs : List Nat) (t : Trie V)
    (id : Nat) (pre : List Nat) (h : Rep g.states pth t id pre) :
    NfaBuilder.is_registered.loop0 g pat cs id = .ok (t.isRegistered cs) := by
  induction cs generalizing t id pre with
  | nil =>
    obtain ⟨out, kids⟩ := t
    unfold Rep at h
    obtain ⟨s, h1, _, h3, _⟩ := h
    simp only [NfaBuilder.is_registered.loop0, index_eq _ _ _ h1, h3, Trie.isRegistered, Trie.walk, Trie.out]
  | cons c cs ih =>
    obtain ⟨out, kids⟩ := t
    unfold Rep at h
    obtain ⟨s, h1, _, _, h4⟩ := h
    simp only [NfaBuilder.is_registered.loop0, child_id_eq g id c s h1, Trie.isRegistered_cons]
    rcases RepK.find_cases c kids pre 0 s.edges h4 with ⟨hf, hg⟩ | ⟨tc, cid, hf, hg, hc, _⟩
    · rw [hf, hg, Option.getD_none, Trie.isRegistered_empty]
    · rw [hf, hg, Option.getD_some]
      exact ih tc cid _ hc

theorem is_registered_rep (g : NfaBuilder V) (pth : Pth) (pat : List Nat) (t : Trie V)
    (h : Rep g.states pth t 0 []) : NfaBuilder.is_registered g pat = .ok (t.isRegistered pat) :=
  is_registered_loop g pth pat pat t 0 [] h

theorem RepK.set (c cid : Nat) (t' : Trie V) (ks : Kids V) (pre : List Nat) (lo : Nat)
    (es : List (Nat × Nat)) (h : RepK st pth ks pre lo es) (hlo : lo ≤ c)
    (hf : ∀ l, l ≠ c → Keeps st st' pth pth' ((pre ++ [l]) <+: ·)) (hr : Rep st' pth' t' cid (pre ++ [c])) :
    RepK st' pth' (ks.set c t') pre lo (Rs.EdgeMap.insert es c cid) := by
  induction ks using Kids.induction generalizing lo es with
  | nil =>
    unfold RepK at h; subst h
    unfold Kids.set Rs.EdgeMap.insert RepK
    exact ⟨cid, [], rfl, hlo, hr, by unfold RepK; rfl⟩
  | cons l t r ih =>
    unfold RepK at h
    obtain ⟨w, es', rfl, h2, h3, h4⟩ := h
    unfold Kids.set Rs.EdgeMap.insert
    by_cases hcl : c < l
    · -- the new entry goes in front; the old list is framed
      rw [if_pos hcl, if_pos hcl]
      unfold RepK
      refine ⟨cid, _, rfl, hlo, hr, ?_⟩
      unfold RepK
      exact ⟨w, es', rfl, hcl, Rep.frame t w _ h3 (hf l (Nat.ne_of_gt hcl)),
        RepK.frame r pre (l + 1) es' h4 (fun l' hl' => hf l' (Nat.ne_of_gt (Nat.lt_trans hcl hl')))⟩
    · rw [if_neg hcl, if_neg hcl]
      by_cases he : c = l
      · -- the head entry is replaced
        subst he
        rw [if_pos rfl, if_pos rfl]
        unfold RepK
        exact ⟨cid, es', rfl, h2, hr, RepK.frame r pre (c + 1) es' h4 (fun l' hl' => hf l' (Nat.ne_of_gt hl'))⟩
      · rw [if_neg he, if_neg he]
        unfold RepK
        exact ⟨w, _, rfl, h2, Rep.frame t w _ h3 (hf l (fun e => he e.symm)),
          ih (l + 1) es' h4 (Nat.lt_of_le_of_ne (Nat.le_of_not_lt hcl) (fun e => he e.symm))⟩

theorem Rep.set_child {kids : Kids V} {pre : List Nat}
    {es : List (Nat × Nat)} {id c cid : Nat} {s' : NfaBuilderState V} {t' : Trie V}
    (hk : RepK st pth kids pre 0 es)
    (hout : Keeps st st' pth pth' (fun q => ¬ (pre ++ [c]) <+: q))
    (hs' : st'[id]? = some s') (hp' : pth' id = some pre)
    (he : s'.edges = Rs.EdgeMap.insert es c cid) (hr : Rep st' pth' t' cid (pre ++ [c])) :
    Rep st' pth' (.node s'.output (kids.set c t')) id pre := by
  unfold Rep
  refine ⟨s', hs', hp', rfl, ?_⟩
  rw [he]
  exact RepK.set c cid t' kids pre 0 es hk (Nat.zero_le _)
    (fun l hl => hout.mono (fun q hq hc => hl (snoc_prefix_inj hq hc))) hr

end rep

def upd (pth : Pth) (n : Nat) (q : List Nat) : Pth := fun j => if j = n then some q else pth j

theorem lt_of_get {st : St V} {j : Nat} {s : NfaBuilderState V} (h : st[j]? = some s) : j < st.size :=
  (Array.getElem?_eq_some_iff.mp h).1

theorem write_keep (st : St V) (id j : Nat) (x s : NfaBuilderState V) (h : st[j]? = some s) (hne : j ≠ id) :
    (st.setIfInBounds id x)[j]? = some s := by
  rw [Array.getElem?_setIfInBounds_ne (fun e => hne e.symm), h]

theorem Keeps.write (st : St V) {pth : Pth} {id : Nat} {pre : List Nat} (x : NfaBuilderState V)
    {P : List Nat → Prop} (hp : pth id = some pre) (hn : ¬ P pre) :
    Keeps st (st.setIfInBounds id x) pth pth P := by
  intro j s hs hc
  have : j ≠ id := by
    intro e; subst e; exact hn (hc pre hp)
  exact ⟨write_keep st id j x s hs this, rfl⟩

/-- The builder after `edges.insert(c, next_state_id)` at state `id` (whose content is `s`) and
`states.push(Default::default())`; `next_state_id` is the old number of states. -/
def pushChild (g : NfaBuilder V) (id : Nat) (s : NfaBuilderState V) (c : Nat) : NfaBuilder V :=
  { g with states := (g.states.setIfInBounds id
      { s with edges := Rs.EdgeMap.insert s.edges c g.states.size }).push NfaBuilderState.default }

theorem pushChild_size (g : NfaBuilder V) (id : Nat) (s : NfaBuilderState V) (c : Nat) :
    (pushChild g id s c).states.size = g.states.size + 1 := by
  simp only [pushChild, Array.size_push, Array.size_setIfInBounds]

theorem pushChild_get_self {g : NfaBuilder V} {id : Nat} {s : NfaBuilderState V} (c : Nat)
    (h : g.states[id]? = some s) :
    (pushChild g id s c).states[id]? = some { s with edges := Rs.EdgeMap.insert s.edges c g.states.size } := by
  rw [pushChild, Array.getElem?_push, Array.size_setIfInBounds, if_neg (Nat.ne_of_lt (lt_of_get h)),
    Array.getElem?_setIfInBounds_self_of_lt (lt_of_get h)]

theorem pushChild_get_old {g : NfaBuilder V} {id j : Nat} {s x : NfaBuilderState V} (c : Nat)
    (h : g.states[j]? = some x) (hne : j ≠ id) : (pushChild g id s c).states[j]? = some x := by
  rw [pushChild, Array.getElem?_push, Array.size_setIfInBounds, if_neg (Nat.ne_of_lt (lt_of_get h)),
    Array.getElem?_setIfInBounds_ne (fun e => hne e.symm), h]

theorem pushChild_get_new (g : NfaBuilder V) (id : Nat) (s : NfaBuilderState V) (c : Nat) :
    (pushChild g id s c).states[g.states.size]? = some NfaBuilderState.default := by
  rw [pushChild, Array.getElem?_push, Array.size_setIfInBounds, if_pos rfl]

theorem pushChild_keeps (g : NfaBuilder V) {pth : Pth} {id : Nat} {pre : List Nat} (s : NfaBuilderState V)
    (c : Nat) (q : List Nat) {P : List Nat → Prop} (hp : pth id = some pre) (hn : ¬ P pre) :
    Keeps g.states (pushChild g id s c).states pth (upd pth g.states.size q) P := by
  intro j x hx hc
  have h1 : j ≠ id := by
    intro e; subst e; exact hn (hc pre hp)
  exact ⟨pushChild_get_old c hx h1, if_neg (Nat.ne_of_lt (lt_of_get hx))⟩

/-- What the generated code does once the leftmost-first test fires: a pattern that is registered or
was skipped before is a duplicate, any other is recorded in `shadowed` and skipped. -/
def shadowK (g : NfaBuilder V) (pat : List Nat) : Except BuildErr (Unit × NfaBuilder V) :=
  match NfaBuilder.is_registered g pat with
  | .error e => .error e
  | .ok r =>
    if r then .error .duplicatePattern
    else if (!(Rs.SetL.insert g.shadowed pat).1) then .error .duplicatePattern
    else .ok ((), { g with shadowed := (Rs.SetL.insert g.shadowed pat).2 })

theorem shadowK_ok {g g' : NfaBuilder V} {pat : List Nat} {u : Unit} (h : shadowK g pat = .ok (u, g')) :
    g' = { g with shadowed := pat :: g.shadowed } := by
  unfold shadowK Rs.SetL.insert at h
  cases hr : NfaBuilder.is_registered g pat with
  | error e => rw [hr] at h; cases h
  | ok r =>
    rw [hr] at h
    cases r <;> cases hc : g.shadowed.contains pat <;> rw [hc] at h <;> cases h
    rfl

theorem ite_ite_and {α : Type} (a b : Bool) (x y : α) :
    (if a = true then (if b = true then x else y) else y) = if (a && b) = true then x else y := by
  cases a <;> cases b <;> rfl

section loop
variable (pat : List Nat) (v : V) (pl : Nat)

theorem add_loop0_eq (cs : List Nat) (g : NfaBuilder V) (id : Nat) :
    NfaBuilder.add.loop0 pat v pl cs g id =
      match g.states[id]?, cs with
      | none, _ => .error (.panic "index out of bounds")
      | some s, [] =>
        if s.output.isSome then .error .duplicatePattern
        else .ok ((), { g with states := g.states.setIfInBounds id { s with output := some (v, pl) },
                               len := g.len + 1 })
      | some s, c :: cs =>
        if ((g.match_kind == 2) && s.output.isSome) = true then shadowK g pat
        else match Rs.EdgeMap.get s.edges c with
          | some cid => NfaBuilder.add.loop0 pat v pl cs g cid
          | none =>
            if g.states.size ≤ 4294967295 then
              NfaBuilder.add.loop0 pat v pl cs (pushChild g id s c) g.states.size
            else .error .automatonScale := by
  cases cs with
  | nil =>
    rw [NfaBuilder.add.loop0]
    unfold Rs.index
    cases g.states[id]? <;> rfl
  | cons c cs =>
    rw [NfaBuilder.add.loop0]
    unfold NfaBuilder.child_id Rs.index Rs.u32TryFrom
    cases g.states[id]? with
    | none => cases g.match_kind == 2 <;> rfl
    | some s =>
      dsimp only
      -- the two arms of the `match_kind` test end in the same edge step
      rw [ite_ite_and]
      by_cases hsh : ((g.match_kind == 2) && s.output.isSome) = true
      · rw [if_pos hsh, if_pos hsh]; rfl
      · rw [if_neg hsh, if_neg hsh]
        cases Rs.EdgeMap.get s.edges c with
        | some cid => rfl
        | none =>
          by_cases hsz : g.states.size ≤ 4294967295 <;> simp only [Rs.u32Max, hsz, if_true, if_false] <;> rfl

theorem loop0_ok_induct {I : List Nat → NfaBuilder V → Nat → Prop} {Q : NfaBuilder V → Prop}
    (found : ∀ c cs g id s cid, g.states[id]? = some s → Rs.EdgeMap.get s.edges c = some cid →
      I (c :: cs) g id → I cs g cid)
    (new : ∀ c cs g id s, g.states[id]? = some s → Rs.EdgeMap.get s.edges c = none →
      I (c :: cs) g id → I cs (pushChild g id s c) g.states.size)
    (shadow : ∀ c cs g id, I (c :: cs) g id → Q { g with shadowed := pat :: g.shadowed })
    (done : ∀ g id s, g.states[id]? = some s → I [] g id →
      Q { g with states := g.states.setIfInBounds id { s with output := some (v, pl) }, len := g.len + 1 })
    (cs : List Nat) (g : NfaBuilder V) (id : Nat) (u : Unit) (g' : NfaBuilder V)
    (h : NfaBuilder.add.loop0 pat v pl cs g id = .ok (u, g')) (hi : I cs g id) : Q g' := by
  induction cs generalizing g id with
  | nil =>
    rw [add_loop0_eq] at h
    cases hs : g.states[id]? with
    | none => rw [hs] at h; cases h
    | some s =>
      rw [hs] at h
      dsimp only at h
      by_cases ho : s.output.isSome = true
      · rw [if_pos ho] at h; cases h
      · rw [if_neg ho] at h
        rw [← (Prod.mk.inj (Except.ok.inj h)).2]
        exact done g id s hs hi
  | cons c cs ih =>
    rw [add_loop0_eq] at h
    cases hs : g.states[id]? with
    | none => rw [hs] at h; cases h
    | some s =>
      rw [hs] at h
      dsimp only at h
      by_cases hsh : ((g.match_kind == 2) && s.output.isSome) = true
      · rw [if_pos hsh] at h
        rw [shadowK_ok h]
        exact shadow c cs g id hi
      · rw [if_neg hsh] at h
        cases hg : Rs.EdgeMap.get s.edges c with
        | some cid =>
          simp only [hg] at h
          exact ih g cid h (found c cs g id s cid hs hg hi)
        | none =>
          simp only [hg] at h
          by_cases hsz : g.states.size ≤ 4294967295
          · rw [if_pos hsz] at h
            exact ih _ _ h (new c cs g id s hs hg hi)
          · rw [if_neg hsz] at h; cases h

theorem loop0_bounds {k N : Nat} (cs : List Nat) (g : NfaBuilder V) (id : Nat) (u : Unit) (g' : NfaBuilder V)
    (h : NfaBuilder.add.loop0 pat v pl cs g id = .ok (u, g'))
    (hi : g.match_kind = k ∧ g.states.size + cs.length ≤ N) : g'.match_kind = k ∧ g'.states.size ≤ N := by
  refine loop0_ok_induct pat v pl
    (I := fun cs g _ => g.match_kind = k ∧ g.states.size + cs.length ≤ N)
    (Q := fun g' => g'.match_kind = k ∧ g'.states.size ≤ N) ?_ ?_ ?_ ?_ cs g id u g' h hi
  · intro c cs g id s cid _ _ hi
    exact ⟨hi.1, Nat.le_trans (Nat.add_le_add_left (Nat.le_succ _) _) hi.2⟩
  · intro c cs g id s _ _ hi
    refine ⟨hi.1, ?_⟩
    rw [pushChild_size, Nat.add_right_comm]
    exact hi.2
  · intro c cs g id hi
    exact ⟨hi.1, Nat.le_trans (Nat.le_add_right _ _) hi.2⟩
  · intro g id s _ hi
    refine ⟨hi.1, ?_⟩
    rw [Array.size_setIfInBounds]
    exact hi.2

end loop

theorem insert_empty_ok (lf : Bool) (o : V × Nat) : (cs : List Nat) →
    ∃ t', Trie.insert lf o (Trie.empty : Trie V) cs = .ok t'
  | [] => ⟨_, rfl⟩
  | c :: cs => by
    obtain ⟨t', h⟩ := insert_empty_ok lf o cs
    refine ⟨.node none (Kids.set .nil c t'), ?_⟩
    have h' : Trie.insert lf o (Trie.node none Kids.nil) cs = .ok t' := h
    simp only [Trie.empty, Trie.insert, Kids.find?, Option.getD_none, Option.isSome_none, Bool.and_false,
      Bool.false_eq_true, if_false, h']

def LoopSpec (pat : List Nat) (v : V) (pl : Nat) (cs : List Nat) (g : NfaBuilder V) (pth : Pth) (id : Nat)
    (pre : List Nat) : AddRes V → Prop
  | .dup => NfaBuilder.add.loop0 pat v pl cs g id = .error .duplicatePattern
  | .shadowed => NfaBuilder.add.loop0 pat v pl cs g id = shadowK g pat
  | .ok t' => ∃ g' pth', NfaBuilder.add.loop0 pat v pl cs g id = .ok ((), g') ∧
      Rep g'.states pth' t' id pre ∧ Keeps g.states g'.states pth pth' (fun q => ¬ pre <+: q) ∧
      g'.len = g.len + 1 ∧ g'.shadowed = g.shadowed

theorem loop_refines (pat : List Nat) (v : V) (pl : Nat) (cs : List Nat) (t : Trie V)
    (g : NfaBuilder V) (pth : Pth) (id : Nat) (pre : List Nat) (h : Rep g.states pth t id pre)
    (hsz : g.states.size + cs.length ≤ 4294967295) :
    LoopSpec pat v pl cs g pth id pre (Trie.insert (g.match_kind == 2) (v, pl) t cs) := by
  induction cs generalizing t g pth id pre with
  | nil =>
    obtain ⟨out, kids⟩ := t
    unfold Rep at h
    obtain ⟨s, h1, h2, rfl, h4⟩ := h
    have hstep := add_loop0_eq pat v pl [] g id
    simp only [h1] at hstep
    rw [Trie.insert]
    by_cases ho : s.output.isSome = true
    · rw [if_pos ho] at hstep ⊢; exact hstep
    · rw [if_neg ho] at hstep ⊢
      refine ⟨_, pth, hstep, ?_, Keeps.write _ _ h2 (fun hc => hc (List.prefix_refl _)), rfl, rfl⟩
      unfold Rep
      exact ⟨_, Array.getElem?_setIfInBounds_self_of_lt (lt_of_get h1), h2, rfl, RepK.frame kids pre 0 s.edges h4
        (fun l _ => Keeps.write _ _ h2 (not_snoc_prefix pre l))⟩
  | cons c cs ih =>
    obtain ⟨out, kids⟩ := t
    unfold Rep at h
    obtain ⟨s, h1, h2, rfl, h4⟩ := h
    have hstep := add_loop0_eq pat v pl (c :: cs) g id
    simp only [h1] at hstep
    rw [Trie.insert]
    by_cases hsh : ((g.match_kind == 2) && s.output.isSome) = true
    · rw [if_pos hsh] at hstep ⊢; exact hstep
    · rw [if_neg hsh] at hstep ⊢
      have hid : id ≠ g.states.size := Nat.ne_of_lt (lt_of_get h1)
      rcases RepK.find_cases c kids pre 0 s.edges h4 with ⟨hf, hg⟩ | ⟨tc, cid, hf, hg, hc, hsame, _⟩
      · -- no child `c`: the pushed state represents the empty tree, into which the rest is inserted
        have hlt : g.states.size ≤ 4294967295 := Nat.le_trans (Nat.le_add_right _ _) hsz
        simp only [hg, if_pos hlt] at hstep
        obtain ⟨t'', hi⟩ := insert_empty_ok (g.match_kind == 2) (v, pl) cs
        have ih : LoopSpec pat v pl cs (pushChild g id s c) _ _ _
            (Trie.insert (g.match_kind == 2) (v, pl) Trie.empty cs) :=
          ih Trie.empty (pushChild g id s c)
            (upd pth g.states.size (pre ++ [c])) g.states.size (pre ++ [c])
            (by unfold Trie.empty Rep
                exact ⟨_, pushChild_get_new g id s c, if_pos rfl, rfl, by unfold RepK; rfl⟩)
            (by rw [pushChild_size, Nat.add_right_comm]; exact hsz)
        rw [hi] at ih
        rw [hf, Option.getD_none, hi]
        obtain ⟨g', pth', heq, hrep', hout, hlen, hshd⟩ := ih
        have hs2 := hout id _ (pushChild_get_self c h1) (fun pj e hc => by
          rw [upd, if_neg hid, h2] at e; cases e; exact not_snoc_prefix _ _ hc)
        have hp2 : pth' id = some pre := by rw [hs2.2, upd, if_neg hid, h2]
        have hrep := Rep.set_child (RepK.frame kids pre 0 s.edges h4
          (fun l _ => pushChild_keeps g s c _ h2 (not_snoc_prefix pre l))) hout hs2.1 hp2 rfl hrep'
        exact ⟨g', pth', hstep.trans heq, hrep,
          (pushChild_keeps g s c _ h2 (fun hc => hc (List.prefix_refl _))).trans
            (hout.mono (fun q hq hc => hq ((List.prefix_append _ _).trans hc))), hlen, hshd⟩
      · -- child `c` exists: recurse into it; afterwards the parent's edge list is as it was
        simp only [hg] at hstep
        have ih := ih tc g pth cid (pre ++ [c]) hc
          (Nat.le_trans (Nat.add_le_add_left (Nat.le_succ _) _) hsz)
        rw [hf, Option.getD_some]
        cases hi : Trie.insert (g.match_kind == 2) (v, pl) tc cs with
        | dup => rw [hi] at ih; exact hstep.trans ih
        | shadowed => rw [hi] at ih; exact hstep.trans ih
        | ok t'' =>
          rw [hi] at ih
          obtain ⟨g', pth', heq, hrep', hout, hlen, hshd⟩ := ih
          have hs := hout id s h1 (fun pj e hc => by
            rw [h2] at e; cases e; exact not_snoc_prefix _ _ hc)
          exact ⟨g', pth', hstep.trans heq,
            Rep.set_child h4 hout hs.1 (by rw [hs.2, h2]) hsame.symm hrep',
            hout.mono (fun q hq hc => hq ((List.prefix_append _ _).trans hc)), hlen, hshd⟩

/-- The generated builder `g` represents the model accumulator `a`: state 0 is the root of the
trie, state 1 is the (untouched) dead state. -/
def RepAcc (g : NfaBuilder V) (a : NfaAcc V) : Prop :=
  ∃ pth : Pth, Rep g.states pth a.trie 0 [] ∧ g.len = a.len ∧ g.shadowed = a.shadowed ∧
    g.states[1]? = some NfaBuilderState.default ∧ pth 1 = none

theorem new_rep (kind : Nat) : RepAcc (NfaBuilder.new kind : NfaBuilder V) NfaAcc.init := by
  refine ⟨fun j => if j = 0 then some [] else none, ?_, rfl, rfl, rfl, rfl⟩
  unfold NfaAcc.init Trie.empty Rep
  exact ⟨NfaBuilderState.default, rfl, rfl, rfl, by unfold RepK; rfl⟩

theorem add_eq (nb : Nat → Nat) (g : NfaBuilder V) (key : List Nat) (v : V) :
    NfaBuilder.add nb g key v =
      match Rs.u32TryFrom (key.map nb).sum with
      | none => .error .invalidArgument
      | some n => if n = 0 then .error .invalidArgument else NfaBuilder.add.loop0 key v n key g 0 := by
  have hw : List.foldl (fun acc c => acc + nb c) 0 key = (key.map nb).sum := by
    rw [List.sum_eq_foldl, List.foldl_map]
  unfold NfaBuilder.add
  rw [hw]
  cases Rs.u32TryFrom (key.map nb).sum with
  | none => rfl
  | some n =>
    by_cases h0 : n = 0
    · simp only [Rs.mapErr, Rs.nonZeroU32New, Rs.okOrElse, h0, if_true]
    · simp only [Rs.mapErr, Rs.nonZeroU32New, Rs.okOrElse, h0, if_false]; rfl

theorem add_ok {nb : Nat → Nat} {g g' : NfaBuilder V} {key : List Nat} {v : V} {u : Unit}
    (h : NfaBuilder.add nb g key v = .ok (u, g')) :
    ∃ pl, NfaBuilder.add.loop0 key v pl key g 0 = .ok (u, g') := by
  rw [add_eq] at h
  cases hn : Rs.u32TryFrom (key.map nb).sum with
  | none => simp only [hn] at h; cases h
  | some n =>
    simp only [hn] at h
    by_cases h0 : n = 0
    · rw [if_pos h0] at h; cases h
    · rw [if_neg h0] at h; exact ⟨n, h⟩

def Agree {α β : Type} (R : α → β → Prop) : Except BuildErr α → Except BuildErr β → Prop
  | .ok a, .ok b => R a b
  | .error e, .error e' => e = e'
  | _, _ => False

theorem Agree.cases {α β : Type} {R : α → β → Prop} {x : Except BuildErr α} {y : Except BuildErr β}
    (h : Agree R x y) : (∃ e, x = .error e ∧ y = .error e) ∨ ∃ a b, x = .ok a ∧ y = .ok b ∧ R a b := by
  cases x <;> cases y
  · exact Or.inl ⟨_, rfl, congrArg _ h.symm⟩
  · exact h.elim
  · exact h.elim
  · exact Or.inr ⟨_, _, rfl, rfl, h⟩

theorem add_agree (nb : Nat → Nat) (g : NfaBuilder V) (a : NfaAcc V) (h : RepAcc g a) (p : LPat V)
    (hsz : g.states.size + p.key.length ≤ 4294967295)
    (hlen : (p.key.map nb).sum = p.blen ∧ p.blen ≤ 4294967295) :
    Agree (fun r a' => RepAcc r.2 a' ∧ r.2.match_kind = g.match_kind ∧
        r.2.states.size ≤ g.states.size + p.key.length)
      (NfaBuilder.add nb g p.key p.value) (a.add (g.match_kind == 2) p) := by
  obtain ⟨pth, hrep, hl, hs, hd, hp1⟩ := h
  have hu : Rs.u32TryFrom p.blen = some p.blen := if_pos hlen.2
  simp only [add_eq, hlen.1, hu]
  unfold NfaAcc.add
  by_cases h0 : p.blen = 0
  · rw [if_pos h0, if_pos h0]; exact rfl
  · rw [if_neg h0, if_neg h0]
    have hloop := loop_refines p.key p.value p.blen p.key a.trie g pth 0 [] hrep hsz
    cases hi : Trie.insert (g.match_kind == 2) (p.value, p.blen) a.trie p.key with
    | dup => rw [hi] at hloop; rw [hloop]; exact rfl
    | shadowed =>
      rw [hi] at hloop
      -- the early return repeats the model's test: registered, or already recorded as shadowed
      rw [hloop, shadowK, Rs.SetL.insert, is_registered_rep g pth p.key a.trie hrep, hs]
      cases hr : a.trie.isRegistered p.key with
      | true => exact rfl
      | false =>
        cases hc : a.shadowed.contains p.key with
        | true => exact rfl
        | false => exact ⟨⟨pth, hrep, hl, rfl, hd, hp1⟩, rfl, Nat.le_add_right _ _⟩
    | ok t' =>
      rw [hi] at hloop
      obtain ⟨g', pth', heq, hrep', hout, hlen', hshd⟩ := hloop
      have hb := loop0_bounds _ _ _ _ _ _ _ _ heq ⟨rfl, Nat.le_refl _⟩
      have hdead := hout 1 _ hd (fun pj e => by rw [hp1] at e; cases e)
      rw [heq]
      exact ⟨⟨pth', hrep', by rw [hlen', hl], by rw [hshd, hs], hdead.1, by rw [hdead.2, hp1]⟩, hb.1, hb.2⟩

theorem add_refines (nb : Nat → Nat) (g : NfaBuilder V) (a : NfaAcc V) (h : RepAcc g a) (p : LPat V)
    (hsz : g.states.size + p.key.length ≤ 4294967295)
    (hlen : (p.key.map nb).sum = p.blen ∧ p.blen ≤ 4294967295) :
    match NfaBuilder.add nb g p.key p.value, a.add (g.match_kind == 2) p with
    | .ok (_, g'), .ok a' => RepAcc g' a' ∧ g'.match_kind = g.match_kind ∧
        g'.states.size ≤ g.states.size + p.key.length
    | .error e, .error e' => e = e'
    | _, _ => False := by
  rcases (add_agree nb g a h p hsz hlen).cases with ⟨e, h1, h2⟩ | ⟨g', a', h1, h2, hr⟩
  · rw [h1, h2]
  · rw [h1, h2]; exact hr

/-- `for (pattern, value) in patvals { nfa.add(pattern, value)?; }` on the generated builder. -/
def addAllGen (nb : Nat → Nat) : NfaBuilder V → List (LPat V) → Except BuildErr (NfaBuilder V)
  | g, [] => .ok g
  | g, p :: ps =>
    match NfaBuilder.add nb g p.key p.value with
    | .error e => .error e
    | .ok (_, g') => addAllGen nb g' ps

theorem addAllGen_ok_induct (nb : Nat → Nat) {I : List (LPat V) → NfaBuilder V → Prop}
    (step : ∀ p ps g pl u g1, NfaBuilder.add.loop0 p.key p.value pl p.key g 0 = .ok (u, g1) →
      I (p :: ps) g → I ps g1)
    (ps : List (LPat V)) (g g' : NfaBuilder V) (h : addAllGen nb g ps = .ok g') (hi : I ps g) : I [] g' := by
  induction ps generalizing g with
  | nil =>
    cases h
    exact hi
  | cons p ps ih =>
    rw [addAllGen] at h
    cases hadd : NfaBuilder.add nb g p.key p.value with
    | error e => rw [hadd] at h; cases h
    | ok r =>
      rw [hadd] at h
      obtain ⟨pl, hl⟩ := add_ok hadd
      exact ih r.2 h (step p ps g pl r.1 r.2 hl hi)

theorem addAllGen_bounds (nb : Nat → Nat) {k N : Nat} (ps : List (LPat V)) (g g' : NfaBuilder V)
    (h : addAllGen nb g ps = .ok g')
    (hi : g.match_kind = k ∧ g.states.size + (ps.map (·.key.length)).sum ≤ N) :
    g'.match_kind = k ∧ g'.states.size ≤ N := by
  refine addAllGen_ok_induct nb
    (I := fun ps g => g.match_kind = k ∧ g.states.size + (ps.map (·.key.length)).sum ≤ N) ?_ ps g g' h hi
  intro p ps g pl u g1 hl hi
  have hb := loop0_bounds _ _ _ _ _ _ _ _ hl ⟨hi.1, Nat.le_refl _⟩
  refine ⟨hb.1, Nat.le_trans (Nat.add_le_add_right hb.2 _) ?_⟩
  rw [Nat.add_assoc]
  exact hi.2

theorem addAll_agree (nb : Nat → Nat) (ps : List (LPat V)) (g : NfaBuilder V) (a : NfaAcc V)
    (h : RepAcc g a) (hsz : g.states.size + (ps.map (·.key.length)).sum ≤ 4294967295)
    (hlen : ∀ p ∈ ps, (p.key.map nb).sum = p.blen ∧ p.blen ≤ 4294967295) :
    Agree RepAcc (addAllGen nb g ps) (a.addAll (g.match_kind == 2) ps) := by
  induction ps generalizing g a with
  | nil => exact h
  | cons p ps ih =>
    rw [List.map_cons, List.sum_cons, ← Nat.add_assoc] at hsz
    rw [addAllGen, NfaAcc.addAll]
    rcases (add_agree nb g a h p (Nat.le_trans (Nat.le_add_right _ _) hsz) (hlen p List.mem_cons_self)).cases
      with ⟨e, h1, h2⟩ | ⟨r, a1, h1, h2, hr, hmk, hsize⟩
    · rw [h1, h2]; exact rfl
    · rw [h1, h2, ← hmk]
      exact ih r.2 a1 hr (Nat.le_trans (Nat.add_le_add_right hsize _) hsz)
        (fun q hq => hlen q (List.mem_cons_of_mem _ hq))

theorem addAll_refines (nb : Nat → Nat) : (ps : List (LPat V)) → (g : NfaBuilder V) → (a : NfaAcc V) →
    RepAcc g a → g.states.size + (ps.map (·.key.length)).sum ≤ 4294967295 →
    (∀ p ∈ ps, (p.key.map nb).sum = p.blen ∧ p.blen ≤ 4294967295) →
    match addAllGen nb g ps, a.addAll (g.match_kind == 2) ps with
    | .ok g', .ok a' => RepAcc g' a' ∧ g'.match_kind = g.match_kind
    | .error e, .error e' => e = e'
    | _, _ => False := by
  intro ps g a h hsz hlen
  rcases (addAll_agree nb ps g a h hsz hlen).cases with ⟨e, h1, h2⟩ | ⟨g', a', h1, h2, hr⟩
  · rw [h1, h2]
  · rw [h1, h2]; exact ⟨hr, (addAllGen_bounds nb ps g g' h1 ⟨rfl, Nat.le_refl _⟩).1⟩

theorem build_agree (nb : Nat → Nat) (kind : Nat) (ps : List (LPat V))
    (hsz : 2 + (ps.map (·.key.length)).sum ≤ 4294967295)
    (hlen : ∀ p ∈ ps, (p.key.map nb).sum = p.blen ∧ p.blen ≤ 4294967295) :
    Agree RepAcc (addAllGen nb (NfaBuilder.new kind) ps) ((NfaAcc.init : NfaAcc V).addAll (kind == 2) ps) :=
  addAll_agree nb ps (NfaBuilder.new kind) NfaAcc.init (new_rep kind) hsz hlen

theorem build_refines (nb : Nat → Nat) (kind : Nat) (ps : List (LPat V))
    (hsz : 2 + (ps.map (·.key.length)).sum ≤ 4294967295)
    (hlen : ∀ p ∈ ps, (p.key.map nb).sum = p.blen ∧ p.blen ≤ 4294967295) :
    match addAllGen nb (NfaBuilder.new kind) ps, (NfaAcc.init : NfaAcc V).addAll (kind == 2) ps with
    | .ok g', .ok a' => RepAcc g' a'
    | .error e, .error e' => e = e'
    | _, _ => False := by
  rcases (build_agree nb kind ps hsz hlen).cases with ⟨e, h1, h2⟩ | ⟨g', a', h1, h2, hr⟩
  · rw [h1, h2]
  · rw [h1, h2]; exact hr

end Daac.Tie.N
