/-
The vocabulary in which `DA.tableInv` (Inv.lean) is read: the residual patterns `resid P u` that
its traversal carries to the node `u`, and the node set `nodeList P` (the prefixes of the
patterns); `resid P u` is non-empty iff `u` is a prefix of a pattern. Core Lean only.
-/
import Daac.Inv
import Daac.Proofs.Lsuf
namespace Daac
variable {V : Type}

def resid (P : List (LPat V)) (u : List Nat) : List (LPat V) := u.foldl stepRes P

theorem mem_stepRes {R : List (LPat V)} {c : Nat} {p : LPat V} :
    p ∈ stepRes R c ↔ ∃ q ∈ R, q.key = c :: p.key ∧ q.blen = p.blen ∧ q.value = p.value := by
  rw [stepRes, List.mem_filterMap]
  refine exists_congr fun q => and_congr_right fun _ => ?_
  obtain ⟨key, blen, value⟩ := q
  obtain ⟨pk, pb, pv⟩ := p
  cases key with
  | nil => exact ⟨(fun h => nomatch h), (fun h => nomatch h.1)⟩
  | cons k ks =>
    by_cases hkc : k = c
    · subst hkc; simp
    · simp [hkc]

theorem stepRes_nil (c : Nat) : stepRes ([] : List (LPat V)) c = [] := rfl

theorem resid_nil_pats (u : List Nat) : resid ([] : List (LPat V)) u = [] := by
  induction u with
  | nil => rfl
  | cons c u ih => simpa [resid, stepRes_nil] using ih

theorem resid_cons (P : List (LPat V)) (c : Nat) (u : List Nat) :
    resid P (c :: u) = resid (stepRes P c) u := rfl

theorem resid_append (P : List (LPat V)) (u w : List Nat) :
    resid P (u ++ w) = resid (resid P u) w := by
  simp [resid, List.foldl_append]

theorem mem_resid {P : List (LPat V)} {u : List Nat} {p : LPat V} :
    p ∈ resid P u ↔ ∃ q ∈ P, q.key = u ++ p.key ∧ q.blen = p.blen ∧ q.value = p.value := by
  induction u generalizing P p with
  | nil =>
    refine ⟨fun h => ⟨p, h, rfl, rfl, rfl⟩, ?_⟩
    rintro ⟨⟨k, b, v⟩, hq, hk, hb, hv⟩
    obtain ⟨pk, pb, pv⟩ := p
    cases hk; cases hb; cases hv
    exact hq
  | cons c u ih =>
    rw [resid_cons, ih]
    constructor
    · rintro ⟨q, hq, hk, hb, hv⟩
      obtain ⟨r, hr, hk', hb', hv'⟩ := mem_stepRes.1 hq
      exact ⟨r, hr, by rw [hk', hk]; rfl, hb'.trans hb, hv'.trans hv⟩
    · rintro ⟨q, hq, hk, hb, hv⟩
      exact ⟨⟨u ++ p.key, p.blen, p.value⟩, mem_stepRes.2 ⟨q, hq, hk, hb, hv⟩, rfl, rfl, rfl⟩

/-- The node set of the automaton: the empty string and all prefixes of patterns. -/
def nodeList (P : List (LPat V)) : List (List Nat) :=
  [] :: P.flatMap (fun p => nprefixes p.key)

theorem mem_nprefixes {α : Type} {l u : List α} : u ∈ nprefixes l ↔ u ≠ [] ∧ u <+: l := by
  induction l generalizing u with
  | nil => simp [nprefixes]
  | cons a l ih =>
    cases u with
    | nil => simp [nprefixes]
    | cons b v =>
      rw [nprefixes, List.mem_cons, List.mem_map, List.cons_prefix_cons]
      constructor
      · rintro (h | ⟨w, hw, h⟩)
        · cases h; exact ⟨List.cons_ne_nil _ _, rfl, List.nil_prefix⟩
        · cases h; exact ⟨List.cons_ne_nil _ _, rfl, (ih.1 hw).2⟩
      · rintro ⟨_, rfl, hv⟩
        cases v with
        | nil => exact Or.inl rfl
        | cons d v => exact Or.inr ⟨_, ih.2 ⟨List.cons_ne_nil _ _, hv⟩, rfl⟩

theorem mem_nodeList {P : List (LPat V)} {u : List Nat} :
    u ∈ nodeList P ↔ u = [] ∨ ∃ p ∈ P, u <+: p.key := by
  simp only [nodeList, List.mem_cons, List.mem_flatMap, mem_nprefixes]
  constructor
  · rintro (h | ⟨p, hp, _, h⟩)
    · exact Or.inl h
    · exact Or.inr ⟨p, hp, h⟩
  · rintro (h | ⟨p, hp, h⟩)
    · exact Or.inl h
    · by_cases hu : u = []
      · exact Or.inl hu
      · exact Or.inr ⟨p, hp, hu, h⟩

theorem resid_ne_nil_iff {P : List (LPat V)} {u : List Nat} :
    resid P u ≠ [] ↔ ∃ p ∈ P, u <+: p.key := by
  constructor
  · intro h
    obtain ⟨p, hp⟩ := List.exists_mem_of_ne_nil _ h
    obtain ⟨q, hq, hk, _, _⟩ := mem_resid.1 hp
    exact ⟨q, hq, ⟨p.key, hk.symm⟩⟩
  · rintro ⟨p, hp, ⟨r, hr⟩⟩
    have : (⟨r, p.blen, p.value⟩ : LPat V) ∈ resid P u := mem_resid.2 ⟨p, hp, hr.symm, rfl, rfl⟩
    exact List.ne_nil_of_mem this

theorem nodeList_prefClosed (P : List (LPat V)) : PrefClosed (nodeList P) where
  nil_mem := by simp [nodeList]
  closed := by
    intro u c h
    rcases mem_nodeList.1 h with h | ⟨p, hp, hpre⟩
    · simp at h
    · exact mem_nodeList.2 (Or.inr ⟨p, hp, (List.prefix_append u [c]).trans hpre⟩)

theorem lsuf_mem_nodeList (P : List (LPat V)) (x : List Nat) : lsuf (nodeList P) x ∈ nodeList P :=
  (lsuf_spec (nodeList_prefClosed P).nil_mem x).2.1

theorem lpat_eq_of_key_eq {P : List (LPat V)} (hnd : (P.map (·.key)).Nodup) {p q : LPat V}
    (hp : p ∈ P) (hq : q ∈ P) (hk : p.key = q.key) : p = q := by
  induction P with
  | nil => exact absurd hp List.not_mem_nil
  | cons a P ih =>
    simp only [List.map_cons, List.nodup_cons, List.mem_map, not_exists, not_and] at hnd
    rcases List.mem_cons.mp hp with rfl | hp' <;> rcases List.mem_cons.mp hq with rfl | hq'
    · rfl
    · exact absurd hk.symm (hnd.1 q hq')
    · exact absurd hk (hnd.1 p hp')
    · exact ih hnd.2 hp' hq'

end Daac
