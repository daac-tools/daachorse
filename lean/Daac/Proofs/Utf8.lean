/-
UTF-8: reference encoder (specification), correctness of the hand-written decoder model
`decodeNext` on valid UTF-8, whole-string decoding, character boundaries and
self-synchronisation.
-/
import Daac.Model.Search
namespace Daac

def utf8Width (c : Nat) : Nat :=
  if c < 0x80 then 1 else if c < 0x800 then 2 else if c < 0x10000 then 3 else 4

def encScalar (c : Nat) : List Nat :=
  if c < 0x80 then [c]
  else if c < 0x800 then [0xC0 + c / 64, 0x80 + c % 64]
  else if c < 0x10000 then [0xE0 + c / 4096, 0x80 + (c / 64) % 64, 0x80 + c % 64]
  else [0xF0 + c / 262144, 0x80 + (c / 4096) % 64, 0x80 + (c / 64) % 64, 0x80 + c % 64]

def encAll (cs : List Nat) : List Nat := cs.flatMap encScalar

def ValidUtf8 (bs : List Nat) : Prop :=
  ∃ cs, (∀ c ∈ cs, isScalar c = true) ∧ bs = encAll cs

/-- A continuation byte `10xxxxxx`. -/
def isCont (b : Nat) : Prop := 0x80 ≤ b ∧ b < 0xC0

theorem isScalar_iff (c : Nat) :
    isScalar c = true ↔ c < 0xD800 ∨ (0xE000 ≤ c ∧ c < 0x110000) := by
  simp [isScalar]

theorem isScalar_lt {c : Nat} (hc : isScalar c = true) : c < 0x110000 := by
  rcases (isScalar_iff c).1 hc with h | h
  · exact Nat.lt_trans h (by decide)
  · exact h.2

@[simp] theorem encAll_nil : encAll [] = [] := rfl
@[simp] theorem encAll_cons (c : Nat) (cs : List Nat) :
    encAll (c :: cs) = encScalar c ++ encAll cs := List.flatMap_cons
@[simp] theorem encAll_append (a b : List Nat) : encAll (a ++ b) = encAll a ++ encAll b :=
  List.flatMap_append

theorem encScalar_cases (c : Nat) :
    (c < 0x80 ∧ utf8Width c = 1 ∧ encScalar c = [c]) ∨
    (0x80 ≤ c ∧ c < 0x800 ∧ utf8Width c = 2 ∧
      encScalar c = [0xC0 + c / 64, 0x80 + c % 64]) ∨
    (0x800 ≤ c ∧ c < 0x10000 ∧ utf8Width c = 3 ∧
      encScalar c = [0xE0 + c / 4096, 0x80 + (c / 64) % 64, 0x80 + c % 64]) ∨
    (0x10000 ≤ c ∧ utf8Width c = 4 ∧
      encScalar c = [0xF0 + c / 262144, 0x80 + (c / 4096) % 64, 0x80 + (c / 64) % 64,
        0x80 + c % 64]) := by
  unfold utf8Width encScalar
  by_cases h1 : c < 0x80
  · exact .inl ⟨h1, if_pos h1, if_pos h1⟩
  rw [if_neg h1, if_neg h1]
  by_cases h2 : c < 0x800
  · exact .inr (.inl ⟨Nat.le_of_not_lt h1, h2, if_pos h2, if_pos h2⟩)
  rw [if_neg h2, if_neg h2]
  by_cases h3 : c < 0x10000
  · exact .inr (.inr (.inl ⟨Nat.le_of_not_lt h2, h3, if_pos h3, if_pos h3⟩))
  · exact .inr (.inr (.inr ⟨Nat.le_of_not_lt h3, if_neg h3, if_neg h3⟩))

theorem encScalar_length (c : Nat) : (encScalar c).length = utf8Width c := by
  rcases encScalar_cases c with ⟨-, hw, e⟩ | ⟨-, -, hw, e⟩ | ⟨-, -, hw, e⟩ | ⟨-, hw, e⟩ <;>
    rw [hw, e] <;> rfl

theorem utf8Width_le (c : Nat) : utf8Width c ≤ 4 := by
  unfold utf8Width
  repeat' split
  all_goals decide

theorem isCont_digit (x : Nat) : isCont (0x80 + x % 64) :=
  ⟨Nat.le_add_right _ _, Nat.add_lt_add_left (Nat.mod_lt x (by decide)) 0x80⟩

theorem not_isCont_of_le {b : Nat} (h : 0xC0 ≤ b) : ¬ isCont b :=
  fun hb => Nat.not_lt.2 h hb.2

theorem encScalar_shape (c : Nat) :
    ∃ b r, encScalar c = b :: r ∧ ¬ isCont b ∧ ∀ x ∈ r, isCont x := by
  rcases encScalar_cases c with ⟨h, -, e⟩ | ⟨-, -, -, e⟩ | ⟨-, -, -, e⟩ | ⟨-, -, e⟩
  · exact ⟨_, _, e, fun hb => Nat.not_lt.2 hb.1 h, nofun⟩
  · exact ⟨_, _, e, not_isCont_of_le (Nat.le_add_right _ _), by simp [isCont_digit]⟩
  · exact ⟨_, _, e, not_isCont_of_le (Nat.le_add_right_of_le (by decide)), by simp [isCont_digit]⟩
  · exact ⟨_, _, e, not_isCont_of_le (Nat.le_add_right_of_le (by decide)), by simp [isCont_digit]⟩

theorem encScalar_ne_nil (c : Nat) : encScalar c ≠ [] := by
  obtain ⟨b, r, e, -⟩ := encScalar_shape c
  rw [e]
  exact List.cons_ne_nil b r

theorem utf8Width_pos (c : Nat) : 1 ≤ utf8Width c := by
  rw [← encScalar_length]
  exact List.length_pos_iff.2 (encScalar_ne_nil c)

/-- A lead byte: a tag plus the high digit `c / d`, which the range of `c` bounds. -/
theorem lead_lt {c d k tag : Nat} (h : c < d * k) (ht : tag + k ≤ 256) : tag + c / d < 256 :=
  Nat.lt_of_lt_of_le (Nat.add_lt_add_left (Nat.div_lt_of_lt_mul h) tag) ht

theorem encScalar_byte_lt (c : Nat) (hc : isScalar c = true) :
    ∀ b ∈ encScalar c, b < 256 := by
  have cont (x : Nat) : 0x80 + x % 64 < 256 := Nat.lt_trans (isCont_digit x).2 (by decide)
  rcases encScalar_cases c with ⟨h, -, e⟩ | ⟨-, h, -, e⟩ | ⟨-, h, -, e⟩ | ⟨-, -, e⟩ <;>
    simp only [e, List.mem_cons, List.mem_nil_iff, or_false, forall_eq_or_imp, forall_eq, cont,
      and_true]
  · exact Nat.lt_trans h (by decide)
  · exact lead_lt (k := 32) h (by decide)
  · exact lead_lt (k := 16) h (by decide)
  · exact lead_lt (k := 8) (Nat.lt_trans (isScalar_lt hc) (by decide)) (by decide)

theorem encAll_length_cons (c : Nat) (cs : List Nat) :
    (encAll (c :: cs)).length = utf8Width c + (encAll cs).length := by
  rw [encAll_cons, List.length_append, encScalar_length]

/-- Appending the six payload bits of a continuation byte. -/
theorem push_cont (a b : Nat) : a <<< 6 ||| (b &&& 0x3f) = a * 64 + b % 64 := by
  rw [Nat.and_two_pow_sub_one_eq_mod b 6,
    ← Nat.shiftLeft_add_eq_or_of_lt (Nat.mod_lt b (by decide)), Nat.shiftLeft_eq]

/-- The decoder shifts the lead bits over the accumulated continuation bits; that is the same as
accumulating from the left. -/
theorem shl_or_push (f k c r : Nat) :
    f <<< (k + 6) ||| (c <<< 6 ||| r) = (f <<< k ||| c) <<< 6 ||| r := by
  rw [Nat.shiftLeft_or_distrib, ← Nat.shiftLeft_add, Nat.or_assoc]

/-- Code point assembled from a 2-byte sequence, as arithmetic. -/
theorem cp2_eq (b0 b1 : Nat) :
    ((b0 &&& 0x1f) <<< 6) ||| (b1 &&& 0x3f) = b0 % 32 * 64 + b1 % 64 := by
  rw [push_cont, Nat.and_two_pow_sub_one_eq_mod b0 5]

theorem cp3_eq (b0 b1 b2 : Nat) :
    ((b0 &&& 0x0f) <<< 12) ||| (((b1 &&& 0x3f) <<< 6) ||| (b2 &&& 0x3f))
      = (b0 % 16 * 64 + b1 % 64) * 64 + b2 % 64 := by
  rw [shl_or_push _ 6, push_cont, push_cont, Nat.and_two_pow_sub_one_eq_mod b0 4]

theorem cp4_eq (b0 b1 b2 b3 : Nat) :
    ((b0 &&& 0x07) <<< 18) |||
        (((((b1 &&& 0x3f) <<< 6) ||| (b2 &&& 0x3f)) <<< 6) ||| (b3 &&& 0x3f))
      = ((b0 % 8 * 64 + b1 % 64) * 64 + b2 % 64) * 64 + b3 % 64 := by
  rw [shl_or_push _ 12, shl_or_push _ 6, push_cont, push_cont, push_cont,
    Nat.and_two_pow_sub_one_eq_mod b0 3]

@[simp] theorem decodeNext_nil (p : Nat) : decodeNext ⟨[], p⟩ = .ok none := rfl

theorem decodeNext_1 (b0 : Nat) (r : List Nat) (p : Nat) (h : b0 < 0x80) :
    decodeNext ⟨b0 :: r, p⟩ = .ok (some (⟨b0, p + 1⟩, ⟨r, p + 1⟩)) := by
  simp only [decodeNext, Src.pull, h, if_true]

theorem decodeNext_2 (b0 b1 : Nat) (r : List Nat) (p : Nat) (h0 : 0x80 ≤ b0) (h1 : b0 < 0xe0) :
    decodeNext ⟨b0 :: b1 :: r, p⟩ =
      if isScalar (b0 % 32 * 64 + b1 % 64) then
        .ok (some (⟨b0 % 32 * 64 + b1 % 64, p + 2⟩, ⟨r, p + 2⟩))
      else .error .invalidScalar := by
  simp only [decodeNext, Src.pull, Nat.not_lt.2 h0, h1, if_true, if_false, cp2_eq]

theorem decodeNext_3 (b0 b1 b2 : Nat) (r : List Nat) (p : Nat) (h0 : 0xe0 ≤ b0) (h1 : b0 < 0xf0) :
    decodeNext ⟨b0 :: b1 :: b2 :: r, p⟩ =
      if isScalar ((b0 % 16 * 64 + b1 % 64) * 64 + b2 % 64) then
        .ok (some (⟨(b0 % 16 * 64 + b1 % 64) * 64 + b2 % 64, p + 3⟩, ⟨r, p + 3⟩))
      else .error .invalidScalar := by
  have h0' : ¬ b0 < 0x80 := Nat.not_lt.2 (Nat.le_trans (by decide) h0)
  simp only [decodeNext, Src.pull, h0', Nat.not_lt.2 h0, h1, if_true, if_false, cp3_eq]

theorem decodeNext_4 (b0 b1 b2 b3 : Nat) (r : List Nat) (p : Nat) (h0 : 0xf0 ≤ b0) :
    decodeNext ⟨b0 :: b1 :: b2 :: b3 :: r, p⟩ =
      if isScalar (((b0 % 8 * 64 + b1 % 64) * 64 + b2 % 64) * 64 + b3 % 64) then
        .ok (some (⟨((b0 % 8 * 64 + b1 % 64) * 64 + b2 % 64) * 64 + b3 % 64, p + 4⟩, ⟨r, p + 4⟩))
      else .error .invalidScalar := by
  have h0' : ¬ b0 < 0x80 := Nat.not_lt.2 (Nat.le_trans (by decide) h0)
  have h0'' : ¬ b0 < 0xe0 := Nat.not_lt.2 (Nat.le_trans (by decide) h0)
  simp only [decodeNext, Src.pull, h0', h0'', Nat.not_lt.2 h0, if_false, cp4_eq]

/-- A tag `m * k` in the high bits does not disturb a payload below `m`. -/
theorem tag_mod {m q : Nat} (k : Nat) (h : q < m) : (m * k + q) % m = q := by
  rw [Nat.mul_add_mod, Nat.mod_eq_of_lt h]

theorem cont_mod (x : Nat) : (0x80 + x % 64) % 64 = x % 64 :=
  tag_mod 2 (Nat.mod_lt x (show 0 < 64 by decide))

/-- The decoder inverts the reference encoder, consuming exactly `utf8Width c` bytes, and never
faults. In each width the lead byte gives back the high base-64 digit of `c`, each continuation
byte the next digit, and `Nat.div_add_mod'` puts the digits together again. -/
theorem decodeNext_encScalar (c : Nat) (hc : isScalar c = true) (r : List Nat) (p : Nat) :
    decodeNext ⟨encScalar c ++ r, p⟩
      = .ok (some (⟨c, p + utf8Width c⟩, ⟨r, p + utf8Width c⟩)) := by
  rcases encScalar_cases c with ⟨h, hw, he⟩ | ⟨-, h, hw, he⟩ | ⟨-, h, hw, he⟩ | ⟨-, hw, he⟩
  · rw [he, hw]; exact decodeNext_1 c r p h
  · have hq : c / 64 < 32 := Nat.div_lt_of_lt_mul h
    rw [he, hw]
    show decodeNext ⟨_ :: _ :: r, p⟩ = _
    rw [decodeNext_2 _ _ r p (Nat.le_add_right_of_le (by decide)) (Nat.add_lt_add_left hq 0xC0),
      tag_mod 6 hq, cont_mod, Nat.div_add_mod', if_pos hc]
  · have hq : c / 4096 < 16 := Nat.div_lt_of_lt_mul h
    rw [he, hw]
    show decodeNext ⟨_ :: _ :: _ :: r, p⟩ = _
    rw [decodeNext_3 _ _ _ r p (Nat.le_add_right _ _) (Nat.add_lt_add_left hq 0xE0),
      tag_mod 14 hq, cont_mod, cont_mod, ← Nat.div_div_eq_div_mul c 64 64, Nat.div_add_mod',
      Nat.div_add_mod', if_pos hc]
  · have hq : c / 262144 < 8 := Nat.div_lt_of_lt_mul (Nat.lt_trans (isScalar_lt hc) (by decide))
    rw [he, hw]
    show decodeNext ⟨_ :: _ :: _ :: _ :: r, p⟩ = _
    rw [decodeNext_4 _ _ _ _ r p (Nat.le_add_right _ _), tag_mod 30 hq, cont_mod, cont_mod,
      cont_mod, ← Nat.div_div_eq_div_mul c 4096 64, ← Nat.div_div_eq_div_mul c 64 64,
      Nat.div_add_mod', Nat.div_add_mod', Nat.div_add_mod', if_pos hc]

/-- The encoder is a prefix code, because the decoder reads back exactly one encoding. -/
theorem encScalar_append_inj (a c : Nat) (ha : isScalar a = true) (hc : isScalar c = true)
    (x y : List Nat) (h : encScalar a ++ x = encScalar c ++ y) : a = c ∧ x = y := by
  have h1 := decodeNext_encScalar a ha x 0
  rw [h, decodeNext_encScalar c hc y 0] at h1
  simp only [Except.ok.injEq, Option.some.injEq, Prod.mk.injEq, Item.mk.injEq, Src.mk.injEq] at h1
  exact ⟨h1.1.1.symm, h1.2.1.symm⟩

/-- The expected items of the text `cs` starting at byte offset `p`. -/
def itemsOf : List Nat → Nat → List WItem
  | [], _ => []
  | c :: cs, p => ⟨c, utf8Width c, p + utf8Width c⟩ :: itemsOf cs (p + utf8Width c)

@[simp] theorem itemsOf_nil (p : Nat) : itemsOf [] p = [] := rfl
@[simp] theorem itemsOf_cons (c : Nat) (cs : List Nat) (p : Nat) :
    itemsOf (c :: cs) p = ⟨c, utf8Width c, p + utf8Width c⟩ :: itemsOf cs (p + utf8Width c) := rfl

theorem allItems_encAll (cs : List Nat) (h : ∀ c ∈ cs, isScalar c = true) (p : Nat) (fuel : Nat)
    (hf : (encAll cs).length + 1 ≤ fuel) :
    allItems .charwise fuel ⟨encAll cs, p⟩ = .ok (itemsOf cs p) := by
  induction cs generalizing p fuel with
  | nil =>
    cases fuel with
    | zero => exact absurd hf (Nat.not_succ_le_zero _)
    | succ fuel => rfl
  | cons c cs ih =>
    cases fuel with
    | zero => exact absurd hf (Nat.not_succ_le_zero _)
    | succ fuel =>
      rw [encAll_length_cons] at hf
      have hlen : (encAll cs).length + 1 ≤ utf8Width c + (encAll cs).length := by
        rw [Nat.add_comm]; exact Nat.add_le_add_right (utf8Width_pos c) _
      have := ih (fun d hd => h d (List.mem_cons_of_mem _ hd)) (p + utf8Width c) fuel
        (Nat.le_trans hlen (Nat.le_of_succ_le_succ hf))
      simp only [allItems, nextItem, encAll_cons, decodeNext_encScalar c (h c List.mem_cons_self),
        this, itemsOf_cons, Nat.add_sub_cancel_left]

theorem mem_itemsOf (cs : List Nat) (p : Nat) (it : WItem) (h : it ∈ itemsOf cs p) :
    ∃ t1 t2, cs = t1 ++ it.label :: t2 ∧ it.width = utf8Width it.label ∧
      it.stop = p + (encAll (t1 ++ [it.label])).length ∧ itemsOf t2 it.stop <:+ itemsOf cs p := by
  induction cs generalizing p with
  | nil => cases h
  | cons c cs ih =>
    rw [itemsOf_cons, List.mem_cons] at h
    rcases h with rfl | h
    · exact ⟨[], cs, rfl, rfl, by simp [encScalar_length], List.suffix_cons _ _⟩
    · obtain ⟨t1, t2, e, hw, hs, hsuf⟩ := ih _ h
      refine ⟨c :: t1, t2, by rw [e]; rfl, hw, ?_, hsuf.trans (List.suffix_cons _ _)⟩
      rw [hs, List.cons_append, encAll_length_cons, Nat.add_assoc]

theorem itemsOf_bounds (cs : List Nat) (p : Nat) (it : WItem) (h : it ∈ itemsOf cs p) :
    it.label ∈ cs ∧ it.width = utf8Width it.label ∧ p + it.width ≤ it.stop ∧
      it.stop ≤ p + (encAll cs).length := by
  obtain ⟨t1, t2, e, hw, hs, -⟩ := mem_itemsOf cs p it h
  refine ⟨by simp [e], hw, ?_, ?_⟩
  · rw [hs, hw]; simp [encScalar_length]
  · rw [hs, e]; simp

theorem itemsOf_pairwise (cs : List Nat) (p : Nat) :
    (itemsOf cs p).Pairwise (fun a b => a.stop < b.stop) := by
  induction cs generalizing p with
  | nil => exact .nil
  | cons c cs ih =>
    refine List.pairwise_cons.2 ⟨fun b hb => ?_, ih _⟩
    obtain ⟨-, hw, hs, -⟩ := itemsOf_bounds cs _ b hb
    have := utf8Width_pos b.label
    show p + utf8Width c < b.stop
    omega

theorem itemsOf_getLast (cs : List Nat) (p : Nat) (it : WItem)
    (h : (itemsOf cs p).getLast? = some it) : it.stop = p + (encAll cs).length := by
  induction cs generalizing p with
  | nil => simp at h
  | cons c cs ih =>
    cases cs with
    | nil =>
      simp at h; subst h; simp [encScalar_length]
    | cons d ds =>
      rw [itemsOf_cons, itemsOf_cons, List.getLast?_cons_cons, ← itemsOf_cons] at h
      rw [ih _ h, encAll_length_cons c, Nat.add_assoc]

theorem itemsOf_length (cs : List Nat) (p : Nat) : (itemsOf cs p).length = cs.length := by
  induction cs generalizing p with
  | nil => rfl
  | cons c cs ih => simp [ih]

theorem itemsOf_labels (cs : List Nat) (p : Nat) : (itemsOf cs p).map (·.label) = cs := by
  induction cs generalizing p with
  | nil => rfl
  | cons c cs ih => simp [ih]

/-- **No fault on valid UTF-8**: the char-wise decoder decodes every valid UTF-8 byte string
without `truncatedUtf8` / `invalidScalar`, every label is a scalar value, every end offset is
inside the haystack, the last end offset is the length, end offsets strictly increase. -/
theorem decode_valid_no_fault (bs : List Nat) (hv : ValidUtf8 bs) :
    ∃ items, allItems .charwise (bs.length + 1) ⟨bs, 0⟩ = .ok items ∧
      (∀ it ∈ items, isScalar it.label = true ∧ it.width = utf8Width it.label ∧
        it.width ≤ it.stop ∧ it.stop ≤ bs.length) ∧
      (∀ it, items.getLast? = some it → it.stop = bs.length) ∧
      items.Pairwise (fun a b => a.stop < b.stop) ∧
      encAll (items.map (·.label)) = bs := by
  obtain ⟨cs, hcs, rfl⟩ := hv
  refine ⟨itemsOf cs 0, allItems_encAll cs hcs 0 _ (Nat.le_refl _), ?_, ?_, itemsOf_pairwise cs 0,
    by rw [itemsOf_labels]⟩
  · intro it hit
    have := itemsOf_bounds cs 0 it hit
    rw [Nat.zero_add, Nat.zero_add] at this
    exact ⟨hcs _ this.1, this.2⟩
  · intro it hit
    rw [itemsOf_getLast cs 0 it hit, Nat.zero_add]

/-- The expected items of the byte-wise iterators. -/
def byteItems (bs : List Nat) (p : Nat) : List WItem :=
  (bs.zipIdx p).map (fun x => ⟨x.1, 1, x.2 + 1⟩)

theorem allItems_bytewise (bs : List Nat) (p : Nat) (fuel : Nat) (hf : bs.length + 1 ≤ fuel) :
    allItems .bytewise fuel ⟨bs, p⟩ = .ok (byteItems bs p) := by
  induction bs generalizing p fuel with
  | nil =>
    cases fuel with
    | zero => exact absurd hf (Nat.not_succ_le_zero _)
    | succ fuel => rfl
  | cons b bs ih =>
    cases fuel with
    | zero => exact absurd hf (Nat.not_succ_le_zero _)
    | succ fuel =>
      have := ih (p + 1) fuel (Nat.le_of_succ_le_succ hf)
      simp only [allItems, nextItem, Src.pull, this]
      simp [byteItems, List.zipIdx_cons]

theorem isBoundary_of_not_cont (x : List Nat) (b : Nat) (y : List Nat) (hb : ¬ isCont b) :
    isBoundary (x ++ b :: y) x.length = true := by
  unfold isBoundary
  rw [List.getElem?_append_right (Nat.le_refl _), Nat.sub_self, List.getElem?_cons_zero]
  simp only [Bool.or_eq_true, Bool.not_eq_true', Bool.and_eq_false_iff, decide_eq_false_iff_not]
  exact .inr (Decidable.not_and_iff_not_or_not.1 hb)

theorem isBoundary_encAll (t1 t2 : List Nat) :
    isBoundary (encAll (t1 ++ t2)) (encAll t1).length = true := by
  cases t2 with
  | nil => simp [isBoundary]
  | cons c t2 =>
    obtain ⟨b, r, e, hb, -⟩ := encScalar_shape c
    rw [encAll_append, encAll_cons, e]
    exact isBoundary_of_not_cont _ b _ hb

/-- At a character boundary the slice `get_unchecked(pos..)` is safe and decodes exactly the
remaining characters. -/
theorem lmItems_encAll (t1 t2 : List Nat) (h : ∀ c ∈ t2, isScalar c = true) :
    lmItems .charwise (encAll (t1 ++ t2)) (encAll t1).length
      = .ok (itemsOf t2 (encAll t1).length) := by
  unfold lmItems
  simp only [isBoundary_encAll, if_true]
  rw [encAll_append, List.drop_left]
  exact allItems_encAll t2 h _ _ (Nat.le_refl _)

/-- Every end offset of an item (and `0`) is a boundary from which the leftmost iterator can
resume, yielding exactly the items that follow. -/
theorem lmItems_at_stop (cs : List Nat) (h : ∀ c ∈ cs, isScalar c = true) (it : WItem)
    (hit : it ∈ itemsOf cs 0) :
    isBoundary (encAll cs) it.stop = true ∧
    ∃ t2, itemsOf t2 it.stop <:+ itemsOf cs 0 ∧
      lmItems .charwise (encAll cs) it.stop = .ok (itemsOf t2 it.stop) := by
  obtain ⟨t1, t2, e, -, hs, hsuf⟩ := mem_itemsOf cs 0 it hit
  rw [Nat.zero_add] at hs
  have e' : cs = (t1 ++ [it.label]) ++ t2 := by rw [e, List.append_assoc]; rfl
  have h2 : ∀ c ∈ t2, isScalar c = true := fun c hc => h c (by rw [e]; simp [hc])
  refine ⟨?_, t2, hsuf, ?_⟩
  · rw [hs, e']; exact isBoundary_encAll _ _
  · rw [hs, e']; exact lmItems_encAll _ _ h2

theorem lmItems_at_zero (cs : List Nat) (h : ∀ c ∈ cs, isScalar c = true) :
    isBoundary (encAll cs) 0 = true ∧ lmItems .charwise (encAll cs) 0 = .ok (itemsOf cs 0) :=
  ⟨isBoundary_encAll [] cs, lmItems_encAll [] cs h⟩

theorem encAll_prefix (p t : List Nat) (hp : ∀ c ∈ p, isScalar c = true)
    (ht : ∀ c ∈ t, isScalar c = true) (h : encAll p <+: encAll t) : p <+: t := by
  induction p generalizing t with
  | nil => exact List.nil_prefix
  | cons a p ih =>
    obtain ⟨z, hz⟩ := h
    cases t with
    | nil =>
      rw [encAll_cons, encAll_nil, List.append_assoc] at hz
      exact absurd (List.append_eq_nil_iff.1 hz).1 (encScalar_ne_nil a)
    | cons c t =>
      rw [encAll_cons, encAll_cons, List.append_assoc] at hz
      obtain ⟨rfl, e⟩ := encScalar_append_inj a c (hp a List.mem_cons_self)
        (ht c List.mem_cons_self) _ _ hz
      rw [List.cons_prefix_cons]
      exact ⟨rfl, ih t (fun d hd => hp d (List.mem_cons_of_mem _ hd))
        (fun d hd => ht d (List.mem_cons_of_mem _ hd)) ⟨z, e⟩⟩

/-- Self-synchronisation: an occurrence of the encoding of a non-empty text `p` inside the
encoding of `t` starts at a character boundary of `t` and is an occurrence of `p` in `t`. -/
theorem self_sync (p t : List Nat) (hp : ∀ c ∈ p, isScalar c = true)
    (ht : ∀ c ∈ t, isScalar c = true) (hne : p ≠ []) (s : Nat)
    (h : encAll p <+: (encAll t).drop s) :
    ∃ t1 t2, t = t1 ++ t2 ∧ (encAll t1).length = s ∧ p <+: t2 := by
  obtain ⟨a, p', rfl⟩ := List.exists_cons_of_ne_nil hne
  induction t generalizing s with
  | nil =>
    obtain ⟨z, hz⟩ := h
    rw [encAll_nil, List.drop_nil, encAll_cons, List.append_assoc] at hz
    exact absurd (List.append_eq_nil_iff.1 hz).1 (encScalar_ne_nil a)
  | cons c t ih =>
    by_cases hs0 : s = 0
    · subst hs0
      exact ⟨[], c :: t, rfl, rfl, encAll_prefix _ _ hp ht h⟩
    by_cases hsw : s < utf8Width c
    · -- the occurrence would start with a continuation byte of `c`, and `a` does not
      exfalso
      obtain ⟨b0, r0, e0, -, hr0⟩ := encScalar_shape c
      obtain ⟨b', r', eb', hb', -⟩ := encScalar_shape a
      obtain ⟨s', rfl⟩ := Nat.exists_eq_add_one_of_ne_zero hs0
      rw [← encScalar_length, e0] at hsw
      have hs' : s' < r0.length := Nat.lt_of_succ_lt_succ hsw
      rw [encAll_cons, encAll_cons, e0, eb', List.cons_append, List.cons_append, List.drop_succ_cons,
        List.drop_append_of_le_length (Nat.le_of_lt hs'), List.drop_eq_getElem_cons hs'] at h
      simp only [List.cons_append, List.cons_prefix_cons] at h
      exact hb' (h.1 ▸ hr0 _ (List.getElem_mem hs'))
    · have hsw := Nat.le_of_not_lt hsw
      rw [encAll_cons c t, List.drop_append, encScalar_length,
        List.drop_eq_nil_of_le (by rw [encScalar_length]; exact hsw), List.nil_append] at h
      obtain ⟨t1, t2, e1, e2, e3⟩ := ih (fun d hd => ht d (List.mem_cons_of_mem _ hd)) _ h
      exact ⟨c :: t1, t2, by rw [e1]; rfl,
        by rw [encAll_length_cons, e2, Nat.add_sub_cancel' hsw], e3⟩

theorem self_sync_boundary (p t : List Nat) (hp : ∀ c ∈ p, isScalar c = true)
    (ht : ∀ c ∈ t, isScalar c = true) (hne : p ≠ []) (s : Nat)
    (h : encAll p <+: (encAll t).drop s) : isBoundary (encAll t) s = true := by
  obtain ⟨t1, t2, rfl, rfl, -⟩ := self_sync p t hp ht hne s h
  exact isBoundary_encAll t1 t2

end Daac
