/-
Suffix toolkit: `lsuf N h` (longest suffix of `h` in `N`) and the combinatorial facts the
Aho-Corasick automaton rests on. Core Lean only.
-/
import Daac.Basic
namespace Daac
variable {α : Type} [DecidableEq α]

theorem mem_sufs {s l : List α} : s ∈ sufs l ↔ s <:+ l := by
  induction l with
  | nil => rw [sufs, List.mem_singleton, List.suffix_nil]
  | cons a l ih => rw [sufs, List.mem_cons, ih, List.suffix_cons_iff]

structure PrefClosed (N : List (List α)) : Prop where
  nil_mem : [] ∈ N
  closed : ∀ u c, u ++ [c] ∈ N → u ∈ N

theorem sufs_sorted (l : List α) : (sufs l).Pairwise (fun a b => b.length < a.length) := by
  induction l with
  | nil => exact List.pairwise_singleton _ _
  | cons a l ih => exact .cons (fun s hs => Nat.lt_succ_of_le (mem_sufs.1 hs).length_le) ih

theorem lsuf_spec {N : List (List α)} (hN : [] ∈ N) (h : List α) :
    lsuf N h <:+ h ∧ lsuf N h ∈ N ∧ ∀ t, t <:+ h → t ∈ N → t.length ≤ (lsuf N h).length := by
  rw [lsuf]
  cases hf : (sufs h).find? (fun s => decide (s ∈ N)) with
  | none => exact absurd (decide_eq_true hN) (List.find?_eq_none.1 hf [] (mem_sufs.2 List.nil_suffix))
  | some s =>
    -- `sufs h = as ++ s :: bs` with nothing of `as` in `N`, and everything in `bs` shorter than `s`
    obtain ⟨hs, as, bs, hab, hall⟩ := List.find?_eq_some_iff_append.1 hf
    refine ⟨mem_sufs.1 (List.mem_of_find?_eq_some hf), of_decide_eq_true hs, fun t ht htN => ?_⟩
    have hsorted := hab ▸ sufs_sorted h
    rcases List.mem_append.1 (hab ▸ mem_sufs.2 ht) with h1 | h1
    · have := hall t h1
      rw [decide_eq_true htN] at this
      cases this
    · rcases List.mem_cons.1 h1 with rfl | h2
      · exact Nat.le_refl _
      · exact Nat.le_of_lt ((List.pairwise_cons.1 (List.pairwise_append.1 hsorted).2.1).1 t h2)

theorem lsuf_unique {N : List (List α)} {h s : List α} (hN : [] ∈ N)
    (h1 : s <:+ h) (h2 : s ∈ N) (h3 : ∀ t, t <:+ h → t ∈ N → t.length ≤ s.length) :
    lsuf N h = s := by
  obtain ⟨a, b, c⟩ := lsuf_spec hN h
  have l1 := h3 _ a b
  exact (List.suffix_of_suffix_length_le a h1 l1).eq_of_length (Nat.le_antisymm l1 (c _ h1 h2))

/-- The one combinatorial fact the standard automaton rests on. -/
theorem lsuf_step {N : List (List α)} (hN : PrefClosed N) (h : List α) (c : α) :
    lsuf N (lsuf N h ++ [c]) = lsuf N (h ++ [c]) := by
  obtain ⟨a, b, m⟩ := lsuf_spec hN.nil_mem h
  obtain ⟨a', b', m'⟩ := lsuf_spec hN.nil_mem (h ++ [c])
  apply lsuf_unique hN.nil_mem
  · -- `lsuf N (h ++ [c])` is `[]` or `t ++ [c]` with `t` a suffix of `h` in `N`, so of `lsuf N h`
    rcases List.suffix_concat_iff.1 a' with h0 | ⟨t, ht, hts⟩
    · rw [h0]; exact List.nil_suffix
    · rw [ht]
      have htN : t ∈ N := hN.closed t c (ht ▸ b')
      exact List.suffix_append_self_iff.2 (List.suffix_of_suffix_length_le hts a (m t hts htN))
  · exact b'
  · exact fun t ht htN => m' t (ht.trans (List.suffix_append_self_iff.2 a)) htN

theorem lsuf_mem_self {N : List (List α)} {h : List α} (hm : h ∈ N) (hN : [] ∈ N) : lsuf N h = h := by
  apply lsuf_unique hN (List.suffix_refl _) hm
  intro t ht _; exact ht.length_le

theorem lsuf_nil {N : List (List α)} : lsuf N ([] : List α) = [] := by
  rw [lsuf, sufs, List.find?_cons]
  split <;> rfl

theorem suffix_tail_of_ne {t u : List α} (h : t <:+ u) (hne : t ≠ u) : t <:+ u.tail := by
  cases u with
  | nil => exact absurd (List.suffix_nil.1 h) hne
  | cons a u => exact (List.suffix_cons_iff.1 h).resolve_left hne

/-- The fail-link step: when `u ++ [c]` is not a node, the longest suffix of `u ++ [c]` in `N`
is found below the longest proper suffix of `u`. -/
theorem lsuf_fail {N : List (List α)} (hN : PrefClosed N) (u : List α) (c : α)
    (hu : u ≠ []) (hnot : u ++ [c] ∉ N) :
    lsuf N (u ++ [c]) = lsuf N (lps N u ++ [c]) := by
  obtain ⟨a', b', m'⟩ := lsuf_spec hN.nil_mem (u ++ [c])
  obtain ⟨x, u, rfl⟩ := List.exists_cons_of_ne_nil hu
  -- not being a node, `lsuf N (x :: u ++ [c])` is a proper suffix, i.e. a suffix of `u ++ [c]`
  have h1 : lsuf N (x :: u ++ [c]) <:+ u ++ [c] := suffix_tail_of_ne a' fun e => hnot (e ▸ b')
  have h2 : lsuf N (u ++ [c]) = lsuf N (x :: u ++ [c]) :=
    lsuf_unique hN.nil_mem h1 b' fun t ht htN => m' t (ht.trans (List.suffix_cons x _)) htN
  rw [← h2, lps, List.tail_cons, lsuf_step hN]

end Daac
