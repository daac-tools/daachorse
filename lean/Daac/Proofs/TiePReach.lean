/-
`Reach`: an invariant of the translated insertion code (`NfaBuilder::{new, add}` of Daac/Gen/Nfa.lean),
independent of `Tie.N.Rep` / the trie model: every state except the dead state (id 1) is reached from
the root by following the edge lists.
-/
import Daac.Proofs.TieFFresh
namespace Daac.Tie.P
open Daac Daac.Gen Daac.Gen.N Daac.Tie.N Daac.Tie.F
variable {V : Type}

def Reach (st : Tie.N.St V) : Prop :=
  2 ≤ st.size ∧ ∀ i, i < st.size → i ≠ 1 → ∃ u, idAt st 0 u = some i

theorem new_reach (kind : Nat) : Reach (NfaBuilder.new kind : NfaBuilder V).states := by
  refine ⟨Nat.le_refl 2, fun i hi h1 => ⟨[], ?_⟩⟩
  rw [Nat.lt_one_iff.mp (Nat.lt_of_le_of_ne (Nat.le_of_lt_succ hi) h1)]
  rfl

theorem get_insert : (es : Rs.EdgeMap) → (c n c' : Nat) →
    Rs.EdgeMap.get (Rs.EdgeMap.insert es c n) c' = if c = c' then some n else Rs.EdgeMap.get es c'
  | [], c, n, c' => rfl
  | (l, w) :: r, c, n, c' => by
    unfold Rs.EdgeMap.insert
    by_cases h1 : c < l
    · rw [if_pos h1]; rfl
    · rw [if_neg h1]
      by_cases h2 : c = l
      · subst h2
        rw [if_pos rfl]
        unfold Rs.EdgeMap.get
        by_cases e : c = c'
        · rw [if_pos e, if_pos e]
        · rw [if_neg e, if_neg e, if_neg e]
      · rw [if_neg h2]
        unfold Rs.EdgeMap.get
        rw [get_insert r c n c']
        by_cases e : l = c'
        · rw [if_pos e, if_pos e, if_neg (fun h => h2 (h.trans e.symm))]
        · rw [if_neg e, if_neg e]

def EdgeLe (st st' : Tie.N.St V) : Prop :=
  ∀ (i : Nat) (s : NfaBuilderState V), st[i]? = some s →
    ∃ s' : NfaBuilderState V, st'[i]? = some s' ∧
      ∀ c j, Rs.EdgeMap.get s.edges c = some j → Rs.EdgeMap.get s'.edges c = some j

theorem idAt_mono {st st' : Tie.N.St V} (hs : EdgeLe st st') : (u : List Nat) → (i j : Nat) →
    idAt st i u = some j → idAt st' i u = some j
  | [], i, j, h => h
  | c :: u, i, j, h => by
    unfold idAt at h ⊢
    cases hi : st[i]? with
    | none => rw [hi] at h; cases h
    | some s =>
      obtain ⟨s', e1, e2⟩ := hs i s hi
      rw [hi] at h
      rw [e1]
      cases hg : Rs.EdgeMap.get s.edges c with
      | none => simp only [hg] at h; cases h
      | some k =>
        simp only [hg] at h
        simp only [e2 c k hg]
        exact idAt_mono hs u k j h

theorem reach_set_output {st : Tie.N.St V} {id : Nat} {s : NfaBuilderState V} (hs : st[id]? = some s)
    (o : Option (V × Nat)) (hr : Reach st) : Reach (st.setIfInBounds id { s with output := o }) := by
  have hle : EdgeLe st (st.setIfInBounds id { s with output := o }) := by
    intro k sk hk
    by_cases e : k = id
    · subst e
      rw [hs] at hk; cases hk
      exact ⟨_, Array.getElem?_setIfInBounds_self_of_lt (lt_of_get hs), fun c j h => h⟩
    · exact ⟨sk, write_keep st id k _ sk hk e, fun c j h => h⟩
  rw [Reach, Array.size_setIfInBounds]
  refine ⟨hr.1, fun i hi h1 => ?_⟩
  obtain ⟨u, hu⟩ := hr.2 i hi h1
  exact ⟨u, idAt_mono hle u 0 i hu⟩

theorem reach_pushChild {g : NfaBuilder V} {id : Nat} {s : NfaBuilderState V} (hs : g.states[id]? = some s)
    (c : Nat) (hg : Rs.EdgeMap.get s.edges c = none) (hr : Reach g.states) (w : List Nat)
    (hw : idAt g.states 0 w = some id) :
    Reach (pushChild g id s c).states ∧ ∃ w', idAt (pushChild g id s c).states 0 w' = some g.states.size := by
  have hle : EdgeLe g.states (pushChild g id s c).states := by
    intro k sk hk
    by_cases e : k = id
    · subst e
      rw [hs] at hk; cases hk
      refine ⟨_, pushChild_get_self c hs, fun c' j h => ?_⟩
      rw [get_insert, if_neg (fun e => by subst e; rw [hg] at h; cases h)]
      exact h
    · exact ⟨sk, pushChild_get_old c hk e, fun c j h => h⟩
  have hnew : idAt (pushChild g id s c).states 0 (w ++ [c]) = some g.states.size := by
    rw [idAt_snoc w c id _ (idAt_mono hle w 0 id hw) (pushChild_get_self c hs), get_insert, if_pos rfl]
  refine ⟨?_, _, hnew⟩
  rw [Reach, pushChild_size]
  refine ⟨Nat.le_succ_of_le hr.1, fun i hi h1 => ?_⟩
  by_cases e : i = g.states.size
  · subst e; exact ⟨_, hnew⟩
  · obtain ⟨u, hu⟩ := hr.2 i (Nat.lt_of_le_of_ne (Nat.le_of_lt_succ hi) e) h1
    exact ⟨u, idAt_mono hle u 0 i hu⟩

/-- The loop keeps every state reachable: it walks from a reachable state, and a new state is
pushed together with the edge that leads to it. -/
theorem loop_reach (pat : List Nat) (v : V) (pl : Nat) (cs : List Nat) (g g' : NfaBuilder V) (id : Nat)
    (u : Unit) (h : NfaBuilder.add.loop0 pat v pl cs g id = .ok (u, g'))
    (hr : Reach g.states ∧ ∃ w, idAt g.states 0 w = some id) : Reach g'.states :=
  loop0_ok_induct pat v pl (I := fun _ g id => Reach g.states ∧ ∃ w, idAt g.states 0 w = some id)
    (Q := fun g' => Reach g'.states)
    (fun c _ g id s cid hs hg ⟨hr, w, hw⟩ => ⟨hr, w ++ [c], by rw [idAt_snoc w c id s hw hs, hg]⟩)
    (fun c _ g id s hs hg ⟨hr, w, hw⟩ => reach_pushChild hs c hg hr w hw)
    (fun _ _ _ _ hr => hr.1)
    (fun g id s hs hr => reach_set_output hs _ hr.1)
    cs g id u g' h hr

theorem addAllGen_reach (nb : Nat → Nat) (ps : List (LPat V)) (g g' : NfaBuilder V)
    (h : addAllGen nb g ps = .ok g') (hr : Reach g.states) : Reach g'.states := by
  refine addAllGen_ok_induct nb (I := fun _ g => Reach g.states) ?_ ps g g' h hr
  exact fun p _ g pl u g1 hl hr => loop_reach _ _ pl _ g g1 0 u hl ⟨hr, [], rfl⟩

end Daac.Tie.P
