/-
Translation tie, accessors: the field accessors of the Rust `State` / `Output` and the `U24nU8`
bit packing behind the byte-wise ones, as GENERATED from /repo's current source by
tools/acc2lean.py (Daac/Gen/Access.lean, over the raw structs of Gen/Serial.lean), equal the field
reads and writes of the model records `St` / `Out` through the representation maps `toStB` /
`toStC` / `toOut` of Proofs/TieS.

This discharges what the search-side and layout translation units (tools/rs2lean.py) take as
given when they read `state.check()`, `state.output_pos()`, `state.base()`, `set_check(..)` as the
model's fields (Gen/Prelude.lean `Rs.St.base`, `Rs.St.outputPos`, `Rs.Out.parent`), and ties the
generated packing to the model `U24nU8` (whose shift and mask come from the constants translator).
The byte-wise statements need `check < 256` — `boundsInv`/`St.WF` give it for every element of a
built table, vacant ones included.
-/
import Daac.Gen.Access
import Daac.Gen.Prelude
import Daac.Proofs.TieS
import Daac.Proofs.Intpack
namespace Daac.Tie.A
open Daac Daac.Gen Daac.Tie.S
variable {V : Type}

theorem a_eq (x : Nat) : A.U24nU8.a x = Daac.U24nU8.a x := rfl

/-- `u8::try_from(..).unwrap()` in `b()` never panics: the masked word is a byte. -/
theorem b_eq (x : Nat) : A.U24nU8.b x = some (Daac.U24nU8.b x) := by
  rw [A.U24nU8.b, Rs.u8_try_from, if_pos Nat.and_le_right]
  rfl

theorem set_a_eq (x a' : Nat) : A.U24nU8.set_a x a' = some (Daac.U24nU8.setA x a') := by
  simp only [A.U24nU8.set_a, b_eq, A.U24.get, Daac.U24nU8.setA, Gen.packShift]

theorem set_b_eq (x b' : Nat) : A.U24nU8.set_b x b' = Daac.U24nU8.setB x b' := rfl

theorem try_from_eq (x : Nat) :
    A.U24.try_from x = if x ≤ Gen.u24Max then .ok x else .error () := by
  simp only [A.U24.try_from, decide_eq_true_eq]

theorem word_eq (s : St) : (toStB s).opos_ch = Daac.U24nU8.pack s.opos s.check := rfl

theorem B_base (s : St) : A.B.State.base (toStB s) = optNZ s.base := rfl
theorem B_fail (s : St) : A.B.State.fail (toStB s) = s.fail := rfl

theorem B_check (s : St) (hc : s.check < 256) : A.B.State.check (toStB s) = some s.check := by
  simp only [A.B.State.check, b_eq, word_eq, Daac.U24nU8.b_pack _ _ hc]

theorem B_output_pos (s : St) (hc : s.check < 256) :
    A.B.State.output_pos (toStB s) = optNZ s.opos := by
  simp only [A.B.State.output_pos, A.U24.get, a_eq, word_eq, Daac.U24nU8.a_pack _ _ hc, nz_eq]

theorem B_set_base (s : St) (x : Nat) (hx : x ≠ 0) :
    A.B.State.set_base (toStB s) x = toStB { s with base := x } := by
  simp only [A.B.State.set_base, toStB, optNZ, hx, if_false]

theorem B_set_fail (s : St) (x : Nat) :
    A.B.State.set_fail (toStB s) x = toStB { s with fail := x } := rfl

theorem B_set_check (s : St) (x : Nat) (hc : s.check < 256) :
    A.B.State.set_check (toStB s) x = toStB { s with check := x } :=
  congrArg (fun w => (⟨optNZ s.base, s.fail, w⟩ : Gen.S.B.State))
    (Daac.U24nU8.setB_pack s.opos s.check x hc)

theorem B_set_output_pos (s : St) (o : Option Nat) (hc : s.check < 256) :
    A.B.State.set_output_pos (toStB s) o =
      some (if Rs.map_or_0_get o ≤ Gen.u24Max
            then .ok (toStB { s with opos := Rs.map_or_0_get o })
            else .error .automatonScale) := by
  by_cases hle : Rs.map_or_0_get o ≤ Gen.u24Max
  · simp only [A.B.State.set_output_pos, try_from_eq, hle, if_true, set_a_eq, word_eq,
      Daac.U24nU8.setA_pack _ _ _ hc]
    rfl
  · simp only [A.B.State.set_output_pos, try_from_eq, hle, if_false]

theorem nonZero_eq (x : Nat) : Rs.nonZero x = optNZ x := rfl

theorem prelude_base (s : St) : Rs.St.base s = A.B.State.base (toStB s) := nonZero_eq s.base

theorem prelude_output_pos (s : St) (hc : s.check < 256) :
    Rs.St.outputPos s = A.B.State.output_pos (toStB s) :=
  (nonZero_eq s.opos).trans (B_output_pos s hc).symm

theorem prelude_parent (o : Out V) : Rs.Out.parent o = A.Output.parent (toOut o) :=
  nonZero_eq o.parent

theorem C_reads (s : St) :
    A.C.State.base (toStC s) = optNZ s.base ∧ A.C.State.check (toStC s) = s.check ∧
    A.C.State.fail (toStC s) = s.fail ∧ A.C.State.output_pos (toStC s) = optNZ s.opos :=
  ⟨rfl, rfl, rfl, rfl⟩

theorem C_prelude (s : St) :
    Rs.St.base s = A.C.State.base (toStC s) ∧ Rs.St.outputPos s = A.C.State.output_pos (toStC s) :=
  ⟨nonZero_eq s.base, nonZero_eq s.opos⟩

theorem C_set_check (s : St) (x : Nat) : A.C.State.set_check (toStC s) x = toStC { s with check := x } := rfl
theorem C_set_fail (s : St) (x : Nat) : A.C.State.set_fail (toStC s) x = toStC { s with fail := x } := rfl

theorem C_set_base (s : St) (x : Nat) (hx : x ≠ 0) :
    A.C.State.set_base (toStC s) x = toStC { s with base := x } := by
  simp only [A.C.State.set_base, toStC, optNZ, hx, if_false]

theorem C_set_output_pos (s : St) (x : Nat) :
    A.C.State.set_output_pos (toStC s) (optNZ x) = toStC { s with opos := x } := rfl

theorem Out_reads (o : Out V) :
    A.Output.value (toOut o) = o.value ∧ A.Output.length (toOut o) = o.length ∧
    A.Output.parent (toOut o) = optNZ o.parent := ⟨rfl, rfl, rfl⟩

theorem Out_new (v : V) (l p : Nat) : A.Output.new v l (optNZ p) = toOut ⟨v, l, p⟩ := rfl

/-- Non-vacuity: a state with the largest packed fields. -/
example : A.B.State.check (toStB ⟨7, 255, 3, 16777215⟩) = some 255 ∧
    A.B.State.output_pos (toStB ⟨7, 255, 3, 16777215⟩) = some 16777215 := by decide

end Daac.Tie.A
