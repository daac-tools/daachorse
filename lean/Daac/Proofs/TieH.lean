/-
Translation tie, construction side: the free-slot bookkeeping `BuildHelper` GENERATED from
/repo's `src/build_helper.rs` by tools/rs2lean.py (`Daac/Gen/Helper.lean`, array of `ListItem`
records) equals the hand-written model `Helper` (Daac/Model/Build.lean, four parallel arrays) that
the layout proofs (Proofs/HelperFacts, HelperLL, LayoutB, LayoutC, Total) are about.
Panics carry different texts in the two developments; they are compared up to the text.
-/
import Daac.Gen.Helper
import Daac.Model.Build
import Daac.Proofs.HelperFacts
namespace Daac.Tie.H
open Daac Daac.Gen

def repr (g : Gen.H.BuildHelper) : Helper :=
  ⟨g.items.map (·.next_), g.items.map (·.prev_), g.items.map (·.used_base), g.items.map (·.used_index),
   g.block_len, g.num_free_blocks, g.num_blocks, g.head_idx⟩

def norm {α : Type} (x : Except BuildErr α) : Except BuildErr α :=
  match x with
  | .error (.panic _) => .error (.panic "")
  | y => y

/-- The capacity is positive and fits `u32` (established by `new`, preserved by every operation). -/
def Wf (g : Gen.H.BuildHelper) : Prop := 0 < g.items.size ∧ g.items.size ≤ 4294967295

open Daac.Gen.H

theorem _root_.Daac.Gen.Rs.u32Max_eq : Rs.u32Max = 4294967295 := rfl
theorem _root_.Daac.u32Max_eq : u32Max = 4294967295 := rfl

theorem norm_ok {α} (x : α) : norm (.ok x : Except BuildErr α) = .ok x := rfl
theorem norm_panic {α} (s : String) : norm (.error (.panic s) : Except BuildErr α) = .error (.panic "") := rfl

theorem eq_ok_of_norm {α : Type} {x : Except BuildErr α} {y : α} (h : norm x = norm (.ok y)) : x = .ok y := by
  cases x with
  | ok v => exact h
  | error e => cases e <;> cases h

theorem norm_error {α : Type} (e : BuildErr) :
    norm (.error e : Except BuildErr α) = .error (match e with | .panic _ => .panic "" | e => e) := by
  cases e <;> rfl

theorem norm_error_congr {α : Type} {e1 e2 : BuildErr}
    (h : norm (.error e1 : Except BuildErr α) = norm (.error e2)) (γ : Type) :
    norm (.error e1 : Except BuildErr γ) = norm (.error e2) := by
  rw [norm_error, norm_error] at h ⊢
  rw [Except.error.inj h]

theorem norm_cases {α β : Type} (f : α → β) (x : Except BuildErr α) (y : Except BuildErr β)
    (h : norm (x.map f) = norm y) :
    (∃ a, x = .ok a ∧ y = .ok (f a)) ∨
    (∃ e1 e2, x = .error e1 ∧ y = .error e2 ∧
      ∀ γ : Type, norm (.error e1 : Except BuildErr γ) = norm (.error e2)) := by
  cases x with
  | ok a => exact .inl ⟨a, rfl, eq_ok_of_norm h.symm⟩
  | error e1 =>
    cases y with
    | ok b => cases eq_ok_of_norm h
    | error e2 => exact .inr ⟨e1, e2, rfl, rfl, norm_error_congr h⟩

theorem norm_cases' {α : Type} (x y : Except BuildErr α) (h : norm x = norm y) :
    (∃ a, x = .ok a ∧ y = .ok a) ∨
    (∃ e1 e2, x = .error e1 ∧ y = .error e2 ∧
      ∀ γ : Type, norm (.error e1 : Except BuildErr γ) = norm (.error e2)) :=
  norm_cases id x y (by cases x <;> exact h)


/-- `idx` is in the active index range (the assertion of `offset`). -/
def inR (bl nfb nb i : Nat) : Prop := (nb - nfb) * bl ≤ i ∧ i < nb * bl
instance (bl nfb nb i : Nat) : Decidable (inR bl nfb nb i) := by unfold inR; infer_instance

theorem g_offset (a : Array ListItem) (bl nfb nb : Nat) (hd : Option Nat) (i : Nat) (h : a.size ≤ 4294967295) :
    BuildHelper.offset ⟨a, bl, nfb, nb, hd⟩ i =
      if inR bl nfb nb i then .ok (i % a.size)
      else .error (.panic "assert!(self . active_index_range ( ) . contains ( & idx ))") := by
  simp only [BuildHelper.offset, BuildHelper.active_index_range, BuildHelper.active_block_range,
    BuildHelper.capacity, Rs.u32TryFromUnwrap, Rs.u32Max_eq, h, if_true, inR, Bool.and_eq_true]
  by_cases h1 : (nb - nfb) * bl ≤ i <;> by_cases h2 : i < nb * bl <;> simp [h1, h2]

theorem m_off (nx pv : Array Nat) (ub ui : Array Bool) (bl nfb nb : Nat) (hd : Option Nat) (i : Nat) :
    Helper.off ⟨nx, pv, ub, ui, bl, nfb, nb, hd⟩ i =
      if inR bl nfb nb i then .ok (i % nx.size)
      else .error (.panic "assert!(active_index_range().contains(&idx))") := by
  simp only [Helper.off, Helper.activeStart, Helper.cap, inR, Bool.and_eq_true]
  by_cases h1 : (nb - nfb) * bl ≤ i <;> by_cases h2 : i < nb * bl <;> simp [h1, h2]

theorem index_ok' {α : Type} (a : Array α) (i : Nat) (x : α) (h : a[i]? = some x) : Rs.index a i = .ok x := by
  simp [Rs.index, h]

theorem index_ok {α : Type} (a : Array α) (i : Nat) (d : α) (h : i < a.size) :
    Rs.index a i = .ok (a.getD i d) := by
  simp [Rs.index, h, Array.getD]

theorem getD_map {α β : Type} (f : α → β) (a : Array α) (k : Nat) (d : α) :
    f (a.getD k d) = (a.map f).getD k (f d) := by
  simp only [Array.getD_eq_getD_getElem?, Array.getElem?_map]
  cases a[k]? <;> rfl

theorem proj_next (a : Array ListItem) (k : Nat) :
    (a.getD k ListItem.default).next_ = (a.map (·.next_)).getD k 0 := getD_map _ a k _
theorem proj_prev (a : Array ListItem) (k : Nat) :
    (a.getD k ListItem.default).prev_ = (a.map (·.prev_)).getD k 0 := getD_map _ a k _
theorem proj_ub (a : Array ListItem) (k : Nat) :
    (a.getD k ListItem.default).used_base = (a.map (·.used_base)).getD k false := getD_map _ a k _
theorem proj_ui (a : Array ListItem) (k : Nat) :
    (a.getD k ListItem.default).used_index = (a.map (·.used_index)).getD k false := getD_map _ a k _

theorem default_next : ListItem.default.next_ = 0 := rfl
theorem default_prev : ListItem.default.prev_ = 0 := rfl
theorem default_ub : ListItem.default.used_base = false := rfl
theorem default_ui : ListItem.default.used_index = false := rfl

theorem set_getD_self {α} (b : Array α) (j : Nat) (d : α) : b.setIfInBounds j (b.getD j d) = b := by
  apply Array.ext_getElem?; intro k
  simp only [Array.getElem?_setIfInBounds, Array.getD_eq_getD_getElem?]
  split
  · subst_vars; split
    · rename_i h; simp [h]
    · rename_i h; simp at h; simp [h]
  · rfl

theorem getD_set_self {α} (b : Array α) (j : Nat) (x d : α) (h : j < b.size) :
    (b.setIfInBounds j x).getD j d = x := by
  simp [Array.getD_eq_getD_getElem?, h]

/-- Symbolic evaluation of both sides on a destructured helper: offsets become `if inR …`, reads of
the record array become reads of the projected arrays, writes of a record with one field changed
become writes of that field's array. Hypotheses deciding the `inR` tests are passed as arguments. -/
syntax "hsimp" "[" Lean.Parser.Tactic.simpLemma,* "]" (Lean.Parser.Tactic.location)? : tactic
macro_rules
  | `(tactic| hsimp [$ls,*] $[$loc]?) => `(tactic| simp only [g_offset, m_off, index_ok _ _ ListItem.default, Array.size_map,
      Array.size_setIfInBounds, Array.map_setIfInBounds, proj_next, proj_prev, proj_ub, proj_ui, set_getD_self,
      getD_set_self, Array.setIfInBounds_setIfInBounds, default_next, default_prev, default_ub, default_ui,
      ListItem.use_index, ListItem.use_base, ListItem.is_used_index, ListItem.is_used_base, ListItem.next, ListItem.prev,
      norm_ok, norm_panic, if_true, if_false, Bool.not_true, Bool.not_false, Bool.false_eq_true,
      decide_eq_true_eq, ne_eq, not_true_eq_false, not_false_eq_true, $ls,*] $[$loc]?)

theorem offset_eq (g : Gen.H.BuildHelper) (hw : Wf g) (i : Nat) :
    norm (Gen.H.BuildHelper.offset g i) = norm ((repr g).off i) := by
  obtain ⟨a, bl, nfb, nb, hd⟩ := g
  by_cases h : inR bl nfb nb i <;> hsimp [repr, hw.2, h]

theorem is_used_base_eq (g : Gen.H.BuildHelper) (hw : Wf g) (b : Nat) :
    norm (Gen.H.BuildHelper.is_used_base g b) = norm ((repr g).isUsedBase b) := by
  obtain ⟨a, bl, nfb, nb, hd⟩ := g
  have hlt : ∀ i, i % a.size < a.size := fun i => Nat.mod_lt i hw.1
  unfold BuildHelper.is_used_base Helper.isUsedBase
  by_cases h : inR bl nfb nb b <;> hsimp [repr, hw.2, hlt, h]

theorem is_used_index_eq (g : Gen.H.BuildHelper) (hw : Wf g) (i : Nat) :
    norm (Gen.H.BuildHelper.is_used_index g i) = norm ((repr g).isUsedIndex i) := by
  obtain ⟨a, bl, nfb, nb, hd⟩ := g
  have hlt : ∀ i, i % a.size < a.size := fun i => Nat.mod_lt i hw.1
  unfold BuildHelper.is_used_index Helper.isUsedIndex
  by_cases h : inR bl nfb nb i <;> hsimp [repr, hw.2, hlt, h]

theorem use_base_eq (g : Gen.H.BuildHelper) (hw : Wf g) (b : Nat) :
    norm ((Gen.H.BuildHelper.use_base g b).map (fun p => repr p.2)) = norm ((repr g).useBase b) := by
  obtain ⟨a, bl, nfb, nb, hd⟩ := g
  have hlt : ∀ i, i % a.size < a.size := fun i => Nat.mod_lt i hw.1
  unfold BuildHelper.use_base Helper.useBase
  by_cases h : inR bl nfb nb b <;> hsimp [repr, Except.map, hw.2, hlt, h]

theorem use_index_eq (g : Gen.H.BuildHelper) (hw : Wf g) (i : Nat) :
    norm ((Gen.H.BuildHelper.use_index g i).map (fun p => repr p.2)) = norm ((repr g).useIndex i) := by
  obtain ⟨a, bl, nfb, nb, hd⟩ := g
  have hm : a.size ≤ 4294967295 := hw.2
  have hlt : ∀ i, i % a.size < a.size := fun i => Nat.mod_lt i hw.1
  unfold BuildHelper.use_index Helper.useIndex
  by_cases h : inR bl nfb nb i
  · by_cases hu : (a.map (·.used_index)).getD (i % a.size) false = true
    · hsimp [repr, Except.map, hm, hlt, h, hu]
    · by_cases hpv : inR bl nfb nb ((a.map (·.prev_)).getD (i % a.size) 0)
      · by_cases hnx : inR bl nfb nb ((a.map (·.next_)).getD (i % a.size) 0)
        · -- the three outcomes for the head differ in `head_idx` only: the tests move into that field
          have ok_ite : ∀ (c : Prop) [Decidable c] (it : Array ListItem) (h1 h2 : Option Nat),
              (if c then (.ok ((), ⟨it, bl, nfb, nb, h1⟩) : Except BuildErr (Unit × BuildHelper))
                else .ok ((), ⟨it, bl, nfb, nb, h2⟩)) = .ok ((), ⟨it, bl, nfb, nb, if c then h1 else h2⟩) := by
            intro c _ it h1 h2; split <;> rfl
          hsimp [repr, hm, hlt, h, hu, hpv, hnx, ok_ite]
          cases hd with
          | none => rfl
          | some hd =>
            hsimp [Except.map]
            by_cases h2 : (a.map (·.next_)).getD (i % a.size) 0 = i
            · simp only [eq_true h2, not_true_eq_false, decide_false, if_false, Bool.false_eq_true]
            · simp only [eq_false h2, not_false_eq_true, decide_true, if_true]
        · hsimp [repr, Except.map, hm, hlt, h, hu, hpv, hnx]
      · hsimp [repr, Except.map, hm, hlt, h, hu, hpv]
  · hsimp [repr, Except.map, hm, h]

/-! The model's operations keep the sizes of its arrays, `repr` maps the size of the record array to
them, so every translated operation that agrees with a model operation keeps the capacity. -/

theorem wf_of_size {g g' : BuildHelper} (hw : Wf g) (h : g'.items.size = g.items.size) : Wf g' := by
  unfold Wf at *; rw [h]; exact hw

theorem size_of_tie {α : Type} {X : Except BuildErr α} {f : α → BuildHelper} {Y : Except BuildErr Helper}
    {a : α} {g : BuildHelper} (e : norm (X.map (fun p => repr (f p))) = norm Y) (h : X = .ok a)
    (hy : ∀ h', Y = .ok h' → h'.next.size = (repr g).next.size) : (f a).items.size = g.items.size := by
  subst h
  simpa only [repr, Array.size_map] using hy _ (eq_ok_of_norm e.symm)

theorem useBase_size {h h' : Helper} {i : Nat} (e : h.useBase i = .ok h') : h'.next.size = h.next.size := by
  unfold Helper.useBase at e
  split at e
  · cases e
  · cases e; rfl

theorem closeLoop_size (e fuel : Nat) (h h' : Helper) (k : Helper.closeLoop fuel e h = .ok h') :
    h'.next.size = h.next.size := by
  revert k
  fun_induction Helper.closeLoop fuel e h <;> intro k
  case case2 => rw [← Except.ok.inj k]
  case case3 => rw [← Except.ok.inj k]
  case case5 hu ih => rw [ih k, (Helper.useIndex_same hu).size_next]
  all_goals cases k

theorem resetLoop_size (n s : Nat) (h h' : Helper) (k : Helper.resetLoop n s h = .ok h') :
    h'.next.size = h.next.size := by
  revert k
  fun_induction Helper.resetLoop n s h <;> intro k
  case case1 => rw [← Except.ok.inj k]
  case case3 ih => rw [ih k]; exact Array.size_setIfInBounds
  all_goals cases k

theorem use_base_size {g g' : BuildHelper} {u : Unit} {x : Nat} (hw : Wf g)
    (h : BuildHelper.use_base g x = .ok (u, g')) : g'.items.size = g.items.size :=
  size_of_tie (f := Prod.snd) (use_base_eq g hw x) h fun _ => useBase_size

theorem use_index_size {g g' : BuildHelper} {u : Unit} {x : Nat} (hw : Wf g)
    (h : BuildHelper.use_index g x = .ok (u, g')) : g'.items.size = g.items.size :=
  size_of_tie (f := Prod.snd) (use_index_eq g hw x) h fun _ k => (Helper.useIndex_same k).size_next

theorem loop0_eq (e : Nat) : ∀ (fuel : Nat) (g : BuildHelper), Wf g →
    norm ((BuildHelper.push_block.loop0 e fuel g).map repr) = norm (Helper.closeLoop fuel e (repr g)) := by
  intro fuel
  induction fuel with
  | zero => intro g hw; rfl
  | succ n ih =>
    intro g hw
    unfold BuildHelper.push_block.loop0 Helper.closeLoop
    rw [show (repr g).head = g.head_idx from rfl]
    cases g.head_idx with
    | none => rfl
    | some hd =>
      dsimp only
      by_cases hle : e ≤ hd
      · rw [if_pos (decide_eq_true hle), if_pos hle]; rfl
      · rw [if_neg (by simpa using hle), if_neg hle]
        rcases norm_cases _ _ _ (use_index_eq g hw hd) with ⟨⟨u, g'⟩, h1, h2⟩ | ⟨e1, e2, h1, h2, h3⟩
        · rw [h1, h2]
          exact ih g' (wf_of_size hw (use_index_size hw h1))
        · rw [h1, h2]; exact h3 _

theorem wrapping_sub_one (idx : Nat) : Rs.wrappingSubU32 idx 1 = if idx = 0 then u32Max else idx - 1 := by
  unfold Rs.wrappingSubU32
  rw [Rs.u32Max_eq, u32Max_eq]
  by_cases h : idx = 0
  · subst h; rfl
  · have : 1 ≤ idx := Nat.pos_of_ne_zero h
    simp [h, this]

theorem loop1_eq : ∀ (n s : Nat) (g : BuildHelper), Wf g →
    norm ((BuildHelper.push_block.loop1 (List.range' s n) g).map repr) = norm (Helper.resetLoop n s (repr g)) := by
  intro n
  induction n with
  | zero => intro s g hw; rfl
  | succ n ih =>
    intro s g hw
    obtain ⟨a, bl, nfb, nb, hd⟩ := g
    have hm : a.size ≤ 4294967295 := hw.2
    have hlt : ∀ i, i % a.size < a.size := fun i => Nat.mod_lt i hw.1
    rw [List.range'_succ]
    unfold BuildHelper.push_block.loop1 Helper.resetLoop BuildHelper.reset
    by_cases h : inR bl nfb nb s
    · hsimp [Rs.indexSet, hm, hlt, h]
      rw [ih _ _ ⟨by simpa only [Array.size_setIfInBounds] using hw.1, by simpa only [Array.size_setIfInBounds] using hm⟩]
      hsimp [repr, wrapping_sub_one, h]
    · hsimp [repr, Except.map, hm, h]

theorem capacity_ok (g : BuildHelper) (hw : Wf g) : BuildHelper.capacity g = .ok g.items.size := by
  simp [BuildHelper.capacity, Rs.u32TryFromUnwrap, Rs.u32Max_eq, hw.2]

theorem dropped_block_eq (g : Gen.H.BuildHelper) (hw : Wf g) :
    Gen.H.BuildHelper.dropped_block g = .ok (repr g).droppedBlock := by
  unfold BuildHelper.dropped_block Helper.droppedBlock
  rw [capacity_ok g hw]
  simp only [Helper.cap, repr, Array.size_map, BuildHelper.num_elements, Helper.numElements,
    BuildHelper.active_block_range, Helper.activeStart]
  by_cases h : g.items.size ≤ g.num_blocks * g.block_len <;> simp [h]

theorem rangeList_add (x n : Nat) : Rs.rangeList x (x + n) = List.range' x n := by
  simp [Rs.rangeList]

/-- The first block of `push_block`: the leftovers of the dropped block are marked used. -/
def genClosed (self : BuildHelper) : Except BuildErr BuildHelper :=
  match BuildHelper.dropped_block self with
  | .error e => .error e
  | .ok r1 =>
    match r1 with
    | some closed_block =>
      let end_idx := ((closed_block + 1) * self.block_len)
      match BuildHelper.push_block.loop0 end_idx (self.block_len + 1) self with
      | .error e => .error e
      | .ok self =>
        .ok self
    | none =>
      .ok self

theorem closed_eq (g : BuildHelper) (hw : Wf g) :
    norm ((genClosed g).map repr) = norm ((repr g).closedOf) := by
  unfold genClosed Helper.closedOf
  rw [dropped_block_eq g hw]
  cases (repr g).droppedBlock with
  | none => rfl
  | some cb =>
    rcases norm_cases _ _ _ (loop0_eq ((cb + 1) * g.block_len) (g.block_len + 1) g hw) with
      ⟨g', h1, h2⟩ | ⟨e1, e2, h1, h2, h3⟩
    · have h2' : Helper.closeLoop ((repr g).blockLen + 1) ((cb + 1) * (repr g).blockLen) (repr g) = _ := h2
      dsimp only
      rw [h1, h2']; rfl
    · have h2' : Helper.closeLoop ((repr g).blockLen + 1) ((cb + 1) * (repr g).blockLen) (repr g) = _ := h2
      dsimp only
      rw [h1, h2']; exact h3 _

theorem closedOf_size {h h' : Helper} (e : h.closedOf = .ok h') : h'.next.size = h.next.size := by
  unfold Helper.closedOf at e
  split at e
  · exact closeLoop_size _ _ _ _ e
  · cases e; rfl

theorem push_block_eq (g : Gen.H.BuildHelper) (hw : Wf g) :
    norm ((Gen.H.BuildHelper.push_block g).map (fun p => repr p.2)) = norm ((repr g).pushBlock) := by
  rw [Helper.pushBlock_eq]
  unfold BuildHelper.push_block
  by_cases hs : BuildHelper.num_elements g > 4294967295 - g.block_len
  · have hs' : (repr g).numElements > u32Max - (repr g).blockLen := hs
    rw [if_pos (decide_eq_true hs), if_pos hs']; rfl
  · have hs' : ¬ (repr g).numElements > u32Max - (repr g).blockLen := hs
    rw [if_neg (by simpa using hs), if_neg hs']
    rcases norm_cases _ _ _ (closed_eq g hw) with ⟨g1, h1, h2⟩ | ⟨e1, e2, h1, h2, h3⟩
    · rw [h2]
      -- `split` names the outcome of the closing block as it stands inside `push_block`;
      -- that block unfolds to `genClosed g`, whose outcome is known
      split <;> rename_i hc <;> cases (show genClosed g = _ from hc).symm.trans h1
      have hw1 : Wf g1 := wf_of_size hw (size_of_tie (f := id) (closed_eq g hw) h1 fun _ => closedOf_size)
      have hl := loop1_eq g1.block_len (BuildHelper.num_elements g1) { g1 with num_blocks := g1.num_blocks + 1 } hw1
      dsimp only [repr, Helper.numElements, BuildHelper.num_elements] at hl ⊢
      rw [rangeList_add]
      rcases norm_cases _ _ _ hl with ⟨g2, k1, k2⟩ | ⟨e1, e2, k1, k2, k3⟩
      · rw [k1, k2]
        have hw2 : Wf g2 := wf_of_size (g := { g1 with num_blocks := g1.num_blocks + 1 }) hw1
          (size_of_tie (f := id) (loop1_eq _ _ { g1 with num_blocks := g1.num_blocks + 1 } hw1) k1
            fun _ => resetLoop_size _ _ _ _)
        -- relinking the vacant list: both sides are evaluated on the destructured `g2`
        generalize g1.num_blocks * g1.block_len = o
        generalize o + g1.block_len = n
        obtain ⟨a, bl, nfb, nb, hd⟩ := g2
        have hm : a.size ≤ 4294967295 := hw2.2
        have hlt : ∀ i, i % a.size < a.size := fun i => Nat.mod_lt i hw2.1
        unfold Helper.splice
        cases hd with
        | none =>
          by_cases h1 : inR bl nfb nb o
          · by_cases h2 : inR bl nfb nb (n - 1) <;> hsimp [repr, Except.map, hm, hlt, h1, h2]
          · hsimp [repr, Except.map, hm, h1]
        | some hd =>
          by_cases h0 : inR bl nfb nb hd
          · by_cases h1 : inR bl nfb nb o
            · by_cases h2 : inR bl nfb nb (n - 1) <;>
              by_cases h3 : inR bl nfb nb ((a.map (·.prev_)).getD (hd % a.size) 0) <;>
                hsimp [repr, Except.map, hm, hlt, h0, h1, h2, h3]
            · hsimp [repr, Except.map, hm, hlt, h0, h1]
          · hsimp [repr, Except.map, hm, h0]
      · rw [k1, k2]; exact k3 _
    · rw [h2]
      split <;> rename_i hc <;> cases (show genClosed g = _ from hc).symm.trans h1
      exact h3 _

theorem pushBlock_size {h h' : Helper} (e : h.pushBlock = .ok h') : h'.next.size = h.next.size := by
  rw [Helper.pushBlock_eq] at e
  split at e
  · cases e
  split at e
  · cases e
  rename_i h1 hc
  split at e
  · cases e
  rename_i h2 hr
  rw [← closedOf_size hc, ← resetLoop_size _ _ _ _ hr]
  revert e
  fun_cases Helper.splice h2 h1.numElements (h1.numElements + h1.blockLen) <;> intro e
  -- the two successful splices: into a non-empty vacant list (2), into an empty one (6)
  case case2 => rw [← Except.ok.inj e]; simp +zetaDelta only [Array.size_setIfInBounds]
  case case6 => rw [← Except.ok.inj e]; simp only [Array.size_setIfInBounds]
  all_goals cases e

theorem push_block_size {g g' : BuildHelper} {u : Unit} (hw : Wf g)
    (h : BuildHelper.push_block g = .ok (u, g')) : g'.items.size = g.items.size :=
  size_of_tie (f := Prod.snd) (push_block_eq g hw) h fun _ => pushBlock_size

theorem findM_eq (g : BuildHelper) (hw : Wf g) (f : Nat → Except BuildErr Bool)
    (hf : ∀ base, f base = (match BuildHelper.is_used_base g base with
      | .error e => .error e
      | .ok r1 => .ok (!r1))) : ∀ (n s : Nat),
    norm (Rs.findM f (List.range' s n)) = norm ((repr g).unusedBaseFrom n s) := by
  intro n
  induction n with
  | zero => intro s; rfl
  | succ n ih =>
    intro s
    rw [List.range'_succ]
    unfold Rs.findM Helper.unusedBaseFrom
    rw [hf s]
    rcases norm_cases' _ _ (is_used_base_eq g hw s) with ⟨b, h1, h2⟩ | ⟨e1, e2, h1, h2, h3⟩
    · rw [h1, h2]
      cases b
      · rfl
      · exact ih (s + 1)
    · rw [h1, h2]; exact h3 _

theorem unused_base_in_block_eq (g : Gen.H.BuildHelper) (hw : Wf g) (b : Nat) :
    norm (Gen.H.BuildHelper.unused_base_in_block g b) = norm ((repr g).unusedBaseInBlock b) := by
  unfold BuildHelper.unused_base_in_block Helper.unusedBaseInBlock Rs.rangeFindM
  dsimp only
  rw [rangeList_add]
  have key : ∀ X : Except BuildErr (Option Nat),
      (match X with | .error e => .error e | .ok f2 => .ok f2) = X := by
    intro X; cases X <;> rfl
  refine Eq.trans (congrArg norm (key _)) ?_
  exact findM_eq g hw _ (fun _ => rfl) _ _

/-- `vacant_iter()` followed by `next()` until `None` (at most `fuel` items, like the model). -/
def genVacantFrom : Nat → Gen.H.VacantIter → Except BuildErr (List Nat)
  | 0, _ => .ok []
  | fuel + 1, it =>
    match Gen.H.VacantIter.next it with
    | .error e => .error e
    | .ok (none, _) => .ok []
    | .ok (some i, it') =>
      match genVacantFrom fuel it' with
      | .error e => .error e
      | .ok l => .ok (i :: l)

theorem genVacant_none (g : BuildHelper) : ∀ fuel, genVacantFrom fuel ⟨g, none⟩ = .ok [] := by
  intro fuel; cases fuel <;> rfl

theorem vacantFrom_eq (g : BuildHelper) (hw : Wf g) (hd : Nat) (hh : g.head_idx = some hd) :
    ∀ (fuel cur : Nat),
    norm (genVacantFrom fuel ⟨g, some cur⟩) = norm ((repr g).vacantFrom hd fuel cur) := by
  intro fuel
  induction fuel with
  | zero => intro cur; rfl
  | succ n ih =>
    intro cur
    obtain ⟨a, bl, nfb, nb, hd'⟩ := g
    obtain ⟨hp, hm⟩ := hw
    simp only at hp hm hh
    subst hh
    have hlt : ∀ i, i % a.size < a.size := fun i => Nat.mod_lt i hp
    unfold genVacantFrom VacantIter.next Helper.vacantFrom
    by_cases h : inR bl nfb nb cur
    · by_cases h2 : (a.map (·.next_)).getD (cur % a.size) 0 = hd
      · hsimp [repr, hm, hlt, h, eq_true h2, genVacant_none]
      · hsimp [repr, hm, hlt, h, eq_false h2]
        rcases norm_cases' _ _ (ih ((a.map (·.next_)).getD (cur % a.size) 0)) with
          ⟨r, h1, h2⟩ | ⟨e1, e2, h1, h2, h3⟩
        · simp only [repr] at h2
          rw [h1, h2]
        · simp only [repr] at h2
          rw [h1, h2]; exact h3 _
    · hsimp [repr, hm, h]

theorem vacant_eq (g : Gen.H.BuildHelper) (hw : Wf g) :
    norm (genVacantFrom (g.items.size + 1) (Gen.H.BuildHelper.vacant_iter g)) = norm ((repr g).vacant) := by
  unfold BuildHelper.vacant_iter Helper.vacant
  have hh : (repr g).head = g.head_idx := rfl
  rw [hh]
  cases hd : g.head_idx with
  | none => rfl
  | some hd' =>
    have hc : (repr g).cap = g.items.size := by simp [Helper.cap, repr]
    dsimp only
    rw [hc]
    have := vacantFrom_eq g hw hd' hd (g.items.size + 1) hd'
    rw [← this]


theorem new_eq (bl nfb : Nat) :
    norm ((Gen.H.BuildHelper.new bl nfb).map repr) = norm (Helper.new bl nfb) := by
  unfold BuildHelper.new Helper.new Rs.checkedMulU32
  rw [Rs.u32Max_eq, u32Max_eq]
  by_cases h1 : bl * nfb ≤ 4294967295
  · have h1' : ¬ bl * nfb > 4294967295 := Nat.not_lt.mpr h1
    by_cases h2 : bl * nfb = 0
    · simp only [h2, if_true, ne_eq]
      rfl
    · simp only [h1, h1', h2, if_true, if_false, ne_eq, not_false_eq_true, decide_true, Except.map, repr,
        Array.map_replicate, default_next, default_prev, default_ub, default_ui]
  · have h1' : bl * nfb > 4294967295 := Nat.lt_of_not_le h1
    simp only [h1, h1', if_true, if_false]
    rfl

theorem new_wf (bl nfb : Nat) (g : Gen.H.BuildHelper) (h : Gen.H.BuildHelper.new bl nfb = .ok g) :
    Wf g := by
  unfold BuildHelper.new Rs.checkedMulU32 at h
  rw [Rs.u32Max_eq] at h
  by_cases h1 : bl * nfb ≤ 4294967295
  · by_cases h2 : bl * nfb = 0
    · simp [h2] at h
    · simp only [h1, h2, if_true, ne_eq, not_false_eq_true, decide_true] at h
      cases h
      exact ⟨by simpa using Nat.pos_of_ne_zero h2, by simpa using h1⟩
  · simp [h1] at h

theorem num_elements_eq (g : Gen.H.BuildHelper) :
    Gen.H.BuildHelper.num_elements g = (repr g).numElements := rfl

theorem active_index_range_eq (g : Gen.H.BuildHelper) :
    Gen.H.BuildHelper.active_index_range g =
      ((repr g).activeStart * (repr g).blockLen, (repr g).numBlocks * (repr g).blockLen) := rfl

end Daac.Tie.H
