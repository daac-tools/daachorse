/-
Translation tie, construction side: `DoubleArrayAhoCorasickBuilder::build_double_array` GENERATED from
the repository's `src/bytewise/builder.rs` by tools/dbl2lean.py (`Daac/Gen/BuildB.lean`, keyed by the
state ids of the sparse NFA, `state_id_map : Array Nat`) against the hand-written model
`buildLayout .bytewise` (Daac/Model/Build.lean, keyed by trie paths, `idx : HashMap path index`).

The primitives (`find_base`, `extend_array`, `remove_invalid_checks`, every `BuildHelper` method) are
tied to the model in Proofs/TieH, Proofs/TieL; here the loops around them are related by a simulation
(`Sim`): the builder's array is the model's, the translated helper represents the model's, and
`state_id_map[ido u] = idx[u]` for every trie node `u`, where `ido` maps a node (path) to its state id.
Results are compared by `RelE`: both succeed with related values, or both fail with the same error up
to the panic text (`norm` of Proofs/TieH).

The byte-wise and the char-wise builder (Proofs/TieDC) run loops of the same shape over different
records and against the same model functions at a different `Variant`.  Stated once, for both:
the edge loop and the fuel induction of the DFS loop, each about a variable `loop` with its unfolding
equations as hypotheses and the caller's simulation relation as an argument (`place_sim`, `dfs_sim`);
everything about the fail / output_pos pass that does not mention the generated loop (`foM`,
`failOut_lists`); the initialisation (`init_stage`, `init_map`) and the size bound (`layoutStep_le`).
Per variant, here and again in Proofs/TieDC: the body of the DFS loop as a definition (`genStep`), its
agreement with the generated loop (`loop0_succ`), the tail of the body (`tail_sim`), the step
(`step_sim`) and the one-step equation of the fail pass (`loop2_cons`).  These match on values whose
type mentions the builder record, and Lean does not identify the match of a statement about an
arbitrary record with the match of the generated code, so a common statement could not be applied.
-/
import Daac.Gen.BuildB
import Daac.Props.TieBuild
import Daac.Proofs.Total
namespace Daac.Tie.D
open Daac Daac.Gen Daac.Tie.H
variable {V : Type}

def SameErr (e1 e2 : BuildErr) : Prop :=
  ∀ γ : Type, norm (.error e1 : Except BuildErr γ) = norm (.error e2)

theorem SameErr.refl (e : BuildErr) : SameErr e e := fun _ => rfl

theorem SameErr.panic (s1 s2 : String) : SameErr (.panic s1) (.panic s2) := fun _ => rfl

def RelE {α β : Type} (R : α → β → Prop) (x : Except BuildErr α) (y : Except BuildErr β) : Prop :=
  match x, y with
  | .ok a, .ok b => R a b
  | .error e1, .error e2 => SameErr e1 e2
  | _, _ => False

theorem RelE.err {α β : Type} {R : α → β → Prop} {e1 e2 : BuildErr} (h : SameErr e1 e2) :
    RelE R (.error e1 : Except BuildErr α) (.error e2 : Except BuildErr β) := h

theorem RelE.inv {α β : Type} {R : α → β → Prop} {x : Except BuildErr α} {y : Except BuildErr β}
    (h : RelE R x y) :
    (∃ a b, x = .ok a ∧ y = .ok b ∧ R a b) ∨ (∃ e1 e2, x = .error e1 ∧ y = .error e2 ∧ SameErr e1 e2) := by
  cases x <;> cases y
  · exact Or.inr ⟨_, _, rfl, rfl, h⟩
  · exact False.elim h
  · exact False.elim h
  · exact Or.inl ⟨_, _, rfl, rfl, h⟩

theorem RelE.mono {α β : Type} {R R' : α → β → Prop} {x : Except BuildErr α} {y : Except BuildErr β}
    (h : RelE R x y) (hm : ∀ a b, R a b → R' a b) : RelE R' x y := by
  rcases h.inv with ⟨a, b, rfl, rfl, hr⟩ | ⟨e1, e2, rfl, rfl, he⟩
  · exact hm a b hr
  · exact he

theorem RelE.norm_eq {α β : Type} {f : α → β} {x : Except BuildErr α} {y : Except BuildErr β}
    (h : RelE (fun a b => f a = b) x y) : norm (x.map f) = norm y := by
  cases x <;> cases y <;> simp only [RelE] at h
  · exact h β
  · subst h; rfl

/-- The form in which Proofs/TieH and Proofs/TieL tie a primitive to the model, as a `RelE`. -/
theorem RelE.of_norm {α β γ : Type} {f : α → γ} {f' : β → γ} {x : Except BuildErr α}
    {y : Except BuildErr β} (h : norm (x.map f) = norm (y.map f')) :
    RelE (fun a b => f a = f' b) x y := by
  rcases norm_cases f x _ h with ⟨a, rfl, hy⟩ | ⟨e1, e2, rfl, hy, he⟩
  · cases y with
    | error e => cases hy
    | ok b => exact (Except.ok.inj hy).symm
  · cases y with
    | error e => cases hy; exact he
    | ok b => cases hy

theorem RelE.of_norm' {α β : Type} {f : α → β} {x : Except BuildErr α} {y : Except BuildErr β}
    (h : norm (x.map f) = norm y) : RelE (fun a b => f a = b) x y := by
  rcases norm_cases f x y h with ⟨a, rfl, rfl⟩ | ⟨e1, e2, rfl, rfl, he⟩
  · exact rfl
  · exact he

theorem lt_of_getElem? {α : Type} (a : Array α) (i : Nat) (x : α) (h : a[i]? = some x) : i < a.size := by
  rcases Nat.lt_or_ge i a.size with h' | h'
  · exact h'
  · rw [Array.getElem?_eq_none h'] at h; cases h

theorem getD_of_getElem? (a : Array Nat) (i k : Nat) (h : a[i]? = some k) : a.getD i 0 = k := by
  simp [Array.getD_eq_getD_getElem?, h]

theorem index_set_self {α : Type} (a : Array α) (i : Nat) (x : α) (h : i < a.size) :
    Rs.index (a.setIfInBounds i x) i = .ok x := by
  simp [Rs.index, h]

theorem indexSet_ok {α : Type} (a : Array α) (i : Nat) (x v : α) (h : a[i]? = some x) :
    Rs.indexSet a i v = .ok (a.setIfInBounds i v) := by
  simp [Rs.indexSet, lt_of_getElem? a i x h]

theorem index_setSt' (a : Array St) (i : Nat) (f : St → St) :
    (∃ el, Rs.index a i = .ok el ∧ setSt a i f = .ok (a.setIfInBounds i (f el))) ∨
    (∃ s1 s2, Rs.index a i = .error (.panic s1) ∧ setSt a i f = .error (.panic s2)) := by
  by_cases h : i < a.size
  · left
    refine ⟨a[i], by simp [Rs.index, h], ?_⟩
    simp only [setSt, h, if_true, Tie.L.modify_eq_set a i h]
  · right
    refine ⟨"index out of bounds", "states[i]: index out of bounds", ?_, ?_⟩
    · simp [Rs.index, h]
    · simp only [setSt, h, if_false]

structure Sim (t : Trie V) (ido : List Nat → Nat) (b : LB.Builder) (g : H.BuildHelper)
    (sm : Array Nat) (lay : Lay) : Prop where
  states : b.states = lay.states
  helper : repr g = lay.h
  wf : Wf g
  map : ∀ u, t.hasNode u = true → sm[ido u]? = some (lay.idx.getD u deadIdx)

def IdInj (t : Trie V) (ido : List Nat → Nat) : Prop :=
  ∀ u w, t.hasNode u = true → t.hasNode w = true → ido u = ido w → u = w

theorem map_insert {t : Trie V} {ido : List Nat → Nat} (hinj : IdInj t ido) {sm : Array Nat}
    {idx : Std.HashMap (List Nat) Nat}
    (hmap : ∀ u, t.hasNode u = true → sm[ido u]? = some (idx.getD u deadIdx))
    {child : List Nat} (hchild : t.hasNode child = true) (i : Nat) (w : List Nat) (hw : t.hasNode w = true) :
    (sm.setIfInBounds (ido child) i)[ido w]? = some ((idx.insert child i).getD w deadIdx) := by
  rw [Std.HashMap.getD_insert]
  by_cases hcw : child = w
  · subst hcw
    have hlt : ido child < sm.size := lt_of_getElem? _ _ _ (hmap child hchild)
    simp [hlt]
  · have hne : ido child ≠ ido w := fun h => hcw (hinj child w hchild hw h)
    have hb : (child == w) = false := by simpa using hcw
    rw [Array.getElem?_setIfInBounds_ne hne, hb]
    exact hmap w hw

/-- A loop of the shape of `for (c, child_id) in edges { use_index; set_check; state_id_map[child_id] =
child_idx; stack.push(child_id) }` over any builder record with a `states` field (`get`, `set`)
simulates `placeChildren v`, where the CHECK written is the model's `chkOf v`.  `Rel` is the
simulation relation of the caller: `hget` is what the loop reads off it, `hmk` re-establishes it after
`states` has been replaced. -/
theorem place_sim {B : Type} (get : B → Array St) (set : B → Array St → B)
    (Rel : B → H.BuildHelper → Array Nat → Lay → Prop) (t : Trie V) (ido : List Nat → Nat)
    (hget : ∀ {b g sm lay}, Rel b g sm lay → get b = lay.states ∧ repr g = lay.h ∧ Wf g ∧
      ∀ u, t.hasNode u = true → sm[ido u]? = some (lay.idx.getD u deadIdx))
    (hmk : ∀ {b g sm lay}, Rel b g sm lay → ∀ A g' sm' lay', A = lay'.states → repr g' = lay'.h → Wf g' →
      (∀ u, t.hasNode u = true → sm'[ido u]? = some (lay'.idx.getD u deadIdx)) → Rel (set b A) g' sm' lay')
    (v : Variant) (hinj : IdInj t ido) (sidx base : Nat)
    (loop : List (Nat × Nat) → B → H.BuildHelper → Array Nat → List Nat →
      Except BuildErr (B × H.BuildHelper × Array Nat × List Nat))
    (hnil : ∀ b g sm stk, loop [] b g sm stk = .ok (b, g, sm, stk))
    (hcons : ∀ c id rest b g sm stk, loop ((c, id) :: rest) b g sm stk =
      match H.BuildHelper.use_index g (base ^^^ c) with
      | .error e => .error e
      | .ok (_, g) =>
        match Rs.index (get b) (base ^^^ c) with
        | .error e => .error e
        | .ok el =>
          match Rs.indexSet sm id (base ^^^ c) with
          | .error e => .error e
          | .ok sm =>
            loop rest (set b ((get b).setIfInBounds (base ^^^ c) { el with check := chkOf v c sidx }))
              g sm (id :: stk)) :
    ∀ (edges : List (Nat × List Nat)), (∀ e ∈ edges, t.hasNode e.2 = true) →
    ∀ (b : B) (g : H.BuildHelper) (sm : Array Nat) (stk : List Nat) (lay : Lay),
    Rel b g sm lay →
    RelE (fun r lay' => Rel r.1 r.2.1 r.2.2.1 lay' ∧
            r.2.2.2 = (edges.map (fun e => ido e.2)).reverse ++ stk)
      (loop (edges.map (fun e => (e.1, ido e.2))) b g sm stk)
      (placeChildren v sidx base edges lay) := by
  intro edges
  induction edges with
  | nil =>
    intro _ b g sm stk lay S
    simp only [List.map_nil, hnil]
    exact ⟨S, rfl⟩
  | cons e0 rest ih =>
    intro hn b g sm stk lay S
    obtain ⟨hst, hhelp, hwf, hmap⟩ := hget S
    obtain ⟨c, child⟩ := e0
    have hchild : t.hasNode child = true := hn (c, child) List.mem_cons_self
    simp only [List.map_cons]
    rw [hcons, placeChildren_cons, hst]
    have hu := use_index_eq g hwf (base ^^^ c)
    rw [hhelp] at hu
    rcases (RelE.of_norm' hu).inv with ⟨⟨u, g'⟩, h', hg, hm, rfl⟩ | ⟨e1, e2, hg, hm, he⟩
    · rw [hg, hm]
      rcases index_setSt' lay.states (base ^^^ c) (fun st => { st with check := chkOf v c sidx }) with
        ⟨el, h1, h2⟩ | ⟨s1, s2, h1, h2⟩
      · rw [h1, h2, indexSet_ok sm (ido child) _ (base ^^^ c) (hmap child hchild)]
        refine (ih (fun e he => hn e (List.mem_cons_of_mem _ he)) _ g'
          (sm.setIfInBounds (ido child) (base ^^^ c)) (ido child :: stk)
          ⟨lay.states.setIfInBounds (base ^^^ c) { el with check := chkOf v c sidx }, repr g',
            lay.idx.insert child (base ^^^ c)⟩
          (hmk S _ _ _ _ rfl rfl (wf_of_size hwf (use_index_size hwf hg))
            (map_insert hinj hmap hchild _))).mono ?_
        intro r lay' ⟨h1, h2⟩
        refine ⟨h1, ?_⟩
        rw [h2, List.reverse_cons, List.append_assoc, List.singleton_append]
      · rw [h1, h2]
        exact RelE.err (SameErr.panic _ _)
    · rw [hg, hm]
      exact RelE.err he

theorem loop1_sim (t : Trie V) (ido : List Nat → Nat) (hinj : IdInj t ido) (sidx base : Nat) :
    ∀ (edges : List (Nat × List Nat)), (∀ e ∈ edges, t.hasNode e.2 = true) →
    ∀ (b : LB.Builder) (g : H.BuildHelper) (sm : Array Nat) (stk : List Nat) (lay : Lay),
    Sim t ido b g sm lay →
    RelE (fun r lay' => Sim t ido r.1 r.2.1 r.2.2.1 lay' ∧
            r.2.2.2 = (edges.map (fun e => ido e.2)).reverse ++ stk)
      (DB.Builder.build_double_array.loop1 base (edges.map (fun e => (e.1, ido e.2))) b g sm stk)
      (placeChildren .bytewise sidx base edges lay) :=
  place_sim (·.states) (fun b A => { b with states := A }) (Sim t ido) t ido
    (fun S => ⟨S.states, S.helper, S.wf, S.map⟩) (fun _ _ _ _ _ h1 h2 h3 h4 => ⟨h1, h2, h3, h4⟩)
    .bytewise hinj sidx base (DB.Builder.build_double_array.loop1 base) (fun _ _ _ _ => rfl)
    (fun _ _ _ _ _ _ _ => rfl)

theorem loop3_sim (g : H.BuildHelper) (hw : Wf g) : ∀ (n b0 : Nat) (b : LB.Builder),
    norm ((DB.Builder.build_double_array.loop3 g (List.range' b0 n) b).map (·.states))
      = norm (sanitiseBlocks (repr g) n b0 b.states) := by
  intro n
  induction n with
  | zero => intro b0 b; rfl
  | succ n ih =>
    intro b0 b
    simp only [List.range'_succ, DB.Builder.build_double_array.loop3, sanitiseBlocks]
    rcases norm_cases _ _ _ (Tie.L.B.remove_invalid_checks_eq b g hw b0) with ⟨⟨u, b'⟩, h1, h2⟩ | ⟨e1, e2, h1, h2, he⟩
    · rw [h1, h2]
      exact ih (b0 + 1) b'
    · rw [h1, h2]
      exact he _

theorem final_loop_eq (g : H.BuildHelper) (hw : Wf g) (b : LB.Builder) :
    norm ((DB.Builder.build_double_array.loop3 g
        (Rs.rangeList (H.BuildHelper.active_block_range g).1 (H.BuildHelper.active_block_range g).2) b).map (·.states))
      = norm (sanitiseBlocks (repr g) ((repr g).numBlocks - (repr g).activeStart) (repr g).activeStart b.states) :=
  loop3_sim g hw _ _ b

theorem extendArray_idx (v : Variant) (lay lay1 : Lay) (h : extendArray v lay = .ok lay1) :
    lay1.idx = lay.idx := by
  rw [extendArray_eq] at h
  split at h
  · cases h
  · split at h
    · cases h
    · split at h
      · cases h
      · cases h; rfl

/-- The body of the generated DFS loop (proof-internal; `loop0_succ` shows that the generated loop is
exactly this body followed by the recursive call). -/
def genStep (nfa : N.NfaBuilder V) (b : LB.Builder) (g : H.BuildHelper) (sm : Array Nat) (sid : Nat)
    (stk labels : List Nat) :
    Except BuildErr (LB.Builder × H.BuildHelper × Array Nat × List Nat × List Nat) :=
  match Rs.index nfa.states sid with
  | .error e => .error e
  | .ok s =>
    match Rs.index sm sid with
    | .error e => .error e
    | .ok sidx =>
      if List.isEmpty s.edges then .ok (b, g, sm, stk, labels) else
      let labels := List.foldl (fun labels k => labels ++ [k]) [] (List.map Prod.fst s.edges)
      match LB.Builder.find_base b labels g with
      | .error e => .error e
      | .ok base =>
        match ((if decide (base ≥ b.states.size) then
            match LB.Builder.extend_array b g with
            | .error e => .error e
            | .ok (_, b, g) => .ok (b, g)
          else .ok (b, g)) : Except BuildErr (LB.Builder × H.BuildHelper)) with
        | .error e => .error e
        | .ok (b, g) =>
          match DB.Builder.build_double_array.loop1 base s.edges b g sm stk with
          | .error e => .error e
          | .ok (b, g, sm, stk) =>
            match Rs.index b.states sidx with
            | .error e => .error e
            | .ok el =>
              match H.BuildHelper.use_base g base with
              | .error e => .error e
              | .ok (_, g) =>
                .ok ({ b with states := b.states.setIfInBounds sidx (Rs.St.set_base el base) }, g, sm, stk, labels)

theorem loop0_nil (nfa : N.NfaBuilder V) (fuel : Nat) (b : LB.Builder) (g : H.BuildHelper) (sm : Array Nat)
    (labels : List Nat) :
    DB.Builder.build_double_array.loop0 nfa (fuel + 1) b g sm [] labels = .ok (b, g, sm, [], labels) := rfl

theorem loop0_succ (nfa : N.NfaBuilder V) (fuel : Nat) (b : LB.Builder) (g : H.BuildHelper) (sm : Array Nat)
    (sid : Nat) (stk labels : List Nat) :
    DB.Builder.build_double_array.loop0 nfa (fuel + 1) b g sm (sid :: stk) labels =
      match genStep nfa b g sm sid stk labels with
      | .error e => .error e
      | .ok (b', g', sm', stk', labels') => DB.Builder.build_double_array.loop0 nfa fuel b' g' sm' stk' labels' := by
  rw [DB.Builder.build_double_array.loop0]
  unfold genStep
  cases Rs.index nfa.states sid with
  | error e => rfl
  | ok s =>
    dsimp only
    cases Rs.index sm sid with
    | error e => rfl
    | ok sidx =>
      dsimp only
      cases hE : List.isEmpty s.edges with
      | true => simp only [if_true]
      | false =>
        simp only [Bool.false_eq_true, if_false]
        cases LB.Builder.find_base b _ g with
        | error e => rfl
        | ok base =>
          dsimp only
          generalize (if decide (base ≥ b.states.size) then _ else _ :
            Except BuildErr (LB.Builder × H.BuildHelper)) = X
          cases X with
          | error e => rfl
          | ok p =>
            obtain ⟨b1, g1⟩ := p
            dsimp only
            cases DB.Builder.build_double_array.loop1 base s.edges b1 g1 sm stk with
            | error e => rfl
            | ok q =>
              obtain ⟨b2, g2, sm2, stk2⟩ := q
              dsimp only
              cases Rs.index b2.states sidx with
              | error e => rfl
              | ok el =>
                dsimp only
                cases H.BuildHelper.use_base g2 base with
                | error e => rfl
                | ok r => rfl

theorem foldl_push (xs : List Nat) : ∀ acc : List Nat,
    List.foldl (fun l k => l ++ [k]) acc xs = acc ++ xs := by
  induction xs with
  | nil => intro acc; simp
  | cons x xs ih => intro acc; simp [ih]

theorem extend_array_wf {b b1 : LB.Builder} {g g1 : H.BuildHelper} {u : Unit} (hw : Wf g)
    (h : LB.Builder.extend_array b g = .ok (u, b1, g1)) : Wf g1 := by
  unfold LB.Builder.extend_array at h
  split at h
  · cases h
  · split at h
    · cases h
    · split at h
      · cases h
      · rename_i r4 s5 hp
        simp only [Except.ok.injEq, Prod.mk.injEq] at h
        obtain ⟨_, _, rfl⟩ := h
        exact wf_of_size hw (push_block_size hw hp)

theorem stack_map (ido : List Nat → Nat) (edges : List (Nat × List Nat)) (pstk : List (List Nat)) :
    (edges.map (fun e => ido e.2)).reverse ++ pstk.map ido = ((edges.map (·.2)).reverse ++ pstk).map ido := by
  rw [List.map_append, List.map_reverse, List.map_map]
  rfl

theorem tail_sim (t : Trie V) (ido : List Nat → Nat) (hinj : IdInj t ido)
    (edges : List (Nat × List Nat)) (hnode : ∀ e ∈ edges, t.hasNode e.2 = true)
    (b1 : LB.Builder) (g1 : H.BuildHelper) (sm : Array Nat) (lay1 : Lay) (S1 : Sim t ido b1 g1 sm lay1)
    (sidx base : Nat) (pstk : List (List Nat)) (labels : List Nat) :
    RelE (fun r p => Sim t ido r.1 r.2.1 r.2.2.1 p.2 ∧ r.2.2.2.1 = p.1.map ido)
      (match DB.Builder.build_double_array.loop1 base (edges.map (fun e => (e.1, ido e.2))) b1 g1 sm (pstk.map ido) with
        | .error e => .error e
        | .ok (b, g, sm, stk) =>
          match Rs.index b.states sidx with
          | .error e => .error e
          | .ok el =>
            match H.BuildHelper.use_base g base with
            | .error e => .error e
            | .ok (_, g) =>
              (.ok ({ b with states := b.states.setIfInBounds sidx (Rs.St.set_base el base) }, g, sm, stk, labels) :
                Except BuildErr (LB.Builder × H.BuildHelper × Array Nat × List Nat × List Nat)))
      (stepTail .bytewise sidx base edges pstk lay1) := by
  unfold stepTail
  rcases (loop1_sim t ido hinj sidx base edges hnode b1 g1 sm (pstk.map ido) lay1 S1).inv with
    ⟨⟨b2, g2, sm2, stk2⟩, lay2, hl, hp, S2, hstk⟩ | ⟨e1, e2, hl, hp, he⟩
  · rw [hl, hp]
    dsimp only
    rw [S2.states]
    rcases index_setSt' lay2.states sidx (fun st => { st with base := base }) with ⟨el, i1, i2⟩ | ⟨s1, s2, i1, i2⟩
    · rw [i1, i2]
      have hu := use_base_eq g2 S2.wf base
      rw [S2.helper] at hu
      rcases (RelE.of_norm' hu).inv with ⟨⟨u, g3⟩, h3, hg, hm, rfl⟩ | ⟨e1, e2, hg, hm, he⟩
      · rw [hg, hm]
        exact ⟨⟨rfl, rfl, wf_of_size S2.wf (use_base_size S2.wf hg), S2.map⟩,
          hstk.trans (stack_map ido edges pstk)⟩
      · rw [hg, hm]
        exact RelE.err he
    · rw [i1, i2]
      exact RelE.err (SameErr.panic _ _)
  · rw [hl, hp]
    exact RelE.err he

theorem step_sim (m : Mapper) (t : Trie V) (ido : List Nat → Nat) (hinj : IdInj t ido)
    (nfa : N.NfaBuilder V) (u : List Nat) (hu : t.hasNode u = true) (s : N.NfaBuilderState V)
    (hs : nfa.states[ido u]? = some s)
    (he : s.edges = (LayB.edgesB t u).map (fun e => (e.1, ido e.2)))
    (b : LB.Builder) (g : H.BuildHelper) (sm : Array Nat) (lay : Lay) (S : Sim t ido b g sm lay)
    (vac : List Nat) (mwf : lay.h.WF) (ll : lay.h.LL vac) (hbl : lay.h.blockLen = 256)
    (hsz : 0 < lay.states.size ∧ lay.states.size ≤ 4294967295) (pstk : List (List Nat)) (labels : List Nat) :
    RelE (fun r p => Sim t ido r.1 r.2.1 r.2.2.1 p.2 ∧ r.2.2.2.1 = p.1.map ido)
      (genStep nfa b g sm (ido u) (pstk.map ido) labels)
      (layoutStep .bytewise m t u pstk lay) := by
  have hec : edgeCodes .bytewise m t u = .ok (LayB.edgesB t u) := rfl
  have hnode : ∀ e ∈ LayB.edgesB t u, t.hasNode e.2 = true := by
    intro e he'
    obtain ⟨c, hc, rfl⟩ := (LayB.mem_edgesB hu e).1 he'
    exact hc
  have hlab : List.foldl (fun (l : List Nat) k => l ++ [k]) [] (List.map Prod.fst s.edges)
      = (LayB.edgesB t u).map (·.1) := by
    rw [foldl_push, List.nil_append, he, List.map_map]
    rfl
  unfold genStep
  rw [index_ok' _ _ _ hs, index_ok' _ _ _ (S.map u hu)]
  simp only [hlab]
  cases hE : LayB.edgesB t u with
  | nil =>
    rw [hE] at hec he
    rw [layoutStep_nil pstk lay hec, he]
    exact ⟨S, rfl⟩
  | cons e0 rest =>
    rw [hE] at hec he hnode
    rw [layoutStep_cons pstk lay hec, he]
    have hne : (List.map (fun e : Nat × List Nat => (e.1, ido e.2)) (e0 :: rest)).isEmpty = false := rfl
    rw [hne, if_neg Bool.false_ne_true]
    have hfb := Props.TieBuild.generated_find_base_bytewise b g vac
      ⟨S.wf, by rw [S.helper]; exact mwf, by rw [S.helper]; exact ll⟩ lay.idx ((e0 :: rest).map (·.1))
      (List.cons_ne_nil _ _) (by rw [S.states]; exact hsz)
    rw [S.states, S.helper, show (⟨lay.states, lay.h, lay.idx⟩ : Lay) = lay from rfl] at hfb
    rcases norm_cases' _ _ hfb with ⟨base, f1, f2⟩ | ⟨e1, e2, f1, f2, hee⟩
    · rw [f1, f2]
      dsimp only
      by_cases hge : lay.states.size ≤ base
      · rw [if_pos hge, S.states, decide_eq_true hge, if_pos rfl]
        have hx := Tie.L.B.extend_array_eq b g S.wf (by rw [← S.helper] at hbl; exact hbl) lay.idx
        rw [S.states, S.helper, show (⟨lay.states, lay.h, lay.idx⟩ : Lay) = lay from rfl] at hx
        rcases (RelE.of_norm hx).inv with ⟨⟨uu, b1, g1⟩, lay1, x1, x2, xr⟩ | ⟨e1, e2, x1, x2, hee⟩
        · rw [x1, x2]
          obtain ⟨r1, r2⟩ := Prod.mk.inj xr
          exact tail_sim t ido hinj (e0 :: rest) hnode b1 g1 sm lay1
            ⟨r1, r2, extend_array_wf S.wf x1,
              by rw [extendArray_idx _ _ _ x2]; exact S.map⟩ _ base pstk _
        · rw [x1, x2]
          exact RelE.err hee
      · rw [if_neg hge, S.states, decide_eq_false hge, if_neg Bool.false_ne_true]
        exact tail_sim t ido hinj (e0 :: rest) hnode b g sm lay S _ base pstk _
    · rw [f1, f2]
      exact RelE.err hee

theorem setSt_size {s s' : Array St} {i : Nat} {f : St → St} (h : setSt s i f = .ok s') :
    s'.size = s.size := by
  unfold setSt at h
  split at h
  · cases h; simp
  · cases h

theorem placeChildren_size (v : Variant) (sidx base : Nat) : ∀ (edges : List (Nat × List Nat)) (lay lay' : Lay),
    placeChildren v sidx base edges lay = .ok lay' → lay'.states.size = lay.states.size := by
  intro edges
  induction edges with
  | nil =>
    intro lay lay' h
    cases h; rfl
  | cons e rest ih =>
    intro lay lay' h
    obtain ⟨c, child⟩ := e
    rw [placeChildren_cons] at h
    split at h
    · cases h
    · split at h
      · cases h
      · rename_i states' hs
        rw [ih _ _ h]
        exact setSt_size hs

theorem removeInvalidChecks_size {s s' : Array St} {h : Helper} {b : Nat}
    (e : removeInvalidChecks s h b = .ok s') : s'.size = s.size := by
  unfold removeInvalidChecks at e
  split at e
  · cases e
  · cases e; rfl
  · exact (LayB.sanitiseLoop_spec _ _ _ _ _ _ e).1

/-- `extend_array` refuses to grow past `u32::MAX`. -/
theorem extendArray_le (v : Variant) (lay lay1 : Lay) (hpos : 0 < lay.states.size)
    (h : extendArray v lay = .ok lay1) : lay1.states.size ≤ 4294967295 := by
  rw [extendArray_eq] at h
  split at h
  · cases h
  · rename_i hbig
    split at h
    · cases h
    · rename_i states hsan
      have hst : states.size = lay.states.size := by
        unfold sanitisedOf at hsan
        split at hsan
        · exact removeInvalidChecks_size hsan
        · cases hsan; rfl
      split at h
      · cases h
      · cases h
        unfold u32Max at hbig
        show (states ++ Array.replicate lay.h.blockLen (stDefault v)).size ≤ 4294967295
        rw [Array.size_append, Array.size_replicate, hst]
        omega

theorem layoutStep_le {v : Variant} {m : Mapper} {t : Trie V} {u : List Nat} {stack stack' : List (List Nat)}
    {lay lay' : Lay} (hpos : 0 < lay.states.size) (hle : lay.states.size ≤ 4294967295)
    (h : layoutStep v m t u stack lay = .ok (stack', lay')) : lay'.states.size ≤ 4294967295 := by
  cases hec : edgeCodes v m t u with
  | error e =>
    unfold layoutStep at h
    rw [hec] at h
    cases h
  | ok edges =>
    cases edges with
    | nil =>
      rw [layoutStep_nil stack lay hec] at h
      cases h; exact hle
    | cons e0 rest =>
      rw [layoutStep_cons stack lay hec] at h
      split at h
      · cases h
      · split at h
        · cases h
        · rename_i lay1 hx
          have h1 : lay1.states.size ≤ 4294967295 := by
            split at hx
            · exact extendArray_le v lay lay1 hpos hx
            · cases hx; exact hle
          unfold stepTail at h
          split at h
          · cases h
          · rename_i lay2 hp
            split at h
            · cases h
            · rename_i st' hs
              have hst : lay'.states = st' := by
                cases v with
                | charwise => cases h; rfl
                | bytewise =>
                  dsimp only at h
                  split at h
                  · cases h
                  · cases h; rfl
              rw [hst, setSt_size hs, placeChildren_size _ _ _ _ _ _ hp]
              exact h1

/-- The `NfaBuilder` `g` represents the model NFA `nfa` over the trie `t`; `ido` maps a node (path) to
its state id.  (Flat form of `TieN.Rep g.states pth t 0 []` + the conditions on `fail` / `output_pos`:
`ido u` is the id with `pth id = some u`.) -/
structure NfaRep (g : N.NfaBuilder V) (t : Trie V) (nfa : Nfa V) (ido : List Nat → Nat) : Prop where
  root : ido [] = Gen.rootStateId
  inj : IdInj t ido
  neDead : ∀ u, t.hasNode u = true → ido u ≠ Gen.deadStateId
  size : g.states.size = t.size + 1
  onto : ∀ i, i < g.states.size → i ≠ Gen.deadStateId → ∃ u, t.hasNode u = true ∧ ido u = i
  node : ∀ u, t.hasNode u = true → ∃ s, g.states[ido u]? = some s ∧
    s.edges = (LayB.edgesB t u).map (fun e => (e.1, ido e.2)) ∧
    s.fail = (match nfa.fail.get u with
      | .dead => Gen.deadStateId
      | .node w => ido w) ∧
    s.output_pos.getD 0 = nfa.out.opos.getD u 0

/-- A loop of the shape of `while let Some(state_id) = stack.pop() { step }` over any loop state
simulates `layoutLoop v`, given that one `step` simulates `layoutStep v` (relation `R`) and that a
successful model step pushes distinct children of the popped node and keeps the model-side invariant
`J`, the free list and the size bound.  `T` (Proofs/Total) bounds the number of iterations by the
number of nodes, so fuel `t.size + 1` on the model side and more on the Rust side never runs out. -/
theorem dfs_sim {B X : Type} (v : Variant) (m : Mapper) (t : Trie V) (ido : List Nat → Nat) (hsort : t.Sorted)
    (loop : Nat → B → H.BuildHelper → Array Nat → List Nat → X →
      Except BuildErr (B × H.BuildHelper × Array Nat × List Nat × X))
    (step : B → H.BuildHelper → Array Nat → Nat → List Nat → X →
      Except BuildErr (B × H.BuildHelper × Array Nat × List Nat × X))
    (hnil : ∀ fuel b g sm x, loop (fuel + 1) b g sm [] x = .ok (b, g, sm, [], x))
    (hok : ∀ fuel b g sm sid stk x b' g' sm' stk' x', step b g sm sid stk x = .ok (b', g', sm', stk', x') →
      loop (fuel + 1) b g sm (sid :: stk) x = loop fuel b' g' sm' stk' x')
    (herr : ∀ fuel b g sm sid stk x e, step b g sm sid stk x = .error e →
      loop (fuel + 1) b g sm (sid :: stk) x = .error e)
    (R : B → H.BuildHelper → Array Nat → Lay → Prop) (J : Lay → List (List Nat) → Prop)
    (hstep : ∀ u rest lay vac b g sm x, t.hasNode u = true → J lay (u :: rest) → lay.h.LL vac →
      lay.states.size ≤ 4294967295 → R b g sm lay →
      RelE (fun r p => R r.1 r.2.1 r.2.2.1 p.2 ∧ r.2.2.2.1 = p.1.map ido)
        (step b g sm (ido u) (rest.map ido) x) (layoutStep v m t u rest lay) ∧
      ∀ stack' lay', layoutStep v m t u rest lay = .ok (stack', lay') →
        (∃ L : List (List Nat), L.Nodup ∧ (∀ w ∈ L, w ∈ t.childPaths u) ∧ stack' = L.reverse ++ rest) ∧
        J lay' stack' ∧ (∃ vac', lay'.h.LL vac') ∧ lay'.states.size ≤ 4294967295) :
    ∀ (fm fg : Nat) (pstk : List (List Nat)) (lay : Lay) (seen : List (List Nat)) (vac : List Nat)
      (b : B) (g : H.BuildHelper) (sm : Array Nat) (x : X),
      J lay pstk → lay.h.LL vac → T t seen pstk → t.size + 1 ≤ fm + seen.length → fm + 1 ≤ fg →
      lay.states.size ≤ 4294967295 → R b g sm lay →
      RelE (fun r lay' => R r.1 r.2.1 r.2.2.1 lay' ∧ J lay' [] ∧ lay'.states.size ≤ 4294967295)
        (loop fg b g sm (pstk.map ido) x) (layoutLoop v m t fm pstk lay) := by
  have hN : ∀ fm fg lay b g sm x, fm + 1 ≤ fg → J lay [] → lay.states.size ≤ 4294967295 → R b g sm lay →
      RelE (fun r lay' => R r.1 r.2.1 r.2.2.1 lay' ∧ J lay' [] ∧ lay'.states.size ≤ 4294967295)
        (loop fg b g sm (([] : List (List Nat)).map ido) x) (layoutLoop v m t fm [] lay) := by
    intro fm fg lay b g sm x hfg hj hle hr
    obtain ⟨fg', rfl⟩ := Nat.exists_eq_add_one_of_ne_zero (Nat.ne_of_gt (Nat.lt_of_lt_of_le (Nat.succ_pos fm) hfg))
    rw [List.map_nil, hnil, layoutLoop_nil]
    exact ⟨hr, hj, hle⟩
  intro fm
  induction fm with
  | zero =>
    intro fg pstk lay seen vac b g sm x hj ll tt hf hfg hle hr
    cases pstk with
    | nil => exact hN 0 fg lay b g sm x hfg hj hle hr
    | cons u rest =>
      -- more nodes on the stack and seen than the trie has
      have := tt.length_le hsort
      rw [List.length_cons] at this
      omega
  | succ fm ih =>
    intro fg pstk lay seen vac b g sm x hj ll tt hf hfg hle hr
    cases pstk with
    | nil => exact hN (fm + 1) fg lay b g sm x hfg hj hle hr
    | cons u rest =>
      obtain ⟨fg', rfl⟩ := Nat.exists_eq_add_one_of_ne_zero (Nat.ne_of_gt (Nat.lt_of_lt_of_le (Nat.succ_pos _) hfg))
      have hu : t.hasNode u = true := tt.node u (List.mem_append_right _ List.mem_cons_self)
      obtain ⟨hsim, hnext⟩ := hstep u rest lay vac b g sm x hu hj ll hle hr
      rw [List.map_cons, layoutLoop_cons]
      rcases hsim.inv with ⟨⟨b', g', sm', stk', x'⟩, ⟨stack', lay'⟩, hs, hm, hr', hstk⟩ | ⟨e1, e2, hs, hm, he⟩
      · obtain ⟨⟨L, hL, hsub, rfl⟩, hj', ⟨vac', ll'⟩, hle'⟩ := hnext stack' lay' hm
        rw [hok _ _ _ _ _ _ _ _ _ _ _ _ hs, hm, show stk' = _ from hstk]
        exact ih fg' _ lay' (u :: seen) vac' b' g' sm' x' hj' ll' (tt.step hL hsub)
          (by rw [List.length_cons, ← Nat.add_assoc, Nat.add_right_comm]; exact hf)
          (Nat.le_of_succ_le_succ hfg) hle' hr'
      · rw [herr _ _ _ _ _ _ _ _ hs, hm]
        exact RelE.err he

/-- The model-side invariant of the byte-wise DFS loop (Proofs/LayoutB.lean). -/
def JB (t : Trie V) (lay : Lay) (stack : List (List Nat)) : Prop :=
  ∃ done, LayB.Inv t done stack (LayB.ixOf lay) (LayB.gs lay.states) lay.states.size lay.h

theorem loop_sim (m : Mapper) (t : Trie V) (ido : List Nat → Nat) (nfa : N.NfaBuilder V)
    (hinj : IdInj t ido)
    (hnode : ∀ u, t.hasNode u = true → ∃ s, nfa.states[ido u]? = some s ∧
      s.edges = (LayB.edgesB t u).map (fun e => (e.1, ido e.2)))
    (hsort : t.Sorted) (hbytes : ∀ u, t.hasNode u = true → ∀ c ∈ u, c < 256) :
    ∀ (fm fg : Nat) (pstk : List (List Nat)) (lay : Lay) (seen : List (List Nat)) (vac : List Nat)
      (b : LB.Builder) (g : H.BuildHelper) (sm : Array Nat) (labels : List Nat),
      JB t lay pstk → lay.h.LL vac → T t seen pstk → t.size + 1 ≤ fm + seen.length → fm + 1 ≤ fg →
      lay.states.size ≤ 4294967295 → Sim t ido b g sm lay →
      RelE (fun r lay' => Sim t ido r.1 r.2.1 r.2.2.1 lay' ∧ JB t lay' [] ∧ lay'.states.size ≤ 4294967295)
        (DB.Builder.build_double_array.loop0 nfa fg b g sm (pstk.map ido) labels)
        (layoutLoop .bytewise m t fm pstk lay) := by
  refine dfs_sim .bytewise m t ido hsort (DB.Builder.build_double_array.loop0 nfa) (genStep nfa)
    (loop0_nil nfa) (fun _ _ _ _ _ _ _ _ _ _ _ _ h => by rw [loop0_succ, h])
    (fun _ _ _ _ _ _ _ _ h => by rw [loop0_succ, h]) (Sim t ido) (JB t) ?_
  intro u rest lay vac b g sm labels hu ⟨done, I⟩ ll hle S
  obtain ⟨edges, hec, nd1, hclt, nd2, hsub⟩ := edgesOK_bytewise (m := m) hsort hbytes hu
  obtain ⟨s, hs, hse⟩ := hnode u hu
  have hpos : 0 < lay.states.size := by
    have h1 := I.size
    have h2 := I.nbpos
    omega
  refine ⟨step_sim m t ido hinj nfa u hu s hs hse b g sm lay S vac I.wf ll I.bl ⟨hpos, hle⟩ rest labels, ?_⟩
  intro stack' lay' es
  rcases layoutStep_progress two56 (fun _ => rfl)
      ⟨I.wf, I.bl, I.size, fun w hw => I.lt w (I.stackPl w hw)⟩ ll hec nd1 hclt with ⟨lay'', es', hll⟩ | hsc
  · obtain ⟨rfl, rfl⟩ := Prod.mk.inj (Except.ok.inj (es.symm.trans es'))
    exact ⟨⟨_, nd2, hsub, rfl⟩, LayB.layoutStep_inv hsort hbytes I es, hll, layoutStep_le hpos hle es⟩
  · rw [hsc] at es
    cases es

/-! ### The fail / output_pos pass

Both passes are folds of the same per-node write over a list of triples (slot, output position, fail
index): the model visits the nodes in `t.paths []` order, the generated code in state-id order.  The
writes go to pairwise distinct slots, so the result does not depend on the order (`foM_perm_eq`). -/

/-- The write of `setFailOut` / of the generated loop body. -/
def wFO (op f : Nat) : St → St := fun s => { s with opos := op, fail := f }

/-- The fold both passes perform; the byte-wise `set_output_pos` rejects positions above `U24`. -/
def foM (v : Variant) : List (Nat × Nat × Nat) → Array St → Except BuildErr (Array St)
  | [], A => .ok A
  | x :: r, A =>
    if v = .bytewise ∧ x.2.1 > u24Max then .error .automatonScale else
    match setSt A x.1 (wFO x.2.1 x.2.2) with
    | .error e => .error e
    | .ok A' => foM v r A'

theorem wFO_idem (op f : Nat) (o : Option St) : (o.map (wFO op f)).map (wFO op f) = o.map (wFO op f) := by
  cases o <;> rfl

theorem foM_cases (v : Variant) : ∀ (T : List (Nat × Nat × Nat)) (A : Array St), (∀ x ∈ T, x.1 < A.size) →
    ((∀ x ∈ T, ¬ (v = .bytewise ∧ x.2.1 > u24Max)) ∧ ∃ A', foM v T A = .ok A' ∧
      (∀ j, (∀ x ∈ T, x.1 ≠ j) → A'[j]? = A[j]?) ∧
      ((∀ x y, x ∈ T → y ∈ T → x.1 = y.1 → x = y) →
        ∀ x ∈ T, A'[x.1]? = A[x.1]?.map (wFO x.2.1 x.2.2))) ∨
    ((∃ x ∈ T, v = .bytewise ∧ x.2.1 > u24Max) ∧ foM v T A = .error .automatonScale) := by
  intro T
  induction T with
  | nil =>
    intro A _
    exact Or.inl ⟨fun _ h => absurd h List.not_mem_nil, A, rfl, fun _ _ => rfl,
      fun _ _ h => absurd h List.not_mem_nil⟩
  | cons x0 r ih =>
    intro A hlt
    by_cases hop : v = .bytewise ∧ x0.2.1 > u24Max
    · exact Or.inr ⟨⟨x0, List.mem_cons_self, hop⟩, by rw [foM, if_pos hop]⟩
    · have es := setSt_lt (s := A) (wFO x0.2.1 x0.2.2) (hlt x0 List.mem_cons_self)
      have hsz : (A.modify x0.1 (wFO x0.2.1 x0.2.2)).size = A.size := Array.size_modify
      rcases ih (A.modify x0.1 (wFO x0.2.1 x0.2.2))
          (fun x hx => by rw [hsz]; exact hlt x (List.mem_cons_of_mem _ hx)) with
        ⟨hall, A', e, hun, hfun⟩ | ⟨⟨x, hx, h⟩, e⟩
      · refine Or.inl ⟨?_, A', by rw [foM, if_neg hop, es]; exact e, ?_, ?_⟩
        · intro x hx
          rcases List.mem_cons.1 hx with rfl | hx
          · exact hop
          · exact hall x hx
        · intro j hj
          rw [hun j (fun x hx => hj x (List.mem_cons_of_mem _ hx)), Array.getElem?_modify,
            if_neg (hj x0 List.mem_cons_self)]
        · intro hinj x hx
          have hinj' : ∀ a b, a ∈ r → b ∈ r → a.1 = b.1 → a = b :=
            fun a b ha hb => hinj a b (List.mem_cons_of_mem _ ha) (List.mem_cons_of_mem _ hb)
          by_cases hr : x ∈ r
          · rw [hfun hinj' x hr, Array.getElem?_modify]
            by_cases hkx : x0.1 = x.1
            · -- the same slot again: the same triple, and the write is idempotent
              obtain rfl : x = x0 := hinj x x0 hx List.mem_cons_self hkx.symm
              rw [if_pos rfl]
              exact wFO_idem _ _ _
            · rw [if_neg hkx]
          · obtain rfl : x = x0 := (List.mem_cons.1 hx).resolve_right hr
            have hne : ∀ y ∈ r, y.1 ≠ x.1 := by
              intro y hy hyk
              obtain rfl : y = x := hinj y x (List.mem_cons_of_mem _ hy) List.mem_cons_self hyk
              exact hr hy
            rw [hun x.1 hne, Array.getElem?_modify, if_pos rfl]
      · exact Or.inr ⟨⟨x, List.mem_cons_of_mem _ hx, h⟩, by rw [foM, if_neg hop, es]; exact e⟩

theorem foM_perm_eq (v : Variant) (T1 T2 : List (Nat × Nat × Nat)) (A : Array St) (hmem : ∀ x, x ∈ T1 ↔ x ∈ T2)
    (hlt : ∀ x ∈ T1, x.1 < A.size) (hinj : ∀ x y, x ∈ T1 → y ∈ T1 → x.1 = y.1 → x = y) :
    foM v T1 A = foM v T2 A := by
  have hlt2 : ∀ x ∈ T2, x.1 < A.size := fun x hx => hlt x ((hmem x).2 hx)
  have hinj2 : ∀ x y, x ∈ T2 → y ∈ T2 → x.1 = y.1 → x = y :=
    fun x y hx hy => hinj x y ((hmem x).2 hx) ((hmem y).2 hy)
  rcases foM_cases v T1 A hlt with ⟨hall1, A1, e1, un1, fn1⟩ | ⟨⟨x, hx, hop⟩, e1⟩
  · rcases foM_cases v T2 A hlt2 with ⟨_, A2, e2, un2, fn2⟩ | ⟨⟨x, hx, hop⟩, _⟩
    · rw [e1, e2]
      congr 1
      apply Array.ext_getElem?
      intro j
      by_cases hj : ∃ x ∈ T1, x.1 = j
      · obtain ⟨x, hx, rfl⟩ := hj
        rw [fn1 hinj x hx, fn2 hinj2 x ((hmem x).1 hx)]
      · have h1 : ∀ x ∈ T1, x.1 ≠ j := fun x hx e => hj ⟨x, hx, e⟩
        rw [un1 j h1, un2 j (fun x hx => h1 x ((hmem x).2 hx))]
    · exact absurd hop (hall1 x ((hmem x).2 hx))
  · rcases foM_cases v T2 A hlt2 with ⟨hall2, _, _⟩ | ⟨_, e2⟩
    · exact absurd hop (hall2 x ((hmem x).1 hx))
    · rw [e1, e2]

def tripM (nfa : Nfa V) (idx : Std.HashMap (List Nat) Nat) (u : List Nat) : Nat × Nat × Nat :=
  (idx.getD u deadIdx, nfa.out.opos.getD u 0, LayB.failIdx nfa (fun w => idx.getD w deadIdx) u)

theorem setFailOut_cons (v : Variant) (nfa : Nfa V) (u : List Nat) (rest : List (List Nat)) (lay : Lay) :
    setFailOut v nfa (u :: rest) lay =
      if v = .bytewise ∧ (tripM nfa lay.idx u).2.1 > u24Max then .error .automatonScale else
      match setSt lay.states (tripM nfa lay.idx u).1
          (wFO (tripM nfa lay.idx u).2.1 (tripM nfa lay.idx u).2.2) with
      | .error e => .error e
      | .ok A => setFailOut v nfa rest { lay with states := A } := rfl

theorem setFailOut_eq_foM (v : Variant) (nfa : Nfa V) : ∀ (L : List (List Nat)) (lay : Lay),
    setFailOut v nfa L lay
      = (foM v (L.map (tripM nfa lay.idx)) lay.states).map (fun A => { lay with states := A }) := by
  intro L
  induction L with
  | nil => intro lay; rfl
  | cons u rest ih =>
    intro lay
    rw [setFailOut_cons, List.map_cons, foM]
    by_cases hop : v = .bytewise ∧ (tripM nfa lay.idx u).2.1 > u24Max
    · rw [if_pos hop, if_pos hop]; rfl
    · rw [if_neg hop, if_neg hop]
      cases setSt lay.states (tripM nfa lay.idx u).1 (wFO (tripM nfa lay.idx u).2.1 (tripM nfa lay.idx u).2.2) with
      | error e => rfl
      | ok A => exact ih { lay with states := A }

def tripG (sm : Array Nat) (it : Nat × N.NfaBuilderState V) : Nat × Nat × Nat :=
  (sm.getD it.1 0, it.2.output_pos.getD 0,
   if it.2.fail = Gen.deadStateId then Gen.deadStateIdx else sm.getD it.2.fail 0)

/-- All indexing of the generated loop body is in range for this item. -/
def GoodItem (sm : Array Nat) (n : Nat) (it : Nat × N.NfaBuilderState V) : Prop :=
  it.1 ≠ Gen.deadStateId →
    it.1 < sm.size ∧ sm.getD it.1 0 < n ∧ (it.2.fail ≠ Gen.deadStateId → it.2.fail < sm.size)

theorem set_set_eq_modify (A : Array St) (k op f : Nat) (d : St) (h : k < A.size) :
    (A.setIfInBounds k { A.getD k d with opos := op }).setIfInBounds k
        { ({ A.getD k d with opos := op } : St) with fail := f }
      = A.modify k (wFO op f) := by
  rw [Array.setIfInBounds_setIfInBounds, Tie.L.modify_eq_set A k h]
  have : A.getD k d = A[k] := by simp [Array.getD, h]
  rw [this]
  rfl

theorem loop2_cons (sm : Array Nat) (i : Nat) (st : N.NfaBuilderState V)
    (rest : List (Nat × N.NfaBuilderState V)) (b : LB.Builder) (hd : i ≠ Gen.deadStateId)
    (hg : GoodItem sm b.states.size (i, st)) :
    DB.Builder.build_double_array.loop2 sm ((i, st) :: rest) b =
      if (tripG sm (i, st)).2.1 ≤ Gen.u24Max then
        DB.Builder.build_double_array.loop2 sm rest
          { b with states :=
              (b.states.modify (tripG sm (i, st)).1 (wFO (tripG sm (i, st)).2.1 (tripG sm (i, st)).2.2)) }
      else .error .automatonScale := by
  obtain ⟨g1, g2, g3⟩ := hg hd
  have h1 : (i == Gen.deadStateId) = false := by simpa using hd
  rw [DB.Builder.build_double_array.loop2, h1]
  simp only [Bool.false_eq_true, if_false, index_ok sm i 0 g1, index_ok b.states _ stDefaultB g2,
    Rs.St.set_output_pos, tripG]
  by_cases hop : st.output_pos.getD 0 ≤ Gen.u24Max
  · by_cases hf : st.fail = Gen.deadStateId
    · simp only [if_pos hop, hf, beq_self_eq_true, if_true, index_set_self _ _ _ g2, Rs.St.set_fail,
        set_set_eq_modify _ _ _ _ _ g2]
    · have hfb : (st.fail == Gen.deadStateId) = false := by simpa using hf
      simp only [if_pos hop, hfb, if_neg hf, Bool.false_eq_true, if_false, index_ok sm st.fail 0 (g3 hf),
        index_set_self _ _ _ g2, Rs.St.set_fail, set_set_eq_modify _ _ _ _ _ g2]
  · simp only [if_neg hop]

theorem loop2_eq_foM (sm : Array Nat) : ∀ (items : List (Nat × N.NfaBuilderState V)) (b : LB.Builder),
    (∀ it ∈ items, GoodItem sm b.states.size it) →
    RelE (fun b' A => b'.states = A)
      (DB.Builder.build_double_array.loop2 sm items b)
      (foM .bytewise ((items.filter (fun it => it.1 != Gen.deadStateId)).map (tripG sm)) b.states) := by
  intro items
  induction items with
  | nil => intro b _; rfl
  | cons it rest ih =>
    intro b hgood
    obtain ⟨i, st⟩ := it
    have hrest : ∀ it ∈ rest, GoodItem sm b.states.size it := fun it h => hgood it (List.mem_cons_of_mem _ h)
    by_cases hd : i = Gen.deadStateId
    · have h1 : (i == Gen.deadStateId) = true := by simpa using hd
      have h2 : ((i, st).1 != Gen.deadStateId) = false := by simp [hd]
      rw [DB.Builder.build_double_array.loop2, h1, if_pos rfl,
        List.filter_cons_of_neg (p := fun it : Nat × N.NfaBuilderState V => it.1 != Gen.deadStateId)
          (by rw [h2]; exact Bool.false_ne_true)]
      exact ih b hrest
    · have h2 : ((i, st).1 != Gen.deadStateId) = true := by simpa using hd
      rw [loop2_cons sm i st rest b hd (hgood _ List.mem_cons_self),
        List.filter_cons_of_pos (p := fun it : Nat × N.NfaBuilderState V => it.1 != Gen.deadStateId) h2,
        List.map_cons, foM]
      have g2 : (tripG sm (i, st)).1 < b.states.size := (hgood _ List.mem_cons_self hd).2.1
      by_cases hop : (tripG sm (i, st)).2.1 ≤ Gen.u24Max
      · rw [if_pos hop, if_neg (fun h => Nat.not_lt.2 hop h.2), setSt_lt _ g2]
        exact ih _ (by rw [Array.size_modify]; exact hrest)
      · rw [if_neg hop, if_pos ⟨rfl, Nat.not_le.1 hop⟩]
        exact RelE.err (SameErr.refl _)

theorem enumerateFrom_eq {α : Type} : ∀ (l : List α) (n : Nat),
    Rs.enumerateFrom n l = (l.zipIdx n).map (fun p => (p.2, p.1)) := by
  intro l
  induction l with
  | nil => intro n; rfl
  | cons a l ih => intro n; rw [Rs.enumerateFrom, ih, List.zipIdx_cons, List.map_cons]

theorem mem_enumerateA {α : Type} (a : Array α) (i : Nat) (x : α) :
    (i, x) ∈ Rs.enumerateA a ↔ a[i]? = some x := by
  rw [Rs.enumerateA, Rs.enumerate, enumerateFrom_eq, List.mem_map]
  constructor
  · rintro ⟨⟨y, j⟩, hm, he⟩
    cases he
    simpa using List.mem_zipIdx_iff_getElem?.1 hm
  · intro h
    exact ⟨(x, i), List.mem_zipIdx_iff_getElem?.2 (by simpa using h), rfl⟩

def FailNodes (t : Trie V) (nfa : Nfa V) : Prop :=
  ∀ u w, t.hasNode u = true → nfa.fail.get u = .node w → t.hasNode w = true

section
variable (t : Trie V) (nfa : Nfa V) (g : N.NfaBuilder V) (ido : List Nat → Nat)
  (R : NfaRep g t nfa ido) (hfn : FailNodes t nfa) (sm : Array Nat) (lay : Lay)
  (hmap : ∀ u, t.hasNode u = true → sm[ido u]? = some (lay.idx.getD u deadIdx))
include R hfn hmap

theorem trip_eq (u : List Nat) (hu : t.hasNode u = true) (st : N.NfaBuilderState V)
    (hst : g.states[ido u]? = some st) :
    tripG sm (ido u, st) = tripM nfa lay.idx u := by
  obtain ⟨s, hs, _, hfail, hop⟩ := R.node u hu
  rw [hst] at hs
  cases hs
  unfold tripG tripM LayB.failIdx
  simp only [getD_of_getElem? _ _ _ (hmap u hu), hop, Prod.mk.injEq, true_and]
  rw [hfail]
  cases hf : nfa.fail.get u with
  | dead => simp only [if_true]; rfl
  | node w =>
    have hw := hfn u w hu hf
    simp only [if_neg (R.neDead w hw), getD_of_getElem? _ _ _ (hmap w hw)]

theorem failOut_lists (v : Variant) (hsort : t.Sorted)
    (hix : ∀ w, t.hasNode w = true → lay.idx.getD w deadIdx < lay.states.size)
    (hinj : ∀ u w, t.hasNode u = true → t.hasNode w = true →
      lay.idx.getD u deadIdx = lay.idx.getD w deadIdx → u = w) :
    (∀ it ∈ Rs.enumerateA g.states, GoodItem sm lay.states.size it) ∧
    foM v (((Rs.enumerateA g.states).filter (fun it => it.1 != Gen.deadStateId)).map (tripG sm)) lay.states
      = foM v ((t.paths []).map (tripM nfa lay.idx)) lay.states := by
  have hpaths : ∀ u, u ∈ t.paths [] ↔ t.hasNode u = true := fun u => Trie.mem_paths_nil t hsort u
  -- every item except the dead state's is a node's
  have hitem : ∀ i st, (i, st) ∈ Rs.enumerateA g.states → i ≠ Gen.deadStateId →
      ∃ u, t.hasNode u = true ∧ ido u = i ∧ g.states[ido u]? = some st := by
    intro i st hm hd
    have h1 := (mem_enumerateA _ _ _).1 hm
    obtain ⟨u, hu, rfl⟩ := R.onto i (lt_of_getElem? _ _ _ h1) hd
    exact ⟨u, hu, rfl, h1⟩
  constructor
  · rintro ⟨i, st⟩ hm hd
    obtain ⟨u, hu, rfl, hst⟩ := hitem i st hm hd
    have hsm := hmap u hu
    refine ⟨lt_of_getElem? _ _ _ hsm, ?_, ?_⟩
    · rw [getD_of_getElem? _ _ _ hsm]
      exact hix u hu
    · intro hf
      obtain ⟨s, hs, _, hfail, _⟩ := R.node u hu
      rw [hst] at hs
      cases hs
      simp only at hf
      rw [hfail] at hf ⊢
      cases hfg : nfa.fail.get u with
      | dead => rw [hfg] at hf; exact absurd rfl hf
      | node w => exact lt_of_getElem? _ _ _ (hmap w (hfn u w hu hfg))
  · refine (foM_perm_eq v _ _ lay.states ?_ ?_ ?_).symm
    · intro x
      simp only [List.mem_map, List.mem_filter]
      constructor
      · rintro ⟨u, hu, rfl⟩
        have hn := (hpaths u).1 hu
        obtain ⟨s, hs, _⟩ := R.node u hn
        exact ⟨(ido u, s), ⟨(mem_enumerateA _ _ _).2 hs, by simpa using R.neDead u hn⟩,
          trip_eq t nfa g ido R hfn sm lay hmap u hn s hs⟩
      · rintro ⟨⟨i, st⟩, ⟨hm, hd⟩, rfl⟩
        obtain ⟨u, hu, rfl, hst⟩ := hitem i st hm (by simpa using hd)
        exact ⟨u, (hpaths u).2 hu, (trip_eq t nfa g ido R hfn sm lay hmap u hu st hst).symm⟩
    · intro x hx
      obtain ⟨u, hu, rfl⟩ := List.mem_map.1 hx
      exact hix u ((hpaths u).1 hu)
    · intro x y hx hy hxy
      obtain ⟨u, hu, rfl⟩ := List.mem_map.1 hx
      obtain ⟨u', hu', rfl⟩ := List.mem_map.1 hy
      rw [hinj u u' ((hpaths u).1 hu) ((hpaths u').1 hu') hxy]

end

theorem loop2_sim (t : Trie V) (nfa : Nfa V) (g : N.NfaBuilder V) (ido : List Nat → Nat)
    (R : NfaRep g t nfa ido) (hfn : FailNodes t nfa) (hsort : t.Sorted)
    (b : LB.Builder) (gh : H.BuildHelper) (sm : Array Nat) (lay : Lay) (S : Sim t ido b gh sm lay)
    (hJ : JB t lay []) :
    RelE (fun b' lay' => b'.states = lay'.states ∧ lay'.h = lay.h)
      (DB.Builder.build_double_array.loop2 sm (Rs.enumerateA g.states) b)
      (setFailOut .bytewise nfa (t.paths []) lay) := by
  obtain ⟨done, I⟩ := hJ
  have hpl : ∀ w, t.hasNode w = true → LayB.Pl t done w := fun w hw => I.node_pl hw
  obtain ⟨hgood, hfo⟩ := failOut_lists t nfa g ido R hfn sm lay S.map .bytewise hsort
    (fun w hw => I.lt w (hpl w hw)) (fun u w hu hw => I.inj u w (hpl u hu) (hpl w hw))
  have G := loop2_eq_foM sm (Rs.enumerateA g.states) b (by rw [S.states]; exact hgood)
  rw [S.states, hfo] at G
  rw [setFailOut_eq_foM]
  rcases G.inv with ⟨b', A, hx, hy, hr⟩ | ⟨e1, e2, hx, hy, he⟩
  · rw [hx, hy]
    exact ⟨hr, rfl⟩
  · rw [hx, hy]
    exact RelE.err he

theorem genInit_wf (bl nfb : Nat) (gh : H.BuildHelper) (h : Tie.L.genInit bl nfb = .ok gh) : Wf gh := by
  revert h
  fun_cases Tie.L.genInit bl nfb <;> intro h
  case case5 r1 h0 u1 s3 h1 u2 s5 h2 u3 s7 h3 =>
    obtain rfl := Except.ok.inj h
    have w0 := new_wf _ _ _ h0
    have w1 := wf_of_size w0 (push_block_size w0 h1)
    have w2 := wf_of_size w1 (use_index_size w1 h2)
    exact wf_of_size w2 (use_index_size w2 h3)
  all_goals cases h

theorem map_states_match (X : Except BuildErr LB.Builder) :
    (match X with
      | .error e => (.error e : Except BuildErr (Unit × LB.Builder))
      | .ok self => .ok ((), self)).map (fun p : Unit × LB.Builder => p.2.states)
      = X.map (fun b : LB.Builder => b.states) := by
  cases X <;> rfl

/-- `init_array` (`X` is its result) against the first four helper calls of `buildLayout v`: both fail
with the scale error, or the builder enters the loop on `initLay` and `buildLayout` is what follows. -/
theorem init_stage {B : Type} (st : B → Array St) (v : Variant) (cfg : Cfg) (m : Mapper) (t : Trie V)
    (nfa : Nfa V) (hbl : 2 ≤ blOf v m) (hnfb : 1 ≤ cfg.nfb) (X : Except BuildErr (H.BuildHelper × B))
    (hi : norm (X.map (fun p : H.BuildHelper × B => (st p.2, repr p.1)))
      = norm (Tie.L.initModel v (blOf v m) cfg.nfb)) :
    (∃ e, X = .error e ∧ SameErr e .automatonScale ∧
      buildLayout v cfg m t nfa = .error .automatonScale) ∨
    ∃ gh b1 h0 h1 h2 h3, X = .ok (gh, b1) ∧ Helper.new (blOf v m) cfg.nfb = .ok h0 ∧
      h0.pushBlock = .ok h1 ∧ h1.useIndex 0 = .ok h2 ∧ h2.useIndex 1 = .ok h3 ∧
      h3.LL (List.range' 2 (blOf v m - 2)) ∧ st b1 = (initLay v (blOf v m) h3).states ∧
      repr gh = h3 ∧ blOf v m * cfg.nfb ≤ u32Max ∧
      buildLayout v cfg m t nfa =
        afterLoop v nfa t (layoutLoop v m t (t.size + 1) [[]] (initLay v (blOf v m) h3)) := by
  unfold Tie.L.initModel at hi
  by_cases hcap : blOf v m * cfg.nfb > u32Max
  · rw [Helper.new_scale hcap] at hi
    rcases (RelE.of_norm' hi).inv with ⟨_, _, _, x2, _⟩ | ⟨e1, e2, x1, x2, hee⟩
    · cases x2
    · cases x2
      exact Or.inl ⟨e1, x1, hee, by rw [buildLayout_eq, Helper.new_scale hcap]⟩
  · obtain ⟨h0, h1, h2, h3, e0, e1, e2, e3, _, ll3⟩ :=
      Helper.init_ll (bl := blOf v m) (nfb := cfg.nfb) hbl hnfb (Nat.le_of_not_gt hcap)
    have e2' : h1.useIndex rootIdx = .ok h2 := e2
    have e3' : h2.useIndex deadIdx = .ok h3 := e3
    simp only [e0, e1, e2', e3'] at hi
    rcases (RelE.of_norm' hi).inv with ⟨⟨gh, b1⟩, _, x1, x2, xr⟩ | ⟨_, _, _, x2, _⟩
    · cases x2
      obtain ⟨xs, xh⟩ := Prod.mk.inj xr
      exact Or.inr ⟨gh, b1, h0, h1, h2, h3, x1, e0, e1, e2, e3, ll3, xs, xh, Nat.le_of_not_gt hcap,
        by rw [buildLayout_eq]; simp only [e0, e1, e2', e3']⟩
    · cases x2

theorem init_map (v : Variant) (bl : Nat) (h3 : Helper) {g : N.NfaBuilder V} {t : Trie V} {nfa : Nfa V}
    {ido : List Nat → Nat} (R : NfaRep g t nfa ido) (u : List Nat) (hu : t.hasNode u = true) :
    ((Array.replicate g.states.size Gen.deadStateIdx).setIfInBounds Gen.rootStateId Gen.rootStateIdx)[ido u]?
      = some ((initLay v bl h3).idx.getD u deadIdx) := by
  obtain ⟨s, hs, _⟩ := R.node u hu
  have hlt := lt_of_getElem? _ _ _ hs
  by_cases hu0 : u = []
  · subst hu0
    rw [R.root] at hlt ⊢
    simp [initLay, hlt]
    rfl
  · have hne : ido u ≠ Gen.rootStateId :=
      fun h => hu0 (R.inj u [] hu (Trie.hasNode_nil t) (h.trans R.root.symm))
    have hb2 : (([] : List Nat) == u) = false := by
      cases u with
      | nil => exact absurd rfl hu0
      | cons a r => rfl
    rw [Array.getElem?_setIfInBounds_ne (Ne.symm hne)]
    simp [initLay, Std.HashMap.getD_insert, hb2, hlt, deadIdx]

theorem root_indexSet (n : Nat) (hn : 0 < n) :
    Rs.indexSet (Array.replicate n Gen.deadStateIdx) Gen.rootStateId Gen.rootStateIdx
      = .ok ((Array.replicate n Gen.deadStateIdx).setIfInBounds Gen.rootStateId Gen.rootStateIdx) := by
  simp [Rs.indexSet, Gen.rootStateId, hn]

theorem afterLoop_sim (t : Trie V) (nfa : Nfa V) (g : N.NfaBuilder V) (ido : List Nat → Nat)
    (R : NfaRep g t nfa ido) (hfn : FailNodes t nfa) (hsort : t.Sorted)
    (b : LB.Builder) (gh : H.BuildHelper) (sm : Array Nat) (lay : Lay) (S : Sim t ido b gh sm lay)
    (hJ : JB t lay []) :
    norm ((match DB.Builder.build_double_array.loop2 sm (Rs.enumerateA g.states) b with
        | .error e => .error e
        | .ok self =>
          match DB.Builder.build_double_array.loop3 gh
            (Rs.rangeList (H.BuildHelper.active_block_range gh).1 (H.BuildHelper.active_block_range gh).2) self with
          | .error e => .error e
          | .ok self => .ok ((), self) : Except BuildErr (Unit × LB.Builder)).map (·.2.states))
      = norm (afterLoop .bytewise nfa t (.ok lay)) := by
  unfold afterLoop
  dsimp only
  rcases (loop2_sim t nfa g ido R hfn hsort b gh sm lay S hJ).inv with
    ⟨b3, lay2, hx, hy, hst, hh⟩ | ⟨e1, e2, hx, hy, he⟩
  · rw [hx, hy]
    have F := final_loop_eq gh S.wf b3
    rw [S.helper, hst, ← hh] at F
    dsimp only
    generalize DB.Builder.build_double_array.loop3 gh _ b3 = X3 at F ⊢
    cases X3 <;> exact F
  · rw [hx, hy]
    exact he _

/-- The byte-wise `build_double_array` as translated from the Rust text computes the
table of the model's `buildLayout .bytewise` (up to panic texts), for every `NfaBuilder` that represents
the model NFA (`NfaRep`; `FailNodes`: the model's fail targets are trie nodes), on a sorted trie over
bytes, starting from an empty builder with the configured number of free blocks. -/
theorem build_double_array_refines (cfg : Cfg) (mapper : Mapper) (t : Trie V) (nfa : Nfa V)
    (g : N.NfaBuilder V) (ido : List Nat → Nat) (R : NfaRep g t nfa ido) (hfn : FailNodes t nfa)
    (hsort : t.Sorted) (hbytes : ∀ u, t.hasNode u = true → ∀ c ∈ u, c < 256) (hnfb : 1 ≤ cfg.nfb)
    (b : LB.Builder) (hb : b.states = #[]) (hn : b.num_free_blocks = cfg.nfb) :
    norm ((DB.Builder.build_double_array b g).map (·.2.states))
      = norm (buildLayout .bytewise cfg mapper t nfa) := by
  have hi := Tie.L.B.init_array_eq b hb
  rw [hn, show bytewiseBlockLen = blOf .bytewise mapper from rfl] at hi
  unfold DB.Builder.build_double_array
  rcases init_stage LB.Builder.states .bytewise cfg mapper t nfa (show 2 ≤ (256 : Nat) by decide) hnfb _ hi with
    ⟨e, x1, he, hbl⟩ | ⟨gh, b1, h0, h1, h2, h3, x1, e0, e1, e2, e3, ll3, xs, xh, _, heq⟩
  · rw [x1, hbl]
    exact he _
  · have wfg : Wf gh := by
      rw [Tie.L.B.init_array_unfold] at x1
      cases hgi : Tie.L.genInit Gen.blockLen b.num_free_blocks with
      | error e => rw [hgi] at x1; cases x1
      | ok gh' =>
        rw [hgi] at x1
        cases x1
        exact genInit_wf _ _ _ hgi
    have hgpos : 0 < g.states.size := by rw [R.size]; omega
    rw [x1, heq]
    dsimp only
    rw [root_indexSet _ hgpos]
    dsimp only
    have hsz : (initLay .bytewise (blOf .bytewise mapper) h3).states.size = 256 := Array.size_replicate
    have J0 : JB t (initLay .bytewise (blOf .bytewise mapper) h3) [[]] :=
      ⟨[], LayB.init_inv t rfl e0 e1 e2 e3⟩
    have L := loop_sim mapper t ido g R.inj (fun u hu => (R.node u hu).imp fun s h => ⟨h.1, h.2.1⟩)
      hsort hbytes (t.size + 1) (g.states.size + 1) [[]]
      (initLay .bytewise (blOf .bytewise mapper) h3) [] _ b1 gh _ []
      J0 ll3 (T.init t) (Nat.le_refl _) (by rw [R.size]; omega) (by rw [hsz]; decide)
      ⟨xs, xh, wfg, init_map .bytewise _ h3 R⟩
    simp only [List.map_cons, List.map_nil, R.root] at L
    rcases L.inv with ⟨⟨b2, gh2, sm2, stk2, labels2⟩, lay1, hx, hy, S2, J2, _⟩ | ⟨e1, e2, hx, hy, he⟩
    · rw [hx, hy]
      exact afterLoop_sim t nfa g ido R hfn hsort b2 gh2 sm2 lay1 S2 J2
    · rw [hx, hy]
      exact he _

end Daac.Tie.D

#print axioms Daac.Tie.D.loop1_sim
#print axioms Daac.Tie.D.step_sim
#print axioms Daac.Tie.D.loop_sim
#print axioms Daac.Tie.D.loop2_sim
#print axioms Daac.Tie.D.final_loop_eq
#print axioms Daac.Tie.D.build_double_array_refines
