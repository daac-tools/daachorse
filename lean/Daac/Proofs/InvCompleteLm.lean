/-
Completeness of the evaluated leftmost invariant on model-built tables (converse of Rung 1 for
the tables the model builder returns): `DA.leftmostInv` and `DA.sizeInv` evaluate to `true` on
every automaton `buildDA` returns for the leftmost kinds. Hence the runtime check can never raise
a false alarm on tables equal to the model's.
-/
import Daac.Proofs.InvComplete
namespace Daac.InvCLm
open Daac
set_option linter.unusedSectionVars false
variable {V : Type} [DecidableEq V]

theorem g1_ok {da : DA V} {P : List (LPat V)} (hS : LmSem da P) {u : List Nat}
    (hu : u ∈ nodeList P) :
    ∃ st, da.st (da.idx u) = .ok st ∧ da.g1Ok (bestIn P u 0) st u = true := by
  obtain ⟨st, hst, h⟩ := hS.out_ok u hu
  refine ⟨st, hst, ?_⟩
  unfold oposL at h
  unfold DA.g1Ok
  cases hb : bestIn P u 0 with
  | none =>
    rw [hb] at h
    exact beq_iff_eq.2 h
  | some sp =>
    rw [hb] at h
    simp only at h ⊢
    by_cases hlen : sp.1 + sp.2.key.length = u.length
    · rw [if_pos hlen] at h ⊢
      obtain ⟨_, o, ho, hv, hl⟩ := h
      simp only [ho, hv, hl, decide_true, BEq.rfl, Bool.and_self]
    · rw [if_neg hlen] at h ⊢
      exact beq_iff_eq.2 h

theorem check_node {da : DA V} {P : List (LPat V)} (hM : InvC.Mirror da P) (hS : LmSem da P)
    {probe : List Nat} (hp : ∀ c ∈ probe, LabelOk da c) :
    ∀ (fuel : Nat) (u : List Nat), u ∈ nodeList P → maxKeyLen P < u.length + fuel →
      da.checkNodeLm P da.sigma probe fuel (da.idx u) u (resid P u) = true := by
  intro fuel
  induction fuel with
  | zero => exact fun u hu hlen => absurd (node_length_le hu) (Nat.not_le_of_gt hlen)
  | succ fuel ih =>
    intro u hu hlen
    obtain ⟨st, hst, hg1⟩ := g1_ok hS hu
    rw [DA.checkNodeLm, hst]
    refine InvC.and4 (hM.heads_ok u) hg1 (List.all_eq_true.2 fun c hc => ?_)
      (List.all_eq_true.2 fun c hc => ?_)
    · have hl : ∀ d ∈ u ++ [c], LabelOk da d := fun d hd =>
        (List.mem_append.1 hd).elim (hM.lab u hu d) fun h => List.mem_singleton.1 h ▸ hp c hc
      rw [hS.next_ok u hu c (hp c hc),
        deltaLIdx_eq_of_walks (fun _ hl => hM.walk_isSome_iff hl) hl]
      exact beq_self_eq_true _
    rcases hM.child_cases hu hc with ⟨hm, h1, h2, h3, h4⟩ | ⟨_, h1, h2⟩
    · rw [h1, h2, stepRes_resid]
      exact InvC.and4 rfl (bne_iff_ne.2 h3) (bne_iff_ne.2 h4)
        (ih _ hm (InvC.fuel_step hlen))
    · rw [h1]
      exact h2

theorem leftmostInv_of_layout {da : DA V} {t : Trie V} {idx : List Nat → Nat} {P : List (LPat V)}
    (hL : LayoutSem da t (buildNfa t true) idx) (hS : TrieSem t P) (hsort : t.Sorted)
    (hlab : ∀ u, t.hasNode u = true → ∀ c ∈ u, LabelOk da c)
    (hD : ∀ u, t.hasNode u = true → u.length < da.states.size) : da.leftmostInv P = true := by
  unfold DA.leftmostInv
  refine check_node (InvC.mirror_of_layout hL hS hlab) (lmSem_of_layout hL hS hsort hlab hD) ?_ _ []
    (nodeList_prefClosed P).nil_mem (Nat.lt_succ_of_le (Nat.le_add_left _ _))
  -- the probe labels: the alphabet, and for the char-wise variant one label without a code
  intro c hc
  split at hc
  · exact Or.inl hc
  · rename_i hv
    rcases List.mem_cons.1 hc with rfl | hc
    · right
      simp [DA.code, hv]
    · exact Or.inl hc

/-- **Leftmost-longest**: the evaluated invariant holds of every table the model builds. -/
theorem leftmostInv_of_build_ll (variant : Variant) (nfb : Nat) (P : List (LPat V)) (da : DA V)
    (hb : buildDA variant ⟨1, nfb⟩ P = .ok da) (hk : keysOk P)
    (hlabels : variant = .bytewise → ∀ p ∈ P, ∀ c ∈ p.key, c < 256) :
    da.leftmostInv P = true := by
  obtain ⟨t, idx, hT, hsort, hL, hlab, hD, _⟩ := InvC.built variant 1 nfb P da hb hk hlabels
  exact leftmostInv_of_layout hL hT hsort hlab hD

/-- **Leftmost-first**: the evaluated invariant (for the retained patterns) holds of every table
the model builds. -/
theorem leftmostInv_of_build_lf (variant : Variant) (nfb : Nat) (P : List (LPat V)) (da : DA V)
    (hb : buildDA variant ⟨2, nfb⟩ P = .ok da) (hk : keysOk P)
    (hlabels : variant = .bytewise → ∀ p ∈ P, ∀ c ∈ p.key, c < 256) :
    da.leftmostInv (retainedL P) = true := by
  obtain ⟨t, idx, hT, hsort, hL, hlab, hD, _⟩ := InvC.built variant 2 nfb P da hb hk hlabels
  exact leftmostInv_of_layout hL hT hsort hlab hD

theorem sizeInv_of_build_ll (variant : Variant) (nfb : Nat) (P : List (LPat V)) (da : DA V)
    (hb : buildDA variant ⟨1, nfb⟩ P = .ok da) (hk : keysOk P)
    (hlabels : variant = .bytewise → ∀ p ∈ P, ∀ c ∈ p.key, c < 256) :
    da.sizeInv P = true :=
  InvC.sizeInv_built variant 1 nfb P da hb hk hlabels

theorem sizeInv_of_build_lf (variant : Variant) (nfb : Nat) (P : List (LPat V)) (da : DA V)
    (hb : buildDA variant ⟨2, nfb⟩ P = .ok da) (hk : keysOk P)
    (hlabels : variant = .bytewise → ∀ p ∈ P, ∀ c ∈ p.key, c < 256) :
    da.sizeInv (retainedL P) = true :=
  InvC.sizeInv_built variant 2 nfb P da hb hk hlabels

/-- `sizeInv` for both leftmost kinds: the list the invariant is evaluated on is `P` for
leftmost-longest (kind 1) and the retained list for leftmost-first (kind 2). -/
theorem sizeInv_of_build_lm (variant : Variant) (kind nfb : Nat) (hkind : kind = 1 ∨ kind = 2)
    (P : List (LPat V)) (da : DA V)
    (hb : buildDA variant ⟨kind, nfb⟩ P = .ok da) (hk : keysOk P)
    (hlabels : variant = .bytewise → ∀ p ∈ P, ∀ c ∈ p.key, c < 256) :
    da.sizeInv (if kind = 2 then retainedL P else P) = true := by
  rcases hkind with rfl | rfl
  · exact sizeInv_of_build_ll variant nfb P da hb hk hlabels
  · exact sizeInv_of_build_lf variant nfb P da hb hk hlabels

#print axioms leftmostInv_of_build_ll
#print axioms leftmostInv_of_build_lf
#print axioms sizeInv_of_build_ll
#print axioms sizeInv_of_build_lf
#print axioms sizeInv_of_build_lm

end Daac.InvCLm
