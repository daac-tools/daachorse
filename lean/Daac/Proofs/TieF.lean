/-
Translation tie, fail-link / output passes: `NfaBuilder::{build_fails, build_fails_leftmost,
build_outputs}` GENERATED from `src/nfa_builder.rs` by tools/nfa2lean.py (`Daac/Gen/Nfa.lean`) refine
the hand-written path-keyed model `buildFailMap` / `buildOutAcc` (Daac/Model/Nfa.lean).

Both fail passes are the same breadth-first loop (a queue with a cursor; for each entry, for each
child: compute a link, write it, push the child) and differ in how a link is computed. The
simulation of the loop is proved once, about any loop of that shape (`kids_refines`, `bfs_refines`,
`pass_refines`); this file instantiates it for `build_fails`, Proofs/TieFLm.lean for
`build_fails_leftmost`.
-/
import Daac.Proofs.TieFBase
import Daac.Proofs.TieFOut
import Daac.Proofs.TieFCount
namespace Daac.Tie.F
open Daac Daac.Gen Daac.Gen.N Daac.Tie.N

variable {V : Type}

def FInv (st : Tie.N.St V) (m : FailMap) (D : List Nat → Prop) : Prop :=
  ∀ u i, D u → idAt st 0 u = some i → ∃ s : NfaBuilderState V, st[i]? = some s ∧
    ∃ nx, m.get u = .node nx ∧ idAt st 0 nx = some s.fail ∧ (nx.length < u.length ∨ (u = [] ∧ nx = []))

theorem hasNode_snoc_eq {t : Trie V} {f : List Nat} {n : Trie V} (c : Nat) (hw : t.walk f = some n) :
    t.hasNode (f ++ [c]) = (n.kids.find? c).isSome := by
  unfold Trie.hasNode
  rw [Trie.walk_snoc, hw]; rfl

/-- The root test of the inner loops, `fail_id == ROOT_STATE_ID && next_fail_id == ROOT_STATE_ID`,
read on paths. -/
theorem root_test {st : Tie.N.St V} {pth : Pth} {t : Trie V} (hrep : Rep st pth t 0 [])
    {f nx : List Nat} {i j : Nat} (hi : idAt st 0 f = some i) (hj : idAt st 0 nx = some j) :
    ((i == Gen.rootStateId) && (j == Gen.rootStateId)) = decide (f = [] ∧ nx = []) := by
  rw [Bool.eq_iff_iff]
  simp only [Gen.rootStateId, Bool.and_eq_true, beq_iff_eq, decide_eq_true_eq,
    idAt_eq_zero hrep hi, idAt_eq_zero hrep hj]

theorem walk_std (g : NfaBuilder V) (pth : Pth) (t : Trie V) (m : FailMap) (c L : Nat)
    (hrep : Rep g.states pth t 0 []) (hinv : FInv g.states m (fun u => u.length ≤ L)) :
    ∀ (fm fc : Nat) (f : List Nat) (fid : Nat), idAt g.states 0 f = some fid → f.length ≤ L →
      f.length < fm → f.length < fc →
      ∃ r fid' w, NfaBuilder.build_fails.loop3 g c fc fid = .ok (r, fid') ∧
        failWalkStd t m fm f c = .node w ∧ idAt g.states 0 w = some r ∧ w.length ≤ f.length + 1 := by
  intro fm
  induction fm with
  | zero => exact fun fc f fid _ _ h => absurd h (Nat.not_lt_zero _)
  | succ fm ih =>
    intro fc f fid hfid hL hfm hfc
    cases fc with
    | zero => exact absurd hfc (Nat.not_lt_zero _)
    | succ fc =>
      obtain ⟨s, hs, nx, hm, hnx, hsh⟩ := hinv f fid hL hfid
      have hsnoc := idAt_snoc f c fid s hfid hs
      simp only [NfaBuilder.build_fails.loop3, child_id_eq g fid c s hs, failWalkStd,
        hasNode_eq_idAt hrep, hsnoc]
      cases hg : Rs.EdgeMap.get s.edges c with
      | some cid =>
        exact ⟨cid, fid, f ++ [c], rfl, rfl, hsnoc.trans hg, by rw [List.length_append]; exact Nat.le_refl _⟩
      | none =>
        simp only [index_eq _ _ _ hs, hm, root_test hrep hfid hnx, Option.isSome_none,
          Bool.false_eq_true, if_false, decide_eq_true_eq]
        by_cases hroot : f = [] ∧ nx = []
        · rw [if_pos hroot, if_pos hroot]
          exact ⟨0, fid, [], rfl, rfl, rfl, Nat.zero_le _⟩
        · rw [if_neg hroot, if_neg hroot]
          have hlt : nx.length < f.length := hsh.resolve_right hroot
          obtain ⟨r, fid', w, h1, h2, h3, h4⟩ := ih fc nx s.fail hnx (Nat.le_trans (Nat.le_of_lt hlt) hL)
            (Nat.lt_of_lt_of_le hlt (Nat.le_of_lt_succ hfm)) (Nat.lt_of_lt_of_le hlt (Nat.le_of_lt_succ hfc))
          exact ⟨r, fid', w, h1, h2, h3, Nat.le_trans h4 (Nat.succ_le_succ (Nat.le_of_lt hlt))⟩

/-- Every node carries a `fail` field that represents its entry of `m`; a node without an entry has
the default on both sides (`ROOT_STATE_ID`, `.node []`), so this holds from the start and no set of
"finished" nodes has to be carried along. -/
def Linked (A : FailTo → Prop) (st : Tie.N.St V) (m : FailMap) : Prop :=
  ∀ u i, idAt st 0 u = some i → ∃ s : NfaBuilderState V, st[i]? = some s ∧ A (m.get u) ∧
    FailRel st (m.get u) s.fail ∧
    ∀ nx, m.get u = .node nx → (nx.length < u.length ∨ (u = [] ∧ nx = []))

section linked
variable {A : FailTo → Prop} {st : Tie.N.St V} {pth : Pth} {t : Trie V} {m : FailMap}

theorem Linked.fInv (h : Linked (· ≠ .dead) st m) (D : List Nat → Prop) : FInv st m D := by
  intro u i _ hi
  obtain ⟨s, hs, hA, hr, hl⟩ := h u i hi
  cases hm : m.get u with
  | dead => exact absurd hm hA
  | node nx => rw [hm] at hr; exact ⟨s, hs, nx, rfl, hr, hl nx hm⟩

theorem Linked.init (hA : A (.node [])) (hrep : Rep st pth t 0 [])
    (hfail0 : ∀ (i : Nat) (s : NfaBuilderState V), st[i]? = some s → s.fail = 0) :
    Linked A st {} := by
  intro u i hi
  obtain ⟨n, _, hr⟩ := walk_some_of_idAt hrep hi
  obtain ⟨s, hs, _⟩ := rep_get hr
  rw [FailMap.get_empty]
  refine ⟨s, hs, hA, by rw [hfail0 i s hs]; rfl, fun nx e => ?_⟩
  cases e
  by_cases hu : u = []
  · exact Or.inr ⟨hu, rfl⟩
  · exact Or.inl (List.length_pos_iff.mpr hu)

theorem Linked.set (hrep : Rep st pth t 0 []) (h : Linked A st m) {u : List Nat} {i : Nat}
    {s : NfaBuilderState V} (hi : idAt st 0 u = some i) (hs : st[i]? = some s) {w : FailTo} {r : Nat}
    (hA : A w) (hr : FailRel st w r)
    (hl : ∀ x, w = .node x → (x.length < u.length ∨ (u = [] ∧ x = []))) :
    Linked A (st.setIfInBounds i { s with fail := r }) (m.insert u w) := by
  have hshape := SameShape.set st i s { s with fail := r } hs rfl rfl
  intro v j hj
  have hj' := idAt_shape hshape.symm v 0 j hj
  rw [FailMap.get_insert]
  by_cases hv : u = v
  · subst hv
    rw [hi] at hj'; cases hj'
    rw [if_pos rfl]
    exact ⟨_, set_self st i s _ hs, hA, hr.shape hshape, hl⟩
  · obtain ⟨sv, hsv, a, b, c⟩ := h v j hj'
    rw [if_neg hv]
    have hne : j ≠ i := fun e => hv (idAt_inj hrep hi (e ▸ hj'))
    exact ⟨sv, write_keep st i j _ sv hsv hne, a, b.shape hshape, c⟩

end linked

structure FailOnly (g g' : NfaBuilder V) : Prop where
  shape : SameShape g.states g'.states
  pos : Kept (·.output_pos) g.states g'.states
  outputs : g'.outputs = g.outputs

theorem FailOnly.refl (g : NfaBuilder V) : FailOnly g g := ⟨.refl _, .refl _ _, rfl⟩

theorem FailOnly.trans {a b c : NfaBuilder V} (h1 : FailOnly a b) (h2 : FailOnly b c) : FailOnly a c :=
  ⟨h1.shape.trans h2.shape, h1.pos.trans h2.pos, h2.outputs.trans h1.outputs⟩

theorem FailOnly.setFail (g : NfaBuilder V) (i : Nat) (s : NfaBuilderState V) (r : Nat)
    (h : g.states[i]? = some s) :
    FailOnly g { g with states := g.states.setIfInBounds i { s with fail := r } } :=
  ⟨SameShape.set _ i s _ h rfl rfl, Kept.set _ _ i s _ h rfl, rfl⟩

structure Passed (g : NfaBuilder V) (t : Trie V) (fm : FailMap) (q : Array Nat) (g' : NfaBuilder V) : Prop where
  only : FailOnly g g'
  queue : IdsOf g.states q.toList t.queue
  links : ∀ u i, idAt g.states 0 u = some i → ∃ s : NfaBuilderState V, g'.states[i]? = some s ∧
    FailRel g.states (fm.get u) s.fail
  noself : ∀ u ∈ t.queue, fm.get u ≠ .node u

theorem levels_fix (t : Trie V) : (d : Nat) →
    (List.range d).flatMap (fun k => t.level (k + 1)) ++ t.level (d + 1) =
      t.level 1 ++ ((List.range d).flatMap (fun k => t.level (k + 1))).flatMap t.childPaths
  | 0 => by simp
  | d + 1 => by
    have ih := levels_fix t d
    have hl : t.level (d + 2) = (t.level (d + 1)).flatMap t.childPaths := rfl
    rw [List.range_succ, List.flatMap_append, List.flatMap_append]
    simp only [List.flatMap_cons, List.flatMap_nil, List.append_nil]
    rw [hl, ← List.append_assoc (t.level 1), ← ih]

theorem queue_fix (t : Trie V) : t.queue = t.childPaths [] ++ t.queue.flatMap t.childPaths := by
  have h := levels_fix t t.depth
  have h0 : t.level (t.depth + 1) = [] := by
    apply List.eq_nil_iff_forall_not_mem.mpr
    intro u hu
    obtain ⟨hn, hlen⟩ := (Trie.mem_level t _ u).mp hu
    exact absurd (hlen ▸ Trie.hasNode_length_le_depth t u hn) (Nat.not_succ_le_self _)
  have h1 : t.level 1 = t.childPaths [] := List.append_nil _
  rw [h0, h1, List.append_nil] at h
  exact h

theorem flatMap_fix_nil (t : Trie V) (r : List (List Nat)) (h : r = r.flatMap t.childPaths) : r = [] := by
  have key : ∀ n : Nat, ∀ x ∈ r, n ≤ x.length := by
    intro n
    induction n with
    | zero => exact fun x _ => Nat.zero_le _
    | succ n ih =>
      intro x hx
      rw [h] at hx
      obtain ⟨y, hy, hxy⟩ := List.mem_flatMap.mp hx
      obtain ⟨c, rfl, _, _⟩ := (Trie.mem_childPaths t y x).mp hxy
      rw [List.length_append]
      exact Nat.succ_le_succ (ih y hy)
  cases r with
  | nil => rfl
  | cons x r => exact absurd (key (x.length + 1) x List.mem_cons_self) (Nat.not_succ_le_self _)

theorem fix_unique (t : Trie V) (d : List (List Nat)) (hp : d <+: t.queue)
    (hd : d = t.childPaths [] ++ d.flatMap t.childPaths) : d = t.queue := by
  obtain ⟨r, hr⟩ := hp
  have hq := queue_fix t
  rw [← hr, List.flatMap_append, ← List.append_assoc, ← hd] at hq
  have := flatMap_fix_nil t r (List.append_cancel_left hq)
  rw [this, List.append_nil] at hr
  exact hr

theorem prefix_step (t : Trie V) (d : List (List Nat)) (hp : d <+: t.queue) :
    (t.childPaths [] ++ d.flatMap t.childPaths) <+: t.queue := by
  obtain ⟨r, hr⟩ := hp
  refine ⟨r.flatMap t.childPaths, ?_⟩
  have hq := queue_fix t
  rw [← hr, List.flatMap_append, ← List.append_assoc] at hq
  rw [← hr]
  exact hq.symm

theorem RepK.labels {st : Tie.N.St V} {pth : Pth} : (ks : Kids V) → (pre : List Nat) → (lo : Nat) →
    (es : List (Nat × Nat)) → RepK st pth ks pre lo es → es.map (·.1) = ks.labelList := by
  intro ks pre
  induction ks using Kids.induction with
  | nil => intro lo es h; unfold RepK at h; subst h; rfl
  | cons l t r ih =>
    intro lo es h
    unfold RepK at h
    obtain ⟨w, es', h1, _, _, h4⟩ := h
    subst h1
    rw [List.map_cons, Kids.labelList, ih (l + 1) es' h4]

theorem RepK.get_mem {st : Tie.N.St V} {pth : Pth} : (ks : Kids V) → (pre : List Nat) → (lo : Nat) →
    (es : List (Nat × Nat)) → RepK st pth ks pre lo es → ∀ l cid, (l, cid) ∈ es →
    Rs.EdgeMap.get es l = some cid ∧ lo ≤ l := by
  intro ks pre
  induction ks using Kids.induction with
  | nil => intro lo es h l cid hm; unfold RepK at h; subst h; cases hm
  | cons l0 t r ih =>
    intro lo es h l cid hm
    unfold RepK at h
    obtain ⟨w, es', h1, h2, _, h4⟩ := h
    subst h1
    rcases List.mem_cons.mp hm with e | e
    · cases e; exact ⟨by rw [Rs.EdgeMap.get, if_pos rfl], h2⟩
    · have ih := ih (l0 + 1) es' h4 l cid e
      have hlt : l0 < l := ih.2
      exact ⟨by rw [Rs.EdgeMap.get, if_neg (Nat.ne_of_lt hlt), ih.1], Nat.le_trans h2 (Nat.le_of_lt hlt)⟩

theorem idsOf_edges {st : Tie.N.St V} (s : List Nat) : (es : List (Nat × Nat)) →
    (∀ l cid, (l, cid) ∈ es → idAt st 0 (s ++ [l]) = some cid) →
    IdsOf st (es.map (·.2)) ((es.map (·.1)).map (fun c => s ++ [c])) := by
  intro es
  induction es with
  | nil => exact fun _ => .nil
  | cons e es ih =>
    intro h
    exact .cons (h e.1 e.2 List.mem_cons_self) (ih (fun l' c' hm => h l' c' (List.mem_cons_of_mem _ hm)))

theorem idsOf_append {st : Tie.N.St V} {a c : List Nat} {b d : List (List Nat)} (h1 : IdsOf st a b)
    (h2 : IdsOf st c d) : IdsOf st (a ++ c) (b ++ d) := by
  induction h1 with
  | nil => exact h2
  | cons hi _ ih => exact .cons hi ih

theorem childPaths_eq {t : Trie V} {s : List Nat} {n : Trie V} (hw : t.walk s = some n) :
    t.childPaths s = n.kids.labelList.map (fun c => s ++ [c]) := by
  unfold Trie.childPaths; rw [hw]

theorem idAt_node {st : Tie.N.St V} {pth : Pth} {t : Trie V} (hrep : Rep st pth t 0 [])
    {u : List Nat} {i : Nat} (hi : idAt st 0 u = some i) :
    ∃ (n : Trie V) (s : NfaBuilderState V), t.walk u = some n ∧ st[i]? = some s ∧ s.output = n.out ∧
      t.childPaths u = (s.edges.map (·.1)).map (fun c => u ++ [c]) ∧
      ∀ l cid, (l, cid) ∈ s.edges → idAt st 0 (u ++ [l]) = some cid := by
  obtain ⟨n, hw, hr⟩ := walk_some_of_idAt hrep hi
  obtain ⟨s, hs, hso, hk⟩ := rep_get hr
  refine ⟨n, s, hw, hs, hso, by rw [childPaths_eq hw, RepK.labels n.kids u 0 s.edges hk], ?_⟩
  intro l cid hm
  rw [idAt_snoc u l i s hi hs]
  exact (RepK.get_mem n.kids u 0 s.edges hk l cid hm).1

/-- `K` is the `for (&c, &child_id) in &s.edges` loop of node `s` (state `sid`) as a function of the
remaining edges, `step` the model step on a child path. -/
def ChildStep (A : FailTo → Prop) (pth : Pth) (t : Trie V) (s : List Nat) (sid : Nat)
    (step : FailMap → List Nat → FailMap)
    (K : List (Nat × Nat) → NfaBuilder V → Array Nat → Except BuildErr (NfaBuilder V × Array Nat)) : Prop :=
  ∀ (g : NfaBuilder V) (m : FailMap) (l cid : Nat), Rep g.states pth t 0 [] → Linked A g.states m →
    idAt g.states 0 s = some sid → idAt g.states 0 (s ++ [l]) = some cid →
    ∃ sc r w, g.states[cid]? = some sc ∧
      (∀ rest q, K ((l, cid) :: rest) g q =
        K rest { g with states := g.states.setIfInBounds cid { sc with fail := r } } (q.push cid)) ∧
      step m (s ++ [l]) = m.insert (s ++ [l]) w ∧ A w ∧ FailRel g.states w r ∧
      ∀ x, w = .node x → x.length ≤ s.length

/-- `B` is the `while qi < q.len()` loop as a function of fuel, builder, queue and cursor, `fstep` the
model step on a queue entry. -/
structure EntryStep (A : FailTo → Prop) (pth : Pth) (t : Trie V) (fstep : FailMap → List Nat → FailMap)
    (B : Nat → NfaBuilder V → Array Nat → Nat → Except BuildErr (NfaBuilder V × Array Nat × Nat)) : Prop where
  stop : ∀ n g q qi, ¬ qi < q.size → B (n + 1) g q qi = .ok (g, q, qi)
  entry : ∀ n (g : NfaBuilder V) (q : Array Nat) (qi : Nat) (m : FailMap) (s : List Nat) (sid : Nat),
    Rep g.states pth t 0 [] → Linked A g.states m → s ≠ [] → idAt g.states 0 s = some sid →
    q[qi]? = some sid →
    ∃ (g1 : NfaBuilder V) (ids : List Nat), B (n + 1) g q qi = B n g1 (q ++ ids) (qi + 1) ∧
      IdsOf g.states ids (t.childPaths s) ∧ FailOnly g g1 ∧ Linked A g1.states (fstep m s)

section skeleton
variable {A : FailTo → Prop} {pth : Pth} {t : Trie V}

theorem kids_refines {s : List Nat} {sid : Nat} {step : FailMap → List Nat → FailMap}
    {K : List (Nat × Nat) → NfaBuilder V → Array Nat → Except BuildErr (NfaBuilder V × Array Nat)}
    (hnil : ∀ g q, K [] g q = .ok (g, q)) (hchild : ChildStep A pth t s sid step K)
    (es : List (Nat × Nat)) : ∀ (g : NfaBuilder V) (q : Array Nat) (m : FailMap),
      Rep g.states pth t 0 [] → Linked A g.states m → idAt g.states 0 s = some sid →
      (∀ l cid, (l, cid) ∈ es → idAt g.states 0 (s ++ [l]) = some cid) →
      ∃ g', K es g q = .ok (g', q ++ es.map (·.2)) ∧ FailOnly g g' ∧
        Linked A g'.states (((es.map (·.1)).map (fun c => s ++ [c])).foldl step m) := by
  induction es with
  | nil => exact fun g q m _ hl _ _ => ⟨g, by rw [hnil]; rfl, .refl g, hl⟩
  | cons e es ih =>
    obtain ⟨l, cid⟩ := e
    intro g q m hrep hl hsid hes
    have hcid := hes l cid List.mem_cons_self
    obtain ⟨sc, r, w, hsc, hcode, hmodel, hA, hrel, hlen⟩ := hchild g m l cid hrep hl hsid hcid
    have hfo := FailOnly.setFail g cid sc r hsc
    have hl1 := hl.set hrep hcid hsc hA hrel (fun x hx => Or.inl (by
      rw [List.length_append]; exact Nat.lt_succ_of_le (hlen x hx)))
    obtain ⟨g', e1, e2, e3⟩ := ih _ (q.push cid) _
      (rep_shape t 0 [] hrep hfo.shape) hl1 (idAt_shape hfo.shape s 0 sid hsid)
      (fun l' c' hm' => idAt_shape hfo.shape _ 0 c' (hes l' c' (List.mem_cons_of_mem _ hm')))
    refine ⟨g', ?_, hfo.trans e2, ?_⟩
    · rw [hcode, e1, List.map_cons, Array.appendList_cons]
    · rw [List.map_cons, List.map_cons, List.foldl_cons, hmodel]; exact e3

variable {fstep : FailMap → List Nat → FailMap}
  {B : Nat → NfaBuilder V → Array Nat → Nat → Except BuildErr (NfaBuilder V × Array Nat × Nat)}

/-- `done` are the processed entries, `pend` the pending ones; the loop ends because a prefix of
`Trie.queue` that satisfies the BFS equation is all of it (`fix_unique`). -/
theorem bfs_refines (hB : EntryStep A pth t fstep B) (fuel : Nat) :
    ∀ (g : NfaBuilder V) (q : Array Nat) (done pend : List (List Nat)),
      Rep g.states pth t 0 [] → IdsOf g.states q.toList (done ++ pend) →
      done ++ pend = t.childPaths [] ++ done.flatMap t.childPaths → (done ++ pend) <+: t.queue →
      Linked A g.states (done.foldl fstep {}) → t.queue.length < fuel + done.length →
      ∃ g' q' qi', B fuel g q done.length = .ok (g', q', qi') ∧ FailOnly g g' ∧
        IdsOf g'.states q'.toList t.queue ∧ Linked A g'.states (t.queue.foldl fstep {}) := by
  induction fuel with
  | zero =>
    intro g q done pend _ _ _ hpre _ h
    have := hpre.length_le
    rw [List.length_append] at this
    rw [Nat.zero_add] at h
    exact absurd (Nat.le_trans (Nat.le_add_right _ _) this) (Nat.not_le_of_lt h)
  | succ fuel ih =>
    intro g q done pend hrep hids hfix hpre hl hfuel
    cases pend with
    | nil =>
      rw [List.append_nil] at hids hfix hpre
      have hdq : done = t.queue := fix_unique t done hpre hfix
      have hq : ¬ done.length < q.size := by
        rw [← hids.length_eq, Array.length_toList]; exact Nat.lt_irrefl _
      exact ⟨g, q, _, hB.stop _ _ _ _ hq, .refl g, hdq ▸ hids, hdq ▸ hl⟩
    | cons s pend =>
      obtain ⟨sid, hq, hsid⟩ := idsOf_mid done q.toList s pend hids
      rw [Array.getElem?_toList] at hq
      have hs0 : s ≠ [] := ((Trie.mem_queue t s).mp (hpre.subset (List.mem_append_right _ List.mem_cons_self))).2
      obtain ⟨g1, ids, e1, e2, e3, e4⟩ := hB.entry fuel g q done.length _ s sid hrep hl hs0 hsid hq
      have hsplit : (done ++ [s]) ++ (pend ++ t.childPaths s) = (done ++ s :: pend) ++ t.childPaths s := by
        rw [List.append_assoc, List.append_assoc, List.singleton_append, List.cons_append]
      have hfix' : (done ++ [s]) ++ (pend ++ t.childPaths s) =
          t.childPaths [] ++ (done ++ [s]).flatMap t.childPaths := by
        rw [hsplit, hfix, List.flatMap_append, List.flatMap_singleton, List.append_assoc]
      have hpre' : ((done ++ [s]) ++ (pend ++ t.childPaths s)) <+: t.queue := by
        rw [hfix']
        exact prefix_step t (done ++ [s]) (List.IsPrefix.trans ⟨pend, by rw [List.append_assoc]; rfl⟩ hpre)
      obtain ⟨g', q', qi', f1, f2, f3, f4⟩ :=
        ih g1 (q ++ ids) (done ++ [s]) (pend ++ t.childPaths s)
          (rep_shape t 0 [] hrep e3.shape)
          (by rw [hsplit, Array.toList_appendList]; exact (idsOf_append hids e2).shape e3.shape)
          hfix' hpre' (by rw [List.foldl_append]; exact e4)
          (by rw [List.length_append, List.length_singleton, ← Nat.add_assoc, Nat.add_right_comm]; exact hfuel)
      rw [List.length_append, List.length_singleton] at f1
      exact ⟨g', q', qi', e1.trans f1, e3.trans f2, f3, f4⟩

/-- The fuel suffices because the queue is shorter than the state array (`queue_lt_size`). -/
theorem pass_refines (hA : A (.node [])) (hB : EntryStep A pth t fstep B)
    (g : NfaBuilder V) (hrep : Rep g.states pth t 0 [])
    (hfail0 : ∀ (i : Nat) (s : NfaBuilderState V), g.states[i]? = some s → s.fail = 0)
    (s0 : NfaBuilderState V) (hs0 : g.states[0]? = some s0) :
    ∃ g' q' qi', B (g.states.size + 1) g ((#[] : Array Nat) ++ Rs.EdgeMap.values s0.edges) 0 = .ok (g', q', qi') ∧
      Passed g t (t.queue.foldl fstep {}) q' g' := by
  have hroot : idAt g.states 0 [] = some 0 := rfl
  obtain ⟨_, s0', _, hs0', _, hcp, hes⟩ := idAt_node hrep hroot
  rw [hs0] at hs0'; cases hs0'
  have hids : IdsOf g.states ((#[] : Array Nat) ++ Rs.EdgeMap.values s0.edges).toList ([] ++ t.childPaths []) := by
    rw [Array.toList_appendList, hcp]
    exact idsOf_edges [] s0.edges hes
  obtain ⟨g', q', qi', f1, f2, f3, f4⟩ :=
    bfs_refines hB (g.states.size + 1) g _ [] (t.childPaths []) hrep hids (List.append_nil _).symm
      (by have := prefix_step t [] List.nil_prefix; rwa [List.flatMap_nil, List.append_nil] at this)
      (Linked.init hA hrep hfail0) (Nat.lt_succ_of_lt (queue_lt_size hrep))
  have hback := f2.shape.symm
  refine ⟨g', q', qi', f1, f2, f3.shape hback, fun u i hi => ?_, fun u hu e => ?_⟩
  · obtain ⟨s, hs, _, hr, _⟩ := f4 u i (idAt_shape f2.shape u 0 i hi)
    exact ⟨s, hs, hr.shape hback⟩
  · obtain ⟨hn, hu0⟩ := (Trie.mem_queue t u).mp hu
    obtain ⟨n, hwn⟩ := Option.isSome_iff_exists.mp hn
    obtain ⟨i, hi, _⟩ := idAt_some_of_walk hrep hwn
    obtain ⟨_, _, _, _, hl⟩ := f4 u i (idAt_shape f2.shape u 0 i hi)
    rcases hl u e with h | h
    · exact Nat.lt_irrefl _ h
    · exact hu0 h.1

end skeleton

/-- The step function of the fold in `failStepStd`. -/
abbrev stdStep (t : Trie V) (s : List Nat) : FailMap → List Nat → FailMap := fun m child =>
  match m.get s, child.getLast? with
  | .node f, some c => m.insert child (failWalkStd t m (s.length + 2) f c)
  | _, _ => m

/-- The fuel of the walk suffices because the depth of a node is below the number of states
(`depth_lt_size`). -/
theorem child_std {pth : Pth} {t : Trie V} {s : List Nat} {sid : Nat} (hs0 : s ≠ []) :
    ChildStep (· ≠ .dead) pth t s sid (stdStep t s) (NfaBuilder.build_fails.loop2 sid) := by
  intro g m l cid hrep hl hsid hcid
  obtain ⟨ss, hss, hA, hrel, hsh⟩ := hl s sid hsid
  obtain ⟨_, sc, _, hsc, _⟩ := idAt_node hrep hcid
  cases hmf : m.get s with
  | dead => exact absurd hmf hA
  | node f =>
    rw [hmf] at hrel
    have hflt : f.length < s.length := (hsh f hmf).resolve_right (fun h => hs0 h.1)
    obtain ⟨r, fid', w, hw1, hw2, hw3, hw4⟩ :=
      walk_std g pth t m l s.length hrep (hl.fInv _) (s.length + 2) (g.states.size + 1)
        f ss.fail hrel (Nat.le_of_lt hflt) (Nat.lt_add_right 2 hflt)
        (Nat.lt_succ_of_lt (depth_lt_size hrep hrel))
    refine ⟨sc, r, .node w, hsc, fun rest q => ?_, ?_, FailTo.noConfusion, hw3,
      fun x hx => by cases hx; exact Nat.le_trans hw4 hflt⟩
    · simp only [NfaBuilder.build_fails.loop2, index_eq _ _ _ hss, hw1, index_eq _ _ _ hsc]
    · simp only [stdStep, hmf, List.getLast?_append, List.getLast?_singleton, Option.some_or, hw2]

theorem entry_std (pth : Pth) (t : Trie V) :
    EntryStep (· ≠ .dead) pth t (failStepStd t) NfaBuilder.build_fails.loop1 where
  stop n g q qi h := by
    simp only [NfaBuilder.build_fails.loop1, h, decide_false, Bool.false_eq_true, if_false]
  entry n g q qi m s sid hrep hl hs0 hsid hq := by
    obtain ⟨_, ss, _, hss, _, hcp, hes⟩ := idAt_node hrep hsid
    obtain ⟨g1, e1, e2, e3⟩ := kids_refines (fun _ _ => rfl) (child_std hs0) ss.edges g q m hrep hl hsid hes
    refine ⟨g1, ss.edges.map (·.2), ?_, hcp ▸ idsOf_edges s ss.edges hes, e2, ?_⟩
    · have hqlt : qi < q.size := (Array.getElem?_eq_some_iff.mp hq).1
      simp only [NfaBuilder.build_fails.loop1, hqlt, decide_true, if_true, index_eq _ _ _ hq,
        index_eq _ _ _ hss, e1]
    · have : failStepStd t m s = (t.childPaths s).foldl (stdStep t s) m := rfl
      rw [this, hcp]; exact e3

theorem loop0_std_eq (l : List Nat) : ∀ q : Array Nat, NfaBuilder.build_fails.loop0 l q = .ok (q ++ l) := by
  induction l with
  | nil => exact fun q => by rw [NfaBuilder.build_fails.loop0, Array.appendList_nil]
  | cons x l ih => exact fun q => by rw [NfaBuilder.build_fails.loop0, ih, Array.appendList_cons]

theorem IdsOf.map_pth {st : Tie.N.St V} {pth : Pth} {t : Trie V} (hrep : Rep st pth t 0 [])
    {ids : List Nat} {us : List (List Nat)} (h : IdsOf st ids us) : ids.map pth = us.map some := by
  induction h with
  | nil => rfl
  | cons hi _ ih => rw [List.map_cons, List.map_cons, idAt_pth hrep hi, ih]

theorem build_fails_refines (g : NfaBuilder V) (pth : Pth) (t : Trie V) (hrep : Rep g.states pth t 0 [])
    (hfail0 : ∀ (i : Nat) (s : NfaBuilderState V), g.states[i]? = some s → s.fail = 0) :
    ∃ q g', NfaBuilder.build_fails g = .ok (q, g') ∧ Passed g t (buildFailMap t false) q g' := by
  obtain ⟨s0, hs0, _⟩ := rep_get hrep
  obtain ⟨g', q', qi', f1, r⟩ := pass_refines FailTo.noConfusion (entry_std pth t) g hrep hfail0 s0 hs0
  rw [buildFailMap_std_eq]
  refine ⟨q', g', ?_, r⟩
  simp only [NfaBuilder.build_fails, Gen.rootStateId, index_eq _ _ _ hs0, loop0_std_eq, Rs.vecWithCapacity, f1]

theorem queue_refines (g : NfaBuilder V) (pth : Pth) (t : Trie V) (hrep : Rep g.states pth t 0 [])
    (hfail0 : ∀ (i : Nat) (s : NfaBuilderState V), g.states[i]? = some s → s.fail = 0) :
    ∃ q g', NfaBuilder.build_fails g = .ok (q, g') ∧ q.toList.map pth = t.queue.map some := by
  obtain ⟨q, g', h1, hp⟩ := build_fails_refines g pth t hrep hfail0
  exact ⟨q, g', h1, hp.queue.map_pth hrep⟩

theorem pass_then_outputs (g g1 : NfaBuilder V) (pth : Pth) (t : Trie V) (fm : FailMap) (q : Array Nat)
    (hrep : Rep g.states pth t 0 [])
    (hpos0 : ∀ (i : Nat) (s : NfaBuilderState V), g.states[i]? = some s → s.output_pos = none)
    (hout0 : g.outputs = #[])
    (hd1 : ∃ sd : NfaBuilderState V, g.states[Gen.deadStateId]? = some sd) (hpd : pth Gen.deadStateId = none)
    (hne : t.queue ≠ []) (hsz : g.states.size ≤ 4294967295)
    (hp : Passed g t fm q g1) :
    ∃ g2, NfaBuilder.build_outputs g1 q = .ok ((), g2) ∧
      SameShape g.states g2.states ∧ q.toList.map pth = t.queue.map some ∧
      (∀ u i, idAt g.states 0 u = some i → ∃ s : NfaBuilderState V, g2.states[i]? = some s ∧
        FailRel g.states (fm.get u) s.fail ∧
        OposRel s.output_pos ((buildOutAcc t fm).opos.getD u 0)) ∧
      OutsRel g2.outputs (buildOutAcc t fm).outs := by
  have hq := queue_lt_size hrep
  obtain ⟨⟨hsh1, hpk, hout⟩, hids, hfl, hself⟩ := hp
  have hrep1 := rep_shape t 0 [] hrep hsh1
  obtain ⟨sd, hsd⟩ := hd1
  obtain ⟨sd', hsd', (hsdp : sd'.output_pos = sd.output_pos)⟩ := hpk _ sd hsd
  have hqs : q.size < 4294967295 := by
    rw [← Array.length_toList, hids.length_eq]
    exact Nat.lt_of_lt_of_le hq hsz
  obtain ⟨g2, h2, hsh2, hfk, hpos, houts⟩ :=
    outputs_refines g1 pth t fm q hrep1 (hids.shape hsh1) hne
      (fun u i hi => by
        obtain ⟨s, hs, hr⟩ := hfl u i (idAt_shape hsh1.symm u 0 i hi)
        exact ⟨s, hs, hr.shape hsh1⟩)
      hself ⟨sd', hsd', by rw [hsdp, hpos0 _ sd hsd]⟩ hpd
      (fun i s hs => by
        have hlt : i < g.states.size := by rw [← hsh1.1]; exact lt_of_get hs
        have hi := Array.getElem?_eq_getElem hlt
        obtain ⟨s', e1, (e2 : s'.output_pos = _)⟩ := hpk i _ hi
        rw [hs] at e1; cases e1
        rw [e2]; exact hpos0 i _ hi)
      (by rw [hout, hout0]) hqs
  refine ⟨g2, h2, hsh1.trans hsh2, hids.map_pth hrep, ?_, houts⟩
  intro u i hi
  obtain ⟨s1, hs1, hr⟩ := hfl u i hi
  obtain ⟨s2, hs2, hf⟩ := hfk i s1 hs1
  obtain ⟨s2', hs2', hp⟩ := hpos u i (idAt_shape hsh1 u 0 i hi)
  rw [hs2] at hs2'; cases hs2'
  exact ⟨s2, hs2, by rw [hf]; exact hr, hp⟩

/- `RefCell` dynamic borrow checks (BorrowError / BorrowMutError panics) are not modelled by the
translation (tools/nfa2lean.py header). -/

end Daac.Tie.F
