/-
Ground shared by the proofs about the fail-link and output passes of Model/Nfa.lean: the BFS queue
`Trie.queue` (membership, order, duplicate-freeness) and the induction along a fold over it
(`Trie.queue_foldl_inv`) that all passes are proved by; lookups in the tables the passes write; `lps`
on the node list; `buildTrie kind P = .ok t → TrieSem t P` (kind ≠ 2) resp. `TrieSem t (retainedL P)`
(kind = 2). Core Lean only.
-/
import Daac.Proofs.NfaIface
import Daac.Proofs.TrieFacts
namespace Daac
variable {V : Type}

theorem Kids.labelList_eq_labels : ∀ k : Kids V, k.labelList = k.labels :=
  Kids.induction rfl fun l _ _ ih => congrArg (l :: ·) ih

theorem Kids.find?_isSome_iff (k : Kids V) (c : Nat) :
    (k.find? c).isSome = true ↔ c ∈ k.labelList := by
  induction k using Kids.induction with
  | nil => simp [Kids.find?, Kids.labelList]
  | cons l t r ih =>
    rw [Kids.find?_cons, Kids.labelList, List.mem_cons]
    by_cases h : l = c
    · simp [h]
    · rw [if_neg h, ih]
      exact ⟨Or.inr, fun h' => h'.resolve_left fun e => h e.symm⟩

theorem Kids.find?_ne_none_iff (k : Kids V) (c : Nat) :
    k.find? c ≠ none ↔ c ∈ k.labelList := by
  rw [← Kids.find?_isSome_iff k c]
  cases k.find? c <;> simp

section
variable (t : Trie V) {pre post : List (List Nat)} {s : List Nat}

theorem Trie.walk_append (u w : List Nat) :
    t.walk (u ++ w) = (t.walk u).bind (·.walk w) := by
  induction u generalizing t with
  | nil => simp
  | cons c u ih =>
    cases t with
    | node out kids =>
      simp only [List.cons_append, Trie.walk_cons]
      cases kids.find? c with
      | none => rfl
      | some x => exact ih x

theorem Trie.walk_singleton (c : Nat) : t.walk [c] = t.kids.find? c := by
  cases t with
  | node out kids =>
    simp only [Trie.walk_cons, Trie.kids]
    cases kids.find? c <;> simp

theorem Trie.walk_snoc (u : List Nat) (c : Nat) :
    t.walk (u ++ [c]) = (t.walk u).bind (fun n => n.kids.find? c) := by
  rw [Trie.walk_append]
  cases t.walk u <;> simp [Trie.walk_singleton]

@[simp] theorem Trie.hasNode_nil : t.hasNode [] = true := by
  simp [Trie.hasNode]

theorem Trie.hasNode_of_prefix {u w : List Nat} (h : u <+: w) :
    t.hasNode w = true → t.hasNode u = true := by
  obtain ⟨r, rfl⟩ := h
  unfold Trie.hasNode
  rw [Trie.walk_append]
  cases t.walk u <;> simp

theorem Trie.hasNode_of_snoc (u : List Nat) (c : Nat) :
    t.hasNode (u ++ [c]) = true → t.hasNode u = true :=
  Trie.hasNode_of_prefix t (List.prefix_append u [c])

theorem Trie.mem_childPaths (u w : List Nat) :
    w ∈ t.childPaths u ↔
      ∃ c, w = u ++ [c] ∧ t.hasNode (u ++ [c]) = true ∧ t.hasNode u = true := by
  unfold Trie.childPaths Trie.hasNode
  cases h : t.walk u with
  | none => simp [Trie.walk_snoc, h]
  | some n =>
    simp only [List.mem_map, Trie.walk_snoc, h, Option.bind_some, Option.isSome_some, and_true,
      Kids.find?_isSome_iff]
    constructor
    · rintro ⟨c, hc, rfl⟩; exact ⟨c, rfl, hc⟩
    · rintro ⟨c, rfl, hc⟩; exact ⟨c, hc, rfl⟩

theorem Trie.mem_childPaths_dropLast {w : List Nat} (hw : t.hasNode w = true)
    (h0 : w ≠ []) : w ∈ t.childPaths w.dropLast := by
  have hsnoc := List.dropLast_concat_getLast h0
  have hw' : t.hasNode (w.dropLast ++ [w.getLast h0]) = true := by rw [hsnoc]; exact hw
  exact (Trie.mem_childPaths t _ w).mpr
    ⟨w.getLast h0, hsnoc.symm, hw', Trie.hasNode_of_snoc t _ _ hw'⟩

theorem Trie.childPaths_parent_unique {u₁ u₂ w : List Nat}
    (h₁ : w ∈ t.childPaths u₁) (h₂ : w ∈ t.childPaths u₂) : u₁ = u₂ := by
  obtain ⟨c₁, rfl, _, _⟩ := (Trie.mem_childPaths t u₁ w).mp h₁
  obtain ⟨c₂, he, _, _⟩ := (Trie.mem_childPaths t u₂ _).mp h₂
  exact (List.append_inj' he rfl).1

theorem Trie.mem_level (d : Nat) (u : List Nat) :
    u ∈ t.level d ↔ t.hasNode u = true ∧ u.length = d := by
  induction d generalizing u with
  | zero =>
    simp only [Trie.level, List.mem_singleton, List.length_eq_zero_iff]
    exact ⟨fun h => ⟨h ▸ Trie.hasNode_nil t, h⟩, fun h => h.2⟩
  | succ d ih =>
    simp only [Trie.level, List.mem_flatMap, Trie.mem_childPaths, ih]
    constructor
    · rintro ⟨v, ⟨_, hl⟩, c, rfl, hn, _⟩
      exact ⟨hn, by rw [List.length_append, hl]; rfl⟩
    · rintro ⟨hn, hl⟩
      have h0 := List.ne_nil_of_length_eq_add_one hl
      obtain ⟨c, hc, _, hv⟩ := (Trie.mem_childPaths t _ u).mp (Trie.mem_childPaths_dropLast t hn h0)
      exact ⟨u.dropLast, ⟨hv, by rw [List.length_dropLast, hl]; rfl⟩, c, hc, hc ▸ hn, hv⟩

theorem Kids.find?_depth_lt (k : Kids V) (c : Nat) (t : Trie V) :
    k.find? c = some t → t.depth + 1 ≤ k.depth := by
  induction k using Kids.induction with
  | nil => exact fun h => nomatch h
  | cons l t' r ih =>
    rw [Kids.find?_cons, Kids.depth]
    split
    · intro h
      cases h
      exact Nat.le_max_left _ _
    · exact fun h => Nat.le_trans (ih h) (Nat.le_max_right _ _)

theorem Trie.hasNode_length_le_depth (u : List Nat) :
    t.hasNode u = true → u.length ≤ t.depth := by
  unfold Trie.hasNode
  induction u generalizing t with
  | nil => exact fun _ => Nat.zero_le _
  | cons c u ih =>
    cases t with
    | node out kids =>
      rw [Trie.walk_cons_isSome]
      rintro ⟨t', hf, hw⟩
      exact Nat.le_trans (Nat.succ_le_succ (ih t' hw)) (Kids.find?_depth_lt kids c t' hf)

theorem Trie.mem_queue (u : List Nat) :
    u ∈ t.queue ↔ t.hasNode u = true ∧ u ≠ [] := by
  simp only [Trie.queue, List.mem_flatMap, List.mem_range, Trie.mem_level]
  constructor
  · rintro ⟨d, _, hn, hl⟩
    exact ⟨hn, List.ne_nil_of_length_eq_add_one hl⟩
  · rintro ⟨hn, hne⟩
    obtain ⟨d, hd⟩ := Nat.exists_eq_add_one_of_ne_zero (mt List.length_eq_zero_iff.mp hne)
    have hle := Trie.hasNode_length_le_depth t u hn
    rw [hd] at hle
    exact ⟨d, hle, hn, hd⟩

theorem Trie.nil_not_mem_queue : [] ∉ t.queue :=
  fun h => ((Trie.mem_queue t []).mp h).2 rfl

theorem Trie.nil_or_mem_queue {w : List Nat} (hw : t.hasNode w = true) : w = [] ∨ w ∈ t.queue :=
  (Decidable.em (w = [])).imp_right fun h0 => (Trie.mem_queue t w).mpr ⟨hw, h0⟩

theorem Trie.queue_sorted_length :
    (t.queue.map List.length).Pairwise (· ≤ ·) := by
  have hlen : ∀ {d x}, x ∈ t.level d → x.length = d := fun hx => ((Trie.mem_level t _ _).mp hx).2
  rw [List.pairwise_map]
  unfold Trie.queue
  rw [List.pairwise_flatMap]
  refine ⟨fun d _ => List.pairwise_of_forall_mem_list fun x hx y hy => ?_, ?_⟩
  · rw [hlen hx, hlen hy]
    exact Nat.le_refl _
  · refine List.Pairwise.imp ?_ (List.pairwise_lt_range (n := t.depth))
    intro a b hab x hx y hy
    rw [hlen hx, hlen hy]
    exact Nat.succ_le_succ (Nat.le_of_lt hab)

theorem Trie.queue_split_le (h : t.queue = pre ++ s :: post) :
    (∀ w ∈ pre, w.length ≤ s.length) ∧ (∀ w ∈ post, s.length ≤ w.length) := by
  have hs := Trie.queue_sorted_length t
  rw [h, List.pairwise_map, List.pairwise_append] at hs
  exact ⟨fun w hw => hs.2.2 w hw s List.mem_cons_self, (List.pairwise_cons.mp hs.2.1).1⟩

theorem Trie.queue_split_pre_le (h : t.queue = pre ++ s :: post) : ∀ w ∈ pre, w.length ≤ s.length :=
  (Trie.queue_split_le t h).1

theorem Trie.queue_split_shorter (h : t.queue = pre ++ s :: post) :
    ∀ w, t.hasNode w = true → w ≠ [] → w.length < s.length → w ∈ pre := by
  intro w hn hne hl
  have hw : w ∈ pre ++ s :: post := h ▸ (Trie.mem_queue t w).mpr ⟨hn, hne⟩
  rcases List.mem_append.mp hw with hw | hw
  · exact hw
  · rcases List.mem_cons.mp hw with rfl | hw
    · exact absurd hl (Nat.lt_irrefl _)
    · exact absurd hl (Nat.not_lt.mpr ((Trie.queue_split_le t h).2 w hw))

/-- What the processing of `s` may rely on: the root and the processed entries cover every node
shallower than `s`. -/
theorem Trie.nil_or_mem_pre (h : t.queue = pre ++ s :: post) {w : List Nat}
    (hw : t.hasNode w = true) (hl : w.length < s.length) : w = [] ∨ w ∈ pre :=
  (Decidable.em (w = [])).imp_right fun h0 => Trie.queue_split_shorter t h w hw h0 hl

theorem Trie.queue_split_mem (h : t.queue = pre ++ s :: post) : t.hasNode s = true ∧ s ≠ [] :=
  (Trie.mem_queue t s).mp (h ▸ List.mem_append_right pre List.mem_cons_self)

theorem Trie.queue_split_not_mem (hnd : t.queue.Nodup) (h : t.queue = pre ++ s :: post) :
    s ∉ pre := by
  rw [h] at hnd
  exact fun hin => (List.nodup_append.mp hnd).2.2 s hin s List.mem_cons_self rfl

theorem Trie.parent_mem_queue {w : List Nat} (hw : t.hasNode w = true) (h1 : 1 < w.length) :
    w.dropLast ∈ t.queue ∧ w ∈ t.childPaths w.dropLast := by
  have hc := Trie.mem_childPaths_dropLast t hw (List.ne_nil_of_length_pos (Nat.lt_of_succ_lt h1))
  obtain ⟨_, _, _, hp⟩ := (Trie.mem_childPaths t _ w).mp hc
  refine ⟨(Trie.mem_queue t _).mpr ⟨hp, List.ne_nil_of_length_pos ?_⟩, hc⟩
  rw [List.length_dropLast]
  exact Nat.sub_pos_of_lt h1

/-- While the entry `s` is being processed, the parent of every node `w` with `2 ≤ |w| ≤ |s|` has
been (so whatever a pass assigns to the children of a processed entry is final for `w`). -/
theorem Trie.parent_mem_pre (hq : t.queue = pre ++ s :: post) {w : List Nat}
    (hw : t.hasNode w = true) (h1 : 1 < w.length) (hl : w.length ≤ s.length) :
    w.dropLast ∈ pre ∧ w ∈ t.childPaths w.dropLast := by
  obtain ⟨hp, hc⟩ := Trie.parent_mem_queue t hw h1
  obtain ⟨hpn, hp0⟩ := (Trie.mem_queue t _).mp hp
  refine ⟨Trie.queue_split_shorter t hq _ hpn hp0 ?_, hc⟩
  rw [List.length_dropLast]
  exact Nat.lt_of_lt_of_le (Nat.sub_one_lt (Nat.ne_of_gt (Nat.lt_of_succ_lt h1))) hl

theorem Trie.queue_foldl_inv {β : Type} {step : β → List Nat → β}
    {Inv : List (List Nat) → β → Prop}
    (hstep : ∀ {pre post : List (List Nat)} {s : List Nat} {b : β},
      t.queue = pre ++ s :: post → Inv pre b → Inv (pre ++ [s]) (step b s)) :
    ∀ (post pre : List (List Nat)) (b : β), t.queue = pre ++ post → Inv pre b →
      Inv t.queue (post.foldl step b) := by
  intro post
  induction post with
  | nil => intro pre b hq h; rw [hq, List.append_nil]; exact h
  | cons s post ih =>
    intro pre b hq h
    exact ih (pre ++ [s]) _ (by rw [hq, List.append_assoc]; rfl) (hstep hq h)

theorem Kids.nodup_labelList (k : Kids V) : k.Sorted → k.labelList.Nodup := by
  induction k using Kids.induction with
  | nil => exact fun _ => List.nodup_nil
  | cons l t r ih =>
    intro hs
    simp only [Kids.Sorted] at hs
    rw [Kids.labelList, List.nodup_cons]
    exact ⟨fun hin => Nat.lt_irrefl l (hs.2.2 l (Kids.labelList_eq_labels r ▸ hin)), ih hs.2.1⟩

theorem Trie.sorted_walk (u : List Nat) (n : Trie V) :
    t.Sorted → t.walk u = some n → n.Sorted := by
  induction u generalizing t with
  | nil => intro hs h; exact Option.some.inj (t.walk_nil ▸ h) ▸ hs
  | cons c u ih =>
    cases t with
    | node out kids =>
      intro hs h
      rw [Trie.walk_cons] at h
      obtain ⟨x, hf, hx⟩ := Option.bind_eq_some_iff.mp h
      exact ih x (Kids.sorted_find? kids c x hs hf) hx

theorem Trie.nodup_childPaths (hs : t.Sorted) (u : List Nat) :
    (t.childPaths u).Nodup := by
  unfold Trie.childPaths
  cases h : t.walk u with
  | none => exact List.nodup_nil
  | some n =>
    have hn : n.kids.labelList.Nodup := by
      have := Trie.sorted_walk t u n hs h
      cases n with
      | node o k => exact Kids.nodup_labelList k this
    simp only
    rw [List.nodup_iff_pairwise_ne, List.pairwise_map]
    refine List.Pairwise.imp ?_ hn
    intro a b hab he
    exact hab (by simpa using he)

theorem Trie.nodup_level (hs : t.Sorted) (d : Nat) : (t.level d).Nodup := by
  induction d with
  | zero => simp [Trie.level]
  | succ d ih =>
    simp only [Trie.level]
    rw [List.nodup_iff_pairwise_ne, List.pairwise_flatMap]
    refine ⟨fun u _ => Trie.nodup_childPaths t hs u, List.Pairwise.imp ?_ ih⟩
    intro a b hab x hx y hy he
    exact hab (Trie.childPaths_parent_unique t hx (he ▸ hy))

theorem Trie.nodup_queue (hs : t.Sorted) : t.queue.Nodup := by
  unfold Trie.queue
  rw [List.nodup_iff_pairwise_ne, List.pairwise_flatMap]
  refine ⟨fun d _ => Trie.nodup_level t hs (d + 1), ?_⟩
  refine List.Pairwise.imp ?_ (List.pairwise_lt_range (n := t.depth))
  intro a b hab x hx y hy he
  have h1 := ((Trie.mem_level t _ x).mp hx).2
  have h2 := ((Trie.mem_level t _ y).mp hy).2
  rw [he, h2] at h1
  exact Nat.ne_of_lt hab (Nat.succ.inj h1).symm

end

theorem Trie.queue_split_post_ge (t : Trie V) {pre post : List (List Nat)} {s : List Nat}
    (h : t.queue = pre ++ s :: post) : ∀ w ∈ post, s.length ≤ w.length :=
  (Trie.queue_split_le t h).2

theorem Trie.mem_queue_of_mem_childPaths (t : Trie V) {u w : List Nat} (h : w ∈ t.childPaths u) :
    w ∈ t.queue ∧ w.length = u.length + 1 ∧ t.hasNode u = true := by
  obtain ⟨c, rfl, hn, hu⟩ := (Trie.mem_childPaths t u w).mp h
  exact ⟨(Trie.mem_queue t _).mpr ⟨hn, by simp⟩, by simp, hu⟩

theorem FailMap.get_insert (m : FailMap) (k w : List Nat) (v : FailTo) :
    FailMap.get (m.insert k v) w = if k = w then v else m.get w := by
  unfold FailMap.get
  rw [Std.HashMap.getD_insert]
  simp only [beq_iff_eq]

theorem FailMap.get_insert_self (m : FailMap) (x : List Nat) (v : FailTo) :
    FailMap.get (m.insert x v) x = v := by
  rw [FailMap.get_insert, if_pos rfl]

theorem FailMap.get_insert_ne (m : FailMap) {x y : List Nat} (v : FailTo) (h : x ≠ y) :
    FailMap.get (m.insert x v) y = m.get y := by
  rw [FailMap.get_insert, if_neg h]

theorem FailMap.get_empty (w : List Nat) : FailMap.get ({} : FailMap) w = .node [] :=
  Std.HashMap.getD_empty

theorem opos_getD_insert (m : Std.HashMap (List Nat) Nat) (k w : List Nat) (v : Nat) :
    (m.insert k v).getD w 0 = if k = w then v else m.getD w 0 := by
  rw [Std.HashMap.getD_insert]
  simp only [beq_iff_eq]

/-- A suffix that grows by at most one label when the string grows by one starts no earlier. -/
theorem sub_le_add_one_sub {n L T : Nat} (h : T ≤ L + 1) : n - L ≤ n + 1 - T := by
  rw [← Nat.add_sub_add_right n 1 L]
  exact Nat.sub_le_sub_left h _

theorem lsuf_singleton_of_not_mem {N : List (List Nat)} (hN : [] ∈ N) {c : Nat} (h : [c] ∉ N) :
    lsuf N [c] = [] := by
  obtain ⟨a, b, _⟩ := lsuf_spec hN [c]
  rcases List.suffix_cons_iff.1 a with h1 | h1
  · exact absurd (h1 ▸ b) h
  · exact List.suffix_nil.mp h1

theorem lps_eq_nil_of_length_le_one {N : List (List Nat)} {w : List Nat} (h : w.length ≤ 1) :
    lps N w = [] := by
  have : w.tail = [] := by
    cases w with
    | nil => rfl
    | cons a w => simpa using h
  rw [lps, this, lsuf_nil]

section
variable (P : List (LPat V))

theorem lps_spec (u : List Nat) :
    lps (nodeList P) u <:+ u.tail ∧ lps (nodeList P) u ∈ nodeList P ∧
      ∀ t, t <:+ u.tail → t ∈ nodeList P → t.length ≤ (lps (nodeList P) u).length :=
  lsuf_spec (nodeList_prefClosed P).nil_mem u.tail

theorem lps_mem (u : List Nat) : lps (nodeList P) u ∈ nodeList P :=
  (lps_spec P u).2.1

theorem lps_suffix (u : List Nat) : lps (nodeList P) u <:+ u :=
  (lps_spec P u).1.trans (List.tail_suffix u)

theorem lps_length_lt {u : List Nat} (hu : u ≠ []) :
    (lps (nodeList P) u).length < u.length := by
  have h := (lps_spec P u).1.length_le
  rw [List.length_tail] at h
  exact Nat.lt_of_le_of_lt h (Nat.sub_one_lt (mt List.length_eq_zero_iff.mp hu))

theorem lps_max {u w : List Nat} (hw : w <:+ u) (hne : w ≠ u)
    (hwN : w ∈ nodeList P) : w.length ≤ (lps (nodeList P) u).length :=
  (lps_spec P u).2.2 w (suffix_tail_of_ne hw hne) hwN

/-- A pattern whose occurrence at `s` reaches the end of `u`, but is not all of `u`, is a node and
a proper suffix of `u`: it starts inside `lps u`. -/
theorem lps_start_le_of_key_drop {p : LPat V} (hp : p ∈ P) {u : List Nat} {s : Nat}
    (hpre : p.key <+: u.drop s) (he : s + p.key.length = u.length) (hne : p.key ≠ u) :
    u.length - (lps (nodeList P) u).length ≤ s := by
  have hk : p.key = u.drop s :=
    hpre.eq_of_length (by rw [List.length_drop]; exact Nat.eq_sub_of_add_eq' he)
  have hN : p.key ∈ nodeList P := mem_nodeList.2 (Or.inr ⟨p, hp, List.prefix_refl _⟩)
  have hle := Nat.sub_le_sub_left (lps_max P (hk ▸ List.drop_suffix s u) hne hN) u.length
  rwa [Nat.sub_eq_of_eq_add he.symm] at hle

/-- The fail link of a child, from the fail link of its parent. -/
theorem lps_snoc {s : List Nat} (hs : s ≠ []) (c : Nat) :
    lps (nodeList P) (s ++ [c]) = lsuf (nodeList P) (lps (nodeList P) s ++ [c]) := by
  unfold lps
  rw [List.tail_append_of_ne_nil hs, lsuf_step (nodeList_prefClosed P)]

/-- The link of a child starts no earlier than the link of its parent. -/
theorem lps_start_snoc_le {s : List Nat} (hs : s ≠ []) (c : Nat) :
    s.length - (lps (nodeList P) s).length ≤
      s.length + 1 - (lps (nodeList P) (s ++ [c])).length := by
  have := (lsuf_spec (nodeList_prefClosed P).nil_mem (lps (nodeList P) s ++ [c])).1.length_le
  rw [← lps_snoc P hs c, List.length_append] at this
  exact sub_le_add_one_sub this

end

section
variable {t : Trie V} {fm : FailMap} {a : OutAcc V} {s : List Nat}

theorem outStep_some {v : V} {len : Nat} (h : (t.walk s).bind Trie.out = some (v, len)) :
    outStep t fm a s = { opos := a.opos.insert s (a.outs.size + 1),
                         outs := a.outs.push ⟨v, len, a.oposOf (fm.get s)⟩ } := by
  unfold outStep; rw [h]

theorem outStep_none (h : (t.walk s).bind Trie.out = none) :
    outStep t fm a s = { a with opos := a.opos.insert s (a.oposOf (fm.get s)) } := by
  unfold outStep; rw [h]

end

theorem outStep_of_find_some {t : Trie V} {P : List (LPat V)} (hS : TrieSem t P) (fm : FailMap)
    (a : OutAcc V) {s : List Nat} {p : LPat V} (h : P.find? (fun p => p.key = s) = some p) :
    outStep t fm a s = { opos := a.opos.insert s (a.outs.size + 1),
                         outs := a.outs.push ⟨p.value, p.blen, a.oposOf (fm.get s)⟩ } :=
  outStep_some (by rw [hS.outs s, h]; rfl)

theorem outStep_of_find_none {t : Trie V} {P : List (LPat V)} (hS : TrieSem t P) (fm : FailMap)
    (a : OutAcc V) {s : List Nat} (h : P.find? (fun p => p.key = s) = none) :
    outStep t fm a s = { a with opos := a.opos.insert s (a.oposOf (fm.get s)) } :=
  outStep_none (by rw [hS.outs s, h]; rfl)

/-- `LPat`-level mirror of `Daac.retainedGo`: keep `p` iff no earlier pattern's key is a proper
prefix of `p.key`. -/
def retainedLGo : List (LPat V) → List (LPat V) → List (LPat V)
  | _, [] => []
  | earlier, p :: ps =>
    if earlier.any (fun q => decide (q.key <+: p.key ∧ q.key ≠ p.key)) then
      retainedLGo (earlier ++ [p]) ps
    else p :: retainedLGo (earlier ++ [p]) ps

def retainedL (P : List (LPat V)) : List (LPat V) := retainedLGo [] P

theorem retainedLGo_map_key (e P : List (LPat V)) :
    (retainedLGo e P).map (·.key) = retKeysGo (e.map (·.key)) (P.map (·.key)) := by
  induction P generalizing e with
  | nil => rfl
  | cons p ps ih =>
    have ih' := ih (e ++ [p])
    rw [List.map_append] at ih'
    have hc : (e.map (·.key)).any (fun q => decide (q <+: p.key ∧ q ≠ p.key)) =
        e.any (fun q => decide (q.key <+: p.key ∧ q.key ≠ p.key)) := List.any_map
    rw [retainedLGo, List.map_cons, retKeysGo, hc]
    by_cases h : e.any (fun q => decide (q.key <+: p.key ∧ q.key ≠ p.key)) = true
    · rw [if_pos h, if_pos h]
      exact ih'
    · rw [if_neg h, if_neg h]
      exact congrArg (p.key :: ·) ih'

theorem retainedLGo_sublist (e P : List (LPat V)) : List.Sublist (retainedLGo e P) P := by
  induction P generalizing e with
  | nil => exact List.Sublist.slnil
  | cons p ps ih =>
    rw [retainedLGo]
    split
    · exact (ih _).trans (List.sublist_cons_self p ps)
    · exact (ih _).cons_cons p

theorem retainedL_sublist (P : List (LPat V)) : List.Sublist (retainedL P) P := retainedLGo_sublist [] P

theorem find?_key_of_mem {P : List (LPat V)} (hnd : (P.map (·.key)).Nodup) {p : LPat V}
    (hp : p ∈ P) : P.find? (fun q => q.key = p.key) = some p := by
  cases hf : P.find? (fun q => q.key = p.key) with
  | none => exact absurd (decide_eq_true rfl) (List.find?_eq_none.mp hf p hp)
  | some q =>
    have hq : q.key = p.key := by simpa using List.find?_some hf
    rw [lpat_eq_of_key_eq hnd (List.mem_of_find?_eq_some hf) hp hq]

/-- Generic form: any sub-list `P'` of `P` whose keys are the registered keys. -/
theorem trieSem_of_buildTrie (kind : Nat) (P P' : List (LPat V)) (t : Trie V)
    (ht : buildTrie kind P = .ok t) (hk : keysOk P) (hsub : List.Sublist P' P)
    (hkeys : P'.map (·.key) = retainedKeys (kind == 2) (P.map (·.key))) : TrieSem t P' := by
  obtain ⟨_, hne, hnd⟩ := (buildTrie_ok_iff kind P hk).mp ⟨t, ht⟩
  have hnd' : (P'.map (·.key)).Nodup := (hsub.map (·.key)).nodup hnd
  refine ⟨?_, ?_, hnd', fun p hp => hne p (hsub.subset hp)⟩
  · intro u
    show (t.walk u).isSome = true ↔ _
    rw [buildTrie_nodes kind P hk t ht u, mem_nodeList, ← hkeys]
    constructor
    · rintro (h | ⟨k, hk', hu⟩)
      · exact Or.inl h
      · obtain ⟨p, hp, rfl⟩ := List.mem_map.mp hk'
        exact Or.inr ⟨p, hp, ((mem_nprefixes _ _).mp hu).2⟩
    · rintro (h | ⟨p, hp, hu⟩)
      · exact Or.inl h
      · exact (Decidable.em (u = [])).imp_right fun h0 =>
          ⟨p.key, List.mem_map.mpr ⟨p, hp, rfl⟩, (mem_nprefixes _ _).mpr ⟨h0, hu⟩⟩
  · intro u
    show t.outAt u = _
    have hreg := buildTrie_registered kind P hk t ht u
    rw [Trie.isRegistered_eq_outAt, ← hkeys] at hreg
    cases ho : t.outAt u with
    | none =>
      -- nothing registered at `u`: no pattern of `P'` has the key `u`
      have hnone : P'.find? (fun p => decide (p.key = u)) = none := by
        rw [List.find?_eq_none]
        intro x hx hxu
        have := hreg.mpr (List.mem_map.mpr ⟨x, hx, of_decide_eq_true hxu⟩)
        rw [ho] at this
        cases this
      rw [hnone]; rfl
    | some o =>
      -- the output at `u` is that of a pattern `p` of `P` with key `u`, and `p` is in `P'`
      obtain ⟨p, hp, rfl, rfl⟩ := buildTrie_outAt kind P hk t ht u o ho
      obtain ⟨p', hp', hpu'⟩ := List.mem_map.mp (hreg.mp (by rw [ho]; rfl))
      rw [lpat_eq_of_key_eq hnd (hsub.subset hp') hp hpu'] at hp'
      rw [find?_key_of_mem hnd' hp']; rfl

theorem buildTrie_trieSem (kind : Nat) (hkind : kind ≠ 2) (P : List (LPat V)) (t : Trie V)
    (ht : buildTrie kind P = .ok t) (hk : keysOk P) : TrieSem t P := by
  refine trieSem_of_buildTrie kind P P t ht hk (List.Sublist.refl P) ?_
  simp [retainedKeys, hkind]

theorem buildTrie_trieSem_lf (P : List (LPat V)) (t : Trie V)
    (ht : buildTrie 2 P = .ok t) (hk : keysOk P) : TrieSem t (retainedL P) := by
  refine trieSem_of_buildTrie 2 P (retainedL P) t ht hk (retainedL_sublist P) ?_
  simp [retainedKeys, retKeys, retainedL, retainedLGo_map_key]

end Daac
