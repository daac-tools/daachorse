import Daac.Gen.BuildC
/-!
The frame property of the translated char-wise `build_double_array` (Gen/BuildC.lean): none of
`init_array`, `extend_array`, `loop0`, `loop2`, `loop3` writes the `match_kind`, `mapper` or
`num_free_blocks` field of the builder (`find_base` and `loop1` do not return a builder at all).
As in Proofs/TieTopFrame.lean, by cases along the definition of each function.
-/
namespace Daac.Tie.TopC
open Daac Daac.Gen Daac.Gen.N

variable {V : Type}

/-- The three fields of the char-wise builder that the layout pass never writes. -/
def SameCfgC (b' b : LC.Builder) : Prop :=
  b'.match_kind = b.match_kind ∧ b'.mapper = b.mapper ∧ b'.num_free_blocks = b.num_free_blocks

theorem SameCfgC.rfl' (b : LC.Builder) : SameCfgC b b := ⟨rfl, rfl, rfl⟩

theorem SameCfgC.trans {a b c : LC.Builder} (h1 : SameCfgC a b) (h2 : SameCfgC b c) : SameCfgC a c :=
  ⟨h1.1.trans h2.1, h1.2.1.trans h2.2.1, h1.2.2.trans h2.2.2⟩

theorem init_array_frameC (b b' : LC.Builder) (h : H.BuildHelper)
    (hh : LC.Builder.init_array b = .ok (h, b')) : SameCfgC b' b := by
  revert hh
  fun_cases LC.Builder.init_array b <;> intro hh
  case case5 => rw [← (Prod.mk.inj (Except.ok.inj hh)).2]; exact ⟨rfl, rfl, rfl⟩
  all_goals cases hh

theorem extend_array_frameC (b b' : LC.Builder) (h h' : H.BuildHelper) (u : Unit)
    (hh : LC.Builder.extend_array b h = .ok (u, b', h')) : SameCfgC b' b := by
  revert hh
  fun_cases LC.Builder.extend_array b h <;> intro hh
  case case3 => rw [← (Prod.mk.inj (Prod.mk.inj (Except.ok.inj hh)).2).1]; exact ⟨rfl, rfl, rfl⟩
  all_goals cases hh

theorem loop2_frameC (sidx base : Nat) (l : List (Nat × Nat)) (b : LC.Builder) (h : H.BuildHelper)
    (m : Array Nat) (st : List Nat) (r : LC.Builder × H.BuildHelper × Array Nat × List Nat)
    (hh : DC.Builder.build_double_array.loop2 sidx base l b h m st = .ok r) : SameCfgC r.1 b := by
  revert hh
  fun_induction DC.Builder.build_double_array.loop2 sidx base l b h m st <;> intro hh
  case case1 => rw [← Except.ok.inj hh]; exact ⟨rfl, rfl, rfl⟩
  case case5 ih => exact (ih hh).trans ⟨rfl, rfl, rfl⟩
  all_goals cases hh

theorem loop0_frameC (nfa : NfaBuilder V) (fuel : Nat) (b : LC.Builder) (h : H.BuildHelper)
    (m : Array Nat) (st : List Nat) (mp : List (Nat × Nat))
    (r : LC.Builder × H.BuildHelper × Array Nat × List Nat × List (Nat × Nat))
    (hh : DC.Builder.build_double_array.loop0 nfa fuel b h m st mp = .ok r) : SameCfgC r.1 b := by
  revert hh
  fun_induction DC.Builder.build_double_array.loop0 nfa fuel b h m st mp <;> intro hh
  case case2 => rw [← Except.ok.inj hh]; exact ⟨rfl, rfl, rfl⟩
  case case5 ih => exact ih hh
  case case11 b1 _ hext _ _ _ _ hl2 _ _ _ ih =>
    -- `hext`: the conditional `extend_array` returned `(b1, _)`; `hl2`: the run of `loop2` on it
    refine ((ih hh).trans ⟨rfl, rfl, rfl⟩).trans ((loop2_frameC _ _ _ _ _ _ _ _ hl2).trans ?_)
    split at hext
    · split at hext
      · cases hext
      · rename_i hx
        rw [← (Prod.mk.inj (Except.ok.inj hext)).1]
        exact extend_array_frameC _ _ _ _ _ hx
    · rw [← (Prod.mk.inj (Except.ok.inj hext)).1]; exact ⟨rfl, rfl, rfl⟩
  all_goals cases hh

theorem loop3_frameC (m : Array Nat) (l : List (Nat × NfaBuilderState V)) (b b' : LC.Builder)
    (hh : DC.Builder.build_double_array.loop3 m l b = .ok b') : SameCfgC b' b := by
  revert hh
  fun_induction DC.Builder.build_double_array.loop3 m l b <;> intro hh
  case case1 => rw [← Except.ok.inj hh]; exact ⟨rfl, rfl, rfl⟩
  case case2 ih => exact ih hh
  case case6 hfail ih =>
    -- `hfail`: the fail link was written, on either branch by a `states` update
    refine (ih hh).trans ?_
    split at hfail
    · split at hfail
      · cases hfail
      · rw [← Except.ok.inj hfail]; exact ⟨rfl, rfl, rfl⟩
    · split at hfail
      · cases hfail
      · split at hfail
        · cases hfail
        · rw [← Except.ok.inj hfail]; exact ⟨rfl, rfl, rfl⟩
  all_goals cases hh

theorem build_double_array_frameC (b b' : LC.Builder) (g : NfaBuilder V) (u : Unit)
    (hh : DC.Builder.build_double_array b g = .ok (u, b')) : SameCfgC b' b := by
  revert hh
  fun_cases DC.Builder.build_double_array b g <;> intro hh
  case case5 =>
    -- the three hypotheses of this case: `init_array`, `loop0`, `loop3` returned the successive builders
    rw [← (Prod.mk.inj (Except.ok.inj hh)).2]
    exact (loop3_frameC _ _ _ _ (by assumption)).trans
      ((loop0_frameC _ _ _ _ _ _ _ (_, _) (by assumption)).trans (init_array_frameC _ _ _ (by assumption)))
  all_goals cases hh

end Daac.Tie.TopC

#print axioms Daac.Tie.TopC.build_double_array_frameC
