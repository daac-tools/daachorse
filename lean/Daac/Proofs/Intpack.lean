/-
`U24nU8` (src/intpack.rs): the two fields do not disturb each other, and every packed word of a
state fits 32 bits.
-/
import Daac.Model.Intpack
namespace Daac.U24nU8

/-! With the generated shift `8` and mask `255` the packed word is `256 * a + b`, and the two
accessors are quotient and remainder by `256`. -/

theorem a_eq_div (x : Nat) : a x = x / 256 := Nat.shiftRight_eq_div_pow x 8

theorem b_eq_mod (x : Nat) : b x = x % 256 := Nat.and_two_pow_sub_one_eq_mod x 8

theorem pack_eq (a' b' : Nat) (hb : b' < 256) : pack a' b' = 256 * a' + b' := by
  rw [Nat.mul_comm, ← Nat.shiftLeft_eq a' 8]
  exact (Nat.shiftLeft_add_eq_or_of_lt hb a').symm

theorem a_pack (a' b' : Nat) (hb : b' < 256) : a (pack a' b') = a' := by
  rw [pack_eq a' b' hb, a_eq_div, Nat.mul_add_div (by decide), Nat.div_eq_of_lt hb, Nat.add_zero]

theorem b_pack (a' b' : Nat) (hb : b' < 256) : b (pack a' b') = b' := by
  rw [pack_eq a' b' hb, b_eq_mod, Nat.mul_add_mod, Nat.mod_eq_of_lt hb]

theorem b_lt (x : Nat) : b x < 256 := by
  rw [b_eq_mod]
  exact Nat.mod_lt x (by decide)

theorem setA_pack (a' b' x : Nat) (hb : b' < 256) : setA (pack a' b') x = pack x b' := by
  rw [setA, b_pack a' b' hb, pack]

theorem setB_pack (a' b' x : Nat) (hb : b' < 256) : setB (pack a' b') x = pack a' x := by
  rw [setB, a_pack a' b' hb, pack]

theorem setA_spec (x a' : Nat) : a (setA x a') = a' ∧ b (setA x a') = b x :=
  ⟨a_pack a' (b x) (b_lt x), b_pack a' (b x) (b_lt x)⟩

theorem setB_spec (x b' : Nat) (hb : b' < 256) : b (setB x b') = b' ∧ a (setB x b') = a x :=
  ⟨b_pack (a x) b' hb, a_pack (a x) b' hb⟩

theorem pack_lt (a' b' : Nat) (ha : a' ≤ Gen.u24Max) (hb : b' < 256) : pack a' b' < 2 ^ 32 := by
  rw [pack_eq a' b' hb]
  calc 256 * a' + b' < 256 * a' + 256 := Nat.add_lt_add_left hb _
    _ ≤ 256 * Gen.u24Max + 256 := Nat.add_le_add_right (Nat.mul_le_mul_left 256 ha) 256

theorem pack_a_b (x : Nat) : pack (a x) (b x) = x := by
  rw [pack_eq _ _ (b_lt x), a_eq_div, b_eq_mod]
  exact Nat.div_add_mod x 256

end Daac.U24nU8
