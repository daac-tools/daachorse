/-
Character-wise analogue of the byte-wise corollaries of `Daac/Proofs/StdIter.lean`:
for patterns and haystacks that are valid UTF-8 (given as lists of scalar values), the
item-level (code-point level) specifications `specOvItems`, `specNoSufItems`, `specFindItems`,
`specLLItems` over the decoded items coincide with the byte-level specifications of
`Daac/Spec.lean` over the encoded bytes.
Pure list / UTF-8 reasoning; nothing here knows about automata. Core Lean only.
-/
import Daac.Spec
import Daac.Proofs.StdIface
import Daac.Proofs.StdSem2
import Daac.Proofs.LmIface
import Daac.Proofs.Utf8
namespace Daac
variable {V : Type}

/-- A pattern given as (code points, value): its byte-level form. -/
def bytePat (q : List Nat × V) : Pat V := ⟨encAll q.1, q.2⟩

/-- A pattern given as (code points, value): its label-level form for the char-wise automaton. -/
def charPat (q : List Nat × V) : LPat V := ⟨q.1, (encAll q.1).length, q.2⟩

def Scalars (x : List Nat) : Prop := ∀ c ∈ x, isScalar c = true

def ScalarPats (Q : List (List Nat × V)) : Prop := ∀ q ∈ Q, q.1 ≠ [] ∧ Scalars q.1

/-- The items of the char-wise standard iterators for the text `t` starting at byte offset `p`. -/
def charItemsFrom (t : List Nat) (p : Nat) : List Item :=
  (itemsOf t p).map (fun w => ⟨w.label, w.stop⟩)

def charItems (t : List Nat) : List Item := charItemsFrom t 0

theorem Scalars.tail {c : Nat} {x : List Nat} (h : Scalars (c :: x)) : Scalars x :=
  fun d hd => h d (List.mem_cons_of_mem _ hd)

theorem Scalars.head {c : Nat} {x : List Nat} (h : Scalars (c :: x)) : isScalar c = true :=
  h c List.mem_cons_self

theorem Scalars.concat {x : List Nat} {c : Nat} (hx : Scalars x) (hc : isScalar c = true) :
    Scalars (x ++ [c]) :=
  fun d hd => (List.mem_append.1 hd).elim (hx d) fun h => List.mem_singleton.1 h ▸ hc

theorem Scalars.of_prefix {k x : List Nat} (hx : Scalars x) (h : k <+: x) : Scalars k :=
  fun c hc => hx c (h.subset hc)

theorem Scalars.nil : Scalars [] := nofun

namespace CharSpec

theorem charItemsFrom_cons (c : Nat) (t : List Nat) (p : Nat) :
    charItemsFrom (c :: t) p = ⟨c, p + utf8Width c⟩ :: charItemsFrom t (p + utf8Width c) := by
  simp [charItemsFrom]

theorem charItemsFrom_nil (p : Nat) : charItemsFrom [] p = [] := rfl

end CharSpec
open CharSpec

theorem itemsOfHay_charwise (t : List Nat) (ht : Scalars t) :
    itemsOfHay .charwise (encAll t) = .ok (charItems t) := by
  unfold itemsOfHay
  rw [allItems_encAll t ht 0 _ (Nat.le_refl _)]
  rfl

theorem lpatOf_bytePat (q : List Nat × V) (hq : Scalars q.1) :
    lpatOf .charwise (bytePat q) = .ok (charPat q) := by
  unfold lpatOf labelsOf
  simp only [bytePat, allItems_encAll q.1 hq 0 _ (Nat.le_refl _), itemsOf_labels]
  rfl

theorem lpatsOf_bytePat (Q : List (List Nat × V)) (hQ : ∀ q ∈ Q, Scalars q.1) :
    lpatsOf .charwise (Q.map bytePat) = .ok (Q.map charPat) := by
  induction Q with
  | nil => rfl
  | cons q Q ih =>
    have h1 := lpatOf_bytePat q (hQ q List.mem_cons_self)
    have h2 := ih (fun r hr => hQ r (List.mem_cons_of_mem _ hr))
    simp only [List.map_cons, lpatsOf, h1, h2]

variable {Q : List (List Nat × V)}

namespace CharSpec

theorem encAll_inj {a b : List Nat} (ha : Scalars a) (hb : Scalars b) (h : encAll a = encAll b) :
    a = b := by
  have h1 := encAll_prefix a b ha hb (h ▸ List.prefix_refl _)
  have h2 := encAll_prefix b a hb ha (h ▸ List.prefix_refl _)
  exact List.IsPrefix.eq_of_length_le h1 h2.length_le

theorem encAll_eq_nil {a : List Nat} (h : encAll a = []) : a = [] := by
  cases a with
  | nil => rfl
  | cons c a =>
    rw [encAll_cons] at h
    exact absurd (List.append_eq_nil_iff.1 h).1 (encScalar_ne_nil c)

theorem encAll_length_pos {a : List Nat} (h : a ≠ []) : 0 < (encAll a).length :=
  List.length_pos_iff.2 fun h0 => h (encAll_eq_nil h0)

theorem encAll_suffix_iff {k x : List Nat} (hk : Scalars k) (hx : Scalars x) (hne : k ≠ []) :
    encAll k <:+ encAll x ↔ k <:+ x := by
  constructor
  · rintro ⟨z, hz⟩
    have hd : (encAll x).drop z.length = encAll k := by rw [← hz, List.drop_left]
    obtain ⟨t1, t2, rfl, hl, -⟩ := self_sync k x hk hx hne z.length (hd ▸ List.prefix_refl _)
    -- the occurrence starts where `t2` starts and runs to the end, so it is `t2`
    rw [encAll_append, ← hl, List.drop_left] at hd
    exact ⟨t1, congrArg _ (encAll_inj hk (fun c hc => hx c (List.mem_append_right _ hc)) hd.symm)⟩
  · rintro ⟨z, rfl⟩
    rw [encAll_append]
    exact List.suffix_append _ _

theorem encAll_concat (pre : List Nat) (c : Nat) :
    encAll (pre ++ [c]) = encAll pre ++ encScalar c := by
  rw [encAll_append, encAll_cons, encAll_nil, List.append_nil]

theorem encAll_concat_length (pre : List Nat) (c : Nat) :
    (encAll (pre ++ [c])).length = (encAll pre).length + utf8Width c := by
  rw [encAll_concat, List.length_append, encScalar_length]

theorem sufPats_nil (P : List (Pat V)) : sufPats P [] = [] := by
  simp [sufPats, sufs]

theorem sufPats_cons (P : List (Pat V)) (a : Nat) (l : List Nat) :
    sufPats P (a :: l) = patsWithKey P (a :: l) ++ sufPats P l := by
  simp [sufPats, sufs]

/-- Filtering the byte-level (or label-level) views of `Q` by a test that can be read off the
code points. -/
theorem filter_map_eq {α β : Type} (g : α → β) (f : β → Bool) (f' : α → Bool) (Q : List α)
    (h : ∀ q ∈ Q, f (g q) = f' q) : (Q.map g).filter f = (Q.filter f').map g := by
  rw [List.filter_map]
  exact congrArg _ (List.filter_congr h)

theorem matchAt_bytePat (q : List Nat × V) (e : Nat) :
    matchAt (bytePat q) e = lmatchAt (charPat q) e := rfl

section
variable (hQ : ScalarPats Q)
include hQ

theorem key_not_prefix_cont {q : List Nat × V} (hq : q ∈ Q) {a : Nat} (ha : isCont a)
    (l : List Nat) : ¬ encAll q.1 <+: a :: l := by
  obtain ⟨d, k, e⟩ := List.exists_cons_of_ne_nil (hQ q hq).1
  obtain ⟨b, r, eb, hb, -⟩ := encScalar_shape d
  rw [e, encAll_cons, eb, List.cons_append, List.cons_prefix_cons]
  exact fun h => hb (h.1 ▸ ha)

theorem sufPats_skip (r l : List Nat) (hr : ∀ b ∈ r, isCont b) :
    sufPats (Q.map bytePat) (r ++ l) = sufPats (Q.map bytePat) l := by
  induction r with
  | nil => rfl
  | cons b r ih =>
    -- no key is `b :: (r ++ l)`, which starts with a continuation byte
    have hb : patsWithKey (Q.map bytePat) (b :: (r ++ l)) = [] :=
      List.filter_eq_nil_iff.2 <| List.forall_mem_map.2 fun q hq hk =>
        key_not_prefix_cont hQ hq (hr b List.mem_cons_self) (r ++ l) <| by
          rw [show encAll q.1 = b :: (r ++ l) from of_decide_eq_true hk]
          exact List.prefix_refl _
    rw [List.cons_append, sufPats_cons, hb, List.nil_append]
    exact ih fun x hx => hr x (List.mem_cons_of_mem _ hx)

/-- Of the suffixes that start inside the encoding of `c`, only the whole can be a pattern key. -/
theorem sufPats_encScalar (c : Nat) (l : List Nat) :
    sufPats (Q.map bytePat) (encScalar c ++ l) =
      patsWithKey (Q.map bytePat) (encScalar c ++ l) ++ sufPats (Q.map bytePat) l := by
  obtain ⟨b, r, eb, -, hr⟩ := encScalar_shape c
  rw [eb, List.cons_append, sufPats_cons, sufPats_skip hQ r l hr]

theorem patsWithKey_enc {x : List Nat} (hx : Scalars x) :
    patsWithKey (Q.map bytePat) (encAll x) = (Q.filter (fun q => q.1 = x)).map bytePat :=
  filter_map_eq bytePat _ _ Q fun q hq =>
    decide_eq_decide.2 ⟨encAll_inj (hQ q hq).2 hx, congrArg encAll⟩

/-- The patterns ending at the end of the text `x`, at byte level and at label level, are the
views of one list of patterns of `Q`. -/
theorem sufPats_chars {x : List Nat} (hx : Scalars x) :
    ∃ L : List (List Nat × V), sufPats (Q.map bytePat) (encAll x) = L.map bytePat ∧
      sufLPats (Q.map charPat) x = L.map charPat := by
  induction x with
  | nil => exact ⟨[], sufPats_nil _, sufLPats_nil _⟩
  | cons c x ih =>
    obtain ⟨L, hB, hC⟩ := ih hx.tail
    refine ⟨Q.filter (fun q => q.1 = c :: x) ++ L, ?_, ?_⟩
    · rw [encAll_cons, sufPats_encScalar hQ, ← encAll_cons, patsWithKey_enc hQ hx, hB,
        List.map_append]
    · rw [sufLPats_cons, hC, List.map_append, List.filter_map]
      rfl

end
end CharSpec
open CharSpec

theorem sufPats_matches_chars {Q : List (List Nat × V)} (hQ : ScalarPats Q) {x : List Nat}
    (hx : Scalars x) (e : Nat) :
    (sufPats (Q.map bytePat) (encAll x)).map (fun p => matchAt p e) =
      (sufLPats (Q.map charPat) x).map (fun p => lmatchAt p e) := by
  obtain ⟨L, hB, hC⟩ := sufPats_chars hQ hx
  rw [hB, hC, List.map_map, List.map_map]
  rfl

namespace CharSpec
section
variable (hQ : ScalarPats Q)
include hQ

/-- No pattern ends strictly inside a character. -/
theorem sufPats_mid {pre : List Nat} (hpre : Scalars pre) {c : Nat} (hc : isScalar c = true)
    {a' a'' : List Nat} (ha' : a' ≠ []) (ha'' : a'' ≠ []) (e : encScalar c = a' ++ a'') :
    sufPats (Q.map bytePat) (encAll pre ++ a') = [] := by
  have hl' := List.length_pos_iff.2 ha'
  have hl'' := List.length_pos_iff.2 ha''
  -- A key `encAll x ++ a'` would be a prefix of `encAll (x ++ [c])`, so the pattern would be
  -- `x ++ [c]` or a prefix of `x`, and the length of the key fits neither.
  have key : ∀ x, Scalars x → patsWithKey (Q.map bytePat) (encAll x ++ a') = [] := by
    intro x hx
    refine List.filter_eq_nil_iff.2 <| List.forall_mem_map.2 fun q hq hk => ?_
    have hk' : encAll q.1 = encAll x ++ a' := of_decide_eq_true hk
    have hpc : encAll q.1 <+: encAll (x ++ [c]) := by
      rw [encAll_concat, e, ← List.append_assoc, ← hk']
      exact List.prefix_append _ _
    rcases List.prefix_concat_iff.1 (encAll_prefix _ _ (hQ q hq).2 (hx.concat hc) hpc)
      with h | ⟨z, hz⟩
    · have := congrArg (fun l => (encAll l).length) h
      simp only [encAll_concat, hk', e, List.length_append] at this
      omega
    · have := congrArg (fun l => (encAll l).length) hz
      simp only [encAll_append, hk', List.length_append] at this
      omega
  induction pre with
  | nil =>
    -- `a'` is the lead byte of `c` with some of its continuation bytes
    obtain ⟨b, r, rfl⟩ := List.exists_cons_of_ne_nil ha'
    obtain ⟨b0, r0, e0, -, hr0⟩ := encScalar_shape c
    rw [e0, List.cons_append] at e
    obtain ⟨-, rfl⟩ := List.cons.inj e
    have hk : patsWithKey (Q.map bytePat) (b :: r) = [] := key [] Scalars.nil
    have hr := sufPats_skip hQ r [] fun x hx => hr0 x (List.mem_append_left _ hx)
    rw [List.append_nil] at hr
    rw [encAll_nil, List.nil_append, sufPats_cons, hk, hr, sufPats_nil]
    rfl
  | cons d pre ih =>
    rw [encAll_cons, List.append_assoc, sufPats_encScalar hQ, ← List.append_assoc, ← encAll_cons,
      key _ hpre, ih hpre.tail]
    rfl

/-- The byte-level specifications are functions `F` of the consumed and the remaining bytes that
pass over a byte at which no pattern ends. Reading the character `c` after the text `pre`, such
an `F` passes over all bytes of `c` but the last one, `b`, which completes `encAll (pre ++ [c])`. -/
theorem char_window {α : Type} (F : List Nat → List Nat → α)
    (hF : ∀ x b rest, sufPats (Q.map bytePat) (x ++ [b]) = [] → F x (b :: rest) = F (x ++ [b]) rest)
    {pre : List Nat} (hpre : Scalars pre) {c : Nat} (hc : isScalar c = true) :
    ∃ w b, encAll pre ++ w ++ [b] = encAll (pre ++ [c]) ∧
      (encAll pre ++ w).length + 1 = (encAll (pre ++ [c])).length ∧
      ∀ rest, F (encAll pre) (encScalar c ++ rest) = F (encAll pre ++ w) (b :: rest) := by
  obtain ⟨w, b, e⟩ : ∃ w b, encScalar c = w ++ [b] :=
    ⟨_, _, (List.dropLast_concat_getLast (encScalar_ne_nil c)).symm⟩
  have e1 : encAll pre ++ w ++ [b] = encAll (pre ++ [c]) := by
    rw [List.append_assoc, ← e, encAll_concat]
  have skip : ∀ v u, u ++ v = w → ∀ rest,
      F (encAll pre ++ u) (v ++ b :: rest) = F (encAll pre ++ w) (b :: rest) := by
    intro v
    induction v with
    | nil => intro u hu rest; rw [← hu, List.append_nil]; rfl
    | cons a v ih =>
      intro u hu rest
      have hmid := sufPats_mid hQ hpre hc (a' := u ++ [a]) (a'' := v ++ [b]) (by simp) (by simp)
        (by rw [e, ← hu]; simp)
      rw [List.cons_append, hF _ a _ (by rw [List.append_assoc]; exact hmid), List.append_assoc]
      exact ih (u ++ [a]) (by rw [← hu]; simp) rest
  refine ⟨w, b, e1, by rw [← e1, List.length_append (bs := [b])]; rfl, fun rest => ?_⟩
  have := skip w [] rfl rest
  rwa [List.append_nil, ← List.singleton_append, ← List.append_assoc, ← e] at this

theorem specOvItems_chars_from (t : List Nat) :
    ∀ pre, Scalars pre → Scalars t →
      specOvItems (Q.map charPat) pre (charItemsFrom t (encAll pre).length) =
        specOverlappingFrom (Q.map bytePat) (encAll pre) (encAll t) := by
  induction t with
  | nil => intro _ _ _; rfl
  | cons c t ih =>
    intro pre hpre ht
    have hpc := hpre.concat ht.head
    obtain ⟨w, b, e1, e2, hw⟩ := char_window hQ (specOverlappingFrom (Q.map bytePat))
      (fun x b rest hx => by rw [specOverlappingFrom, hx]; rfl) hpre ht.head
    rw [charItemsFrom_cons, ← encAll_concat_length, encAll_cons, hw, specOverlappingFrom, e1, e2,
      specOvItems, ih _ hpc ht.tail, sufPats_matches_chars hQ hpc]

theorem specNoSufItems_chars_from (t : List Nat) :
    ∀ pre, Scalars pre → Scalars t →
      specNoSufItems (Q.map charPat) pre (charItemsFrom t (encAll pre).length) =
        specNoSuffixFrom (Q.map bytePat) (encAll pre) (encAll t) := by
  induction t with
  | nil => intro _ _ _; rfl
  | cons c t ih =>
    intro pre hpre ht
    have hpc := hpre.concat ht.head
    obtain ⟨w, b, e1, e2, hw⟩ := char_window hQ (specNoSuffixFrom (Q.map bytePat))
      (fun x b rest hx => by rw [specNoSuffixFrom, hx]; rfl) hpre ht.head
    obtain ⟨L, hB, hC⟩ := sufPats_chars hQ hpc
    rw [charItemsFrom_cons, ← encAll_concat_length, encAll_cons, hw, specNoSuffixFrom, e1, e2,
      specNoSufItems, ih _ hpc ht.tail, hB, hC, List.head?_map, List.head?_map]
    cases L.head? <;> rfl

theorem specFindItems_chars_from (t : List Nat) :
    ∀ pos seen, Scalars seen → Scalars t →
      specFindItems (Q.map charPat) seen (charItemsFrom t (pos + (encAll seen).length)) =
        specFindFrom (Q.map bytePat) pos (encAll seen) (encAll t) := by
  induction t with
  | nil => intro _ _ _ _; rfl
  | cons c t ih =>
    intro pos seen hseen ht
    have hpc := hseen.concat ht.head
    obtain ⟨w, b, e1, e2, hw⟩ := char_window hQ (specFindFrom (Q.map bytePat) pos)
      (fun x b rest hx => by rw [specFindFrom, hx]; rfl) hseen ht.head
    obtain ⟨L, hB, hC⟩ := sufPats_chars hQ hpc
    rw [charItemsFrom_cons, Nat.add_assoc, ← encAll_concat_length, encAll_cons, hw, specFindFrom,
      e1, Nat.add_assoc pos, e2, specFindItems, hB, hC, List.head?_map, List.head?_map]
    cases L.head? with
    | none => exact ih pos (seen ++ [c]) hpc ht.tail
    | some q => exact congrArg _ (ih _ [] Scalars.nil ht.tail)

end
end CharSpec
open CharSpec

theorem specOvItems_chars_eq {Q : List (List Nat × V)} (hQ : ScalarPats Q) {t : List Nat}
    (ht : Scalars t) :
    specOvItems (Q.map charPat) [] (charItems t) = specOverlapping (Q.map bytePat) (encAll t) :=
  specOvItems_chars_from hQ t [] Scalars.nil ht

theorem specNoSufItems_chars_eq {Q : List (List Nat × V)} (hQ : ScalarPats Q) {t : List Nat}
    (ht : Scalars t) :
    specNoSufItems (Q.map charPat) [] (charItems t) = specNoSuffix (Q.map bytePat) (encAll t) :=
  specNoSufItems_chars_from hQ t [] Scalars.nil ht

theorem specFindItems_chars_eq {Q : List (List Nat × V)} (hQ : ScalarPats Q) {t : List Nat}
    (ht : Scalars t) :
    specFindItems (Q.map charPat) [] (charItems t) = specFind (Q.map bytePat) (encAll t) := by
  have := specFindItems_chars_from hQ t 0 [] Scalars.nil ht
  rwa [encAll_nil, List.length_nil] at this

namespace CharSpec

theorem go_nil (pick : List (Pat V) → Option (Pat V)) (P : List (Pat V)) (s skip : Nat) :
    specLeftmostGo pick P [] s skip = [] := by
  simp [specLeftmostGo]

theorem go_skip_one (pick : List (Pat V) → Option (Pat V)) (P : List (Pat V)) (c : Nat)
    (r : List Nat) (s skip : Nat) :
    specLeftmostGo pick P (c :: r) s (skip + 1) = specLeftmostGo pick P r (s + 1) skip := by
  simp [specLeftmostGo]

theorem go_none (pick : List (Pat V) → Option (Pat V)) (P : List (Pat V)) (c : Nat)
    (r : List Nat) (s : Nat) (h : pick (prefPats P (c :: r)) = none) :
    specLeftmostGo pick P (c :: r) s 0 = specLeftmostGo pick P r (s + 1) 0 := by
  rw [specLeftmostGo]
  simp [h]

theorem go_some (pick : List (Pat V) → Option (Pat V)) (P : List (Pat V)) (c : Nat)
    (r : List Nat) (s : Nat) (p : Pat V) (h : pick (prefPats P (c :: r)) = some p) :
    specLeftmostGo pick P (c :: r) s 0 =
      ⟨s, s + p.key.length, p.value⟩ :: specLeftmostGo pick P r (s + 1) (p.key.length - 1) := by
  rw [specLeftmostGo]
  simp [h]

theorem go_skip (pick : List (Pat V) → Option (Pat V)) (P : List (Pat V)) (a : List Nat) :
    ∀ (r : List Nat) (s n : Nat),
      specLeftmostGo pick P (a ++ r) s (a.length + n) = specLeftmostGo pick P r (s + a.length) n := by
  induction a with
  | nil => intro r s n; rw [List.length_nil, Nat.zero_add]; rfl
  | cons b a ih =>
    intro r s n
    rw [List.cons_append, List.length_cons, Nat.add_right_comm, go_skip_one, ih, Nat.add_assoc,
      Nat.add_comm 1]

/-- No occurrence starts at a continuation byte. -/
theorem go_cont (hQ : ScalarPats Q) (r0 : List Nat) :
    ∀ (l : List Nat) (s : Nat), (∀ b ∈ r0, isCont b) →
      specLeftmostGo longestPat (Q.map bytePat) (r0 ++ l) s 0 =
        specLeftmostGo longestPat (Q.map bytePat) l (s + r0.length) 0 := by
  induction r0 with
  | nil => intro l s _; rfl
  | cons b r0 ih =>
    intro l s h
    have hb : prefPats (Q.map bytePat) (b :: (r0 ++ l)) = [] :=
      List.filter_eq_nil_iff.2 <| List.forall_mem_map.2 fun q hq hk =>
        key_not_prefix_cont hQ hq (h b List.mem_cons_self) _ (of_decide_eq_true hk).2
    rw [List.cons_append, go_none _ _ _ _ _ (by rw [hb]; rfl),
      ih l (s + 1) (fun x hx => h x (List.mem_cons_of_mem _ hx)), List.length_cons, Nat.add_assoc,
      Nat.add_comm 1]

def prefQ (Q : List (List Nat × V)) (t : List Nat) : List (List Nat × V) :=
  Q.filter (fun q => q.1 ≠ [] ∧ q.1 <+: t)

theorem prefPats_chars (hQ : ScalarPats Q) {t : List Nat}
    (ht : Scalars t) : prefPats (Q.map bytePat) (encAll t) = (prefQ Q t).map bytePat :=
  filter_map_eq bytePat _ _ Q fun q hq => decide_eq_decide.2
    ⟨fun ⟨h1, h2⟩ => ⟨fun h => h1 (congrArg encAll h), encAll_prefix _ _ (hQ q hq).2 ht h2⟩,
      fun ⟨h1, _, hz⟩ =>
        ⟨fun h => h1 (encAll_eq_nil h), hz ▸ encAll_append _ _ ▸ List.prefix_append _ _⟩⟩

theorem prefLPats_chars (Q : List (List Nat × V)) (t : List Nat) :
    prefLPats (Q.map charPat) t = (prefQ Q t).map charPat := by
  unfold prefLPats prefQ
  rw [List.filter_map]
  rfl

/-- Among prefixes of one text, longer in bytes = longer in code points. -/
theorem enc_length_gt_iff {k1 k2 t : List Nat} (h1 : k1 <+: t) (h2 : k2 <+: t) :
    (encAll k1).length > (encAll k2).length ↔ k1.length > k2.length := by
  rcases List.prefix_or_prefix_of_prefix h1 h2 with h | h
  · obtain ⟨z, rfl⟩ := h
    simp only [encAll_append, List.length_append]
    omega
  · obtain ⟨z, rfl⟩ := h
    simp only [encAll_append, List.length_append]
    cases z with
    | nil => simp
    | cons d z =>
      have := utf8Width_pos d
      rw [encAll_length_cons]
      simp only [List.length_cons]
      omega

/-- The longest of the patterns `L`, all prefixes of one text, is the same pattern at byte level
and at label level. -/
theorem longest_chars {L : List (List Nat × V)} {t : List Nat} (hL : ∀ q ∈ L, q.1 <+: t) :
    ∃ o : Option (List Nat × V), (∀ q, o = some q → q ∈ L) ∧
      longestPat (L.map bytePat) = o.map bytePat ∧ longestLPat (L.map charPat) = o.map charPat := by
  induction L with
  | nil => exact ⟨none, nofun, rfl, rfl⟩
  | cons p ps ih =>
    obtain ⟨o, hm, hB, hC⟩ := ih fun q hq => hL q (List.mem_cons_of_mem _ hq)
    rw [List.map_cons, List.map_cons, longestPat, longestLPat, hB, hC]
    cases o with
    | none => exact ⟨some p, fun q e => by cases e; exact List.mem_cons_self, rfl, rfl⟩
    | some q =>
      have hiff := enc_length_gt_iff (hL q (List.mem_cons_of_mem _ (hm q rfl)))
        (hL p List.mem_cons_self)
      -- both searches keep `q` iff it is longer than `p`, in bytes resp. in code points
      by_cases hc : q.1.length > p.1.length
      · exact ⟨some q, fun r e => List.mem_cons_of_mem _ (hm r e), if_pos (hiff.2 hc), if_pos hc⟩
      · exact ⟨some p, fun r e => by cases e; exact List.mem_cons_self,
          if_neg (mt hiff.1 hc), if_neg hc⟩

/-- At a character start the byte-level and the label-level search choose the same pattern, a
non-empty prefix of the remaining text. -/
theorem pick_chars (hQ : ScalarPats Q) {t : List Nat} (ht : Scalars t) :
    ∃ o : Option (List Nat × V), (∀ q, o = some q → q.1 ≠ [] ∧ q.1 <+: t) ∧
      longestPat (prefPats (Q.map bytePat) (encAll t)) = o.map bytePat ∧
      longestLPat (prefLPats (Q.map charPat) t) = o.map charPat := by
  have hmem : ∀ q ∈ prefQ Q t, q.1 ≠ [] ∧ q.1 <+: t :=
    fun q hq => of_decide_eq_true (List.mem_filter.1 hq).2
  obtain ⟨o, hm, hB, hC⟩ := longest_chars fun q hq => (hmem q hq).2
  rw [prefPats_chars hQ ht, prefLPats_chars]
  exact ⟨o, fun q e => hmem q (hm q e), hB, hC⟩

theorem itemsOf_getElem?_stop (t : List Nat) : ∀ (s n : Nat), n < t.length →
    ((itemsOf t s)[n]?).map (·.stop) = some (s + (encAll (t.take (n + 1))).length) := by
  induction t with
  | nil => intro s n h; simp at h
  | cons c t ih =>
    intro s n h
    cases n with
    | zero => simp [encScalar_length]
    | succ n =>
      rw [itemsOf_cons, List.getElem?_cons_succ, ih _ n (Nat.lt_of_succ_lt_succ h),
        List.take_succ_cons, encAll_length_cons, Nat.add_assoc]

theorem llItems_nil (P : List (LPat V)) (skip : Nat) : specLLItems P [] skip = [] := by
  simp [specLLItems]

theorem llItems_skip (P : List (LPat V)) (it : WItem) (r : List WItem) (skip : Nat) :
    specLLItems P (it :: r) (skip + 1) = specLLItems P r skip := by
  simp [specLLItems]

theorem llItems_none (P : List (LPat V)) (it : WItem) (r : List WItem)
    (h : longestLPat (prefLPats P ((it :: r).map (·.label))) = none) :
    specLLItems P (it :: r) 0 = specLLItems P r 0 := by
  rw [specLLItems]
  simp only [h]

theorem llItems_some (P : List (LPat V)) (it : WItem) (r : List WItem) (p : LPat V)
    (h : longestLPat (prefLPats P ((it :: r).map (·.label))) = some p) :
    specLLItems P (it :: r) 0 =
      ⟨(((it :: r)[p.key.length - 1]?).map (·.stop)).getD 0 - p.blen,
        (((it :: r)[p.key.length - 1]?).map (·.stop)).getD 0, p.value⟩ ::
        specLLItems P r (p.key.length - 1) := by
  rw [specLLItems]
  simp only [h]

/-- No pattern starts at the character `c`: the byte-level search passes over its bytes. -/
theorem go_char_none (hQ : ScalarPats Q) (c : Nat) (t : List Nat) (s : Nat)
    (hp : longestPat (prefPats (Q.map bytePat) (encAll (c :: t))) = none) :
    specLeftmostGo longestPat (Q.map bytePat) (encAll (c :: t)) s 0 =
      specLeftmostGo longestPat (Q.map bytePat) (encAll t) (s + utf8Width c) 0 := by
  obtain ⟨b, r0, eb, -, hr0⟩ := encScalar_shape c
  rw [encAll_cons, eb, List.cons_append] at hp
  rw [encAll_cons, ← encScalar_length, eb, List.cons_append, go_none _ _ _ _ _ hp,
    go_cont hQ r0 _ _ hr0, List.length_cons, Nat.add_assoc, Nat.add_comm 1]

/-- The pattern `q = c :: k` is chosen at the character `c`: the byte-level search reports it
and passes over the rest of `c`, with the bytes of `k` still to skip. -/
theorem go_char_some (c : Nat) (t : List Nat) (s : Nat) {q : List Nat × V} {k : List Nat}
    (hp : longestPat (prefPats (Q.map bytePat) (encAll (c :: t))) = some (bytePat q))
    (hk : q.1 = c :: k) :
    specLeftmostGo longestPat (Q.map bytePat) (encAll (c :: t)) s 0 =
      ⟨s, s + (encAll q.1).length, q.2⟩ ::
        specLeftmostGo longestPat (Q.map bytePat) (encAll t) (s + utf8Width c) (encAll k).length := by
  obtain ⟨b, r0, eb, -⟩ := encScalar_shape c
  rw [encAll_cons, eb, List.cons_append] at hp
  have hlen : (bytePat q).key.length - 1 = r0.length + (encAll k).length := by
    show (encAll q.1).length - 1 = _
    rw [hk, encAll_cons, eb, List.cons_append, List.length_cons, List.length_append]
    rfl
  rw [encAll_cons, ← encScalar_length, eb, List.cons_append, go_some _ _ _ _ _ _ hp, hlen, go_skip,
    List.length_cons, Nat.add_assoc, Nat.add_comm 1]
  rfl

/-- The same at label level: the match ends where the last character of `q` ends. -/
theorem llItems_char_some (c : Nat) (t : List Nat) (s : Nat) {q : List Nat × V} {k : List Nat}
    (hp : longestLPat (prefLPats (Q.map charPat) (c :: t)) = some (charPat q))
    (hk : q.1 = c :: k) (hkt : k <+: t) :
    specLLItems (Q.map charPat) (itemsOf (c :: t) s) 0 =
      ⟨s, s + (encAll q.1).length, q.2⟩ ::
        specLLItems (Q.map charPat) (itemsOf t (s + utf8Width c)) k.length := by
  have hkl : (charPat q).key.length - 1 = k.length := by
    show q.1.length - 1 = k.length
    rw [hk]
    rfl
  have hstop := itemsOf_getElem?_stop (c :: t) s k.length (Nat.lt_succ_of_le hkt.length_le)
  rw [List.take_succ_cons, ← List.prefix_iff_eq_take.1 hkt, ← hk] at hstop
  rw [← itemsOf_labels (c :: t) s] at hp
  rw [itemsOf_cons] at hstop hp ⊢
  rw [llItems_some _ _ _ _ hp, hkl, hstop]
  show (⟨s + (encAll q.1).length - (encAll q.1).length, _, _⟩ : Match V) :: _ = _
  rw [Nat.add_sub_cancel]
  rfl

theorem specLL_chars_from (hQ : ScalarPats Q) (t : List Nat) :
    ∀ (s skip : Nat), Scalars t → skip ≤ t.length →
      specLLItems (Q.map charPat) (itemsOf t s) skip =
        specLeftmostGo longestPat (Q.map bytePat) (encAll t) s (encAll (t.take skip)).length := by
  induction t with
  | nil => intro s skip _ _; rw [itemsOf_nil, llItems_nil, encAll_nil, go_nil]
  | cons c t ih =>
    intro s skip ht hs
    cases skip with
    | succ k =>
      rw [itemsOf_cons, llItems_skip, ih _ _ ht.tail (Nat.le_of_succ_le_succ hs),
        List.take_succ_cons, encAll_cons, encAll_cons, List.length_append, go_skip,
        encScalar_length]
    | zero =>
      rw [List.take_zero, encAll_nil, List.length_nil]
      obtain ⟨o, hm, hB, hC⟩ := pick_chars hQ ht
      cases o with
      | none =>
        rw [← itemsOf_labels (c :: t) s] at hC
        rw [go_char_none hQ c t s hB, itemsOf_cons, llItems_none _ _ _ hC,
          ih _ 0 ht.tail (Nat.zero_le _)]
        rfl
      | some q =>
        obtain ⟨hne, hpre⟩ := hm q rfl
        obtain ⟨d, k, hk⟩ := List.exists_cons_of_ne_nil hne
        rw [hk, List.cons_prefix_cons] at hpre
        rw [hpre.1] at hk
        rw [llItems_char_some c t s hC hk hpre.2, go_char_some c t s hB hk,
          ih _ _ ht.tail hpre.2.length_le, ← List.prefix_iff_eq_take.1 hpre.2]

end CharSpec
open CharSpec

theorem specLLItems_chars_eq {Q : List (List Nat × V)} (hQ : ScalarPats Q) {t : List Nat}
    (ht : Scalars t) :
    specLLItems (Q.map charPat) (itemsOf t 0) 0 = specLL (Q.map bytePat) (encAll t) :=
  specLL_chars_from hQ t 0 0 ht (Nat.zero_le _)

theorem bytePat_valid {Q : List (List Nat × V)} (hQ : ScalarPats Q) (hQ0 : Q ≠ [])
    (hnd : (Q.map (·.1)).Nodup) : ValidPats (Q.map bytePat) := by
  refine ⟨by simpa using hQ0, ?_, ?_⟩
  · intro p hp
    obtain ⟨q, hq, rfl⟩ := List.mem_map.1 hp
    intro h
    exact (hQ q hq).1 (CharSpec.encAll_eq_nil h)
  · have e : (Q.map bytePat).map (·.key) = Q.map (fun q => encAll q.1) := by
      simp [bytePat, List.map_map, Function.comp_def]
    rw [e]
    unfold List.Nodup at hnd ⊢
    rw [List.pairwise_map] at hnd ⊢
    refine hnd.imp_of_mem ?_
    intro a b ha hb hab h
    exact hab (CharSpec.encAll_inj (hQ a ha).2 (hQ b hb).2 h)

#print axioms itemsOfHay_charwise
#print axioms lpatOf_bytePat
#print axioms lpatsOf_bytePat
#print axioms CharSpec.encAll_suffix_iff
#print axioms sufPats_matches_chars
#print axioms specOvItems_chars_eq
#print axioms specNoSufItems_chars_eq
#print axioms specFindItems_chars_eq
#print axioms specLLItems_chars_eq

end Daac
