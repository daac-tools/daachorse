/-
Completeness of the evaluated invariants on model-built tables: every automaton returned by
`buildDA` satisfies `countInv` and `sizeInv`, and for the standard kind `tableInv`, i.e. the
runtime invariant checks can never raise a false alarm on tables equal to the model's.
This is the converse direction of Rung 1 (`stdSem_of_tableInv`) for model-built tables.
The traversals of `Inv.lean` are followed along `Mirror`, which says for any match kind that the
child lookups of the table are the edges of the trie of the patterns.
-/
import Daac.Proofs.Stats2
import Daac.InvExtra
namespace Daac.InvC
open Daac
variable {V : Type}

theorem strictSorted_of_pairwise : ∀ (l : List Nat), l.Pairwise (· < ·) → strictSorted l = true
  | [], _ => rfl
  | [_], _ => rfl
  | a :: b :: r, h => by
    have h1 := List.pairwise_cons.1 h
    exact Bool.and_eq_true_iff.2
      ⟨decide_eq_true (h1.1 b List.mem_cons_self), strictSorted_of_pairwise (b :: r) h1.2⟩

theorem nodupFast_of_nodup (l : List Nat) (h : l.Nodup) : nodupFast l = true := by
  have hle : (l.mergeSort fun a b => decide (a ≤ b)).Pairwise (· ≤ ·) :=
    (List.pairwise_mergeSort (le := fun a b : Nat => decide (a ≤ b))
      (fun a b c h1 h2 => decide_eq_true (Nat.le_trans (of_decide_eq_true h1) (of_decide_eq_true h2)))
      (fun a b => by simp only [Bool.or_eq_true, decide_eq_true_eq]; exact Nat.le_total a b) l).imp
      of_decide_eq_true
  have hne : (l.mergeSort fun a b => decide (a ≤ b)).Nodup := (List.mergeSort_perm l _).nodup_iff.2 h
  exact strictSorted_of_pairwise _ ((hle.and hne).imp fun h => Nat.lt_of_le_of_ne h.1 h.2)

/-- The evaluated checks are conjunctions of four clauses. -/
theorem and4 {a b c d : Bool} (ha : a = true) (hb : b = true) (hc : c = true) (hd : d = true) :
    (a && b && c && d) = true := by
  rw [ha, hb, hc, hd]
  rfl

theorem fuel_step {m fuel c : Nat} {u : List Nat} (h : m < u.length + (fuel + 1)) :
    m < (u ++ [c]).length + fuel := by
  rw [List.length_append, List.length_singleton, Nat.add_right_comm]
  exact h

/-- What the traversals of the invariants need of a table, whatever the match kind: along the
nodes of `P` the child lookup answers exactly the trie's edge, at the index the walk reaches. -/
structure Mirror (da : DA V) (P : List (LPat V)) : Prop where
  lab : ∀ u ∈ nodeList P, ∀ c ∈ u, LabelOk da c
  walk_node : ∀ u ∈ nodeList P, da.walk u = some (da.idx u)
  child : ∀ u ∈ nodeList P, ∀ c, LabelOk da c → da.childL (da.idx u) c =
    .ok (if u ++ [c] ∈ nodeList P then some (da.idx (u ++ [c])) else none)
  nonroot : ∀ u ∈ nodeList P, u ≠ [] → da.idx u ≠ rootIdx ∧ da.idx u ≠ deadIdx

theorem mirror_of_layout {da : DA V} {t : Trie V} {nfa : Nfa V} {idx : List Nat → Nat}
    {P : List (LPat V)} (hL : LayoutSem da t nfa idx) (hS : TrieSem t P)
    (hlab : ∀ u, t.hasNode u = true → ∀ c ∈ u, LabelOk da c) : Mirror da P := by
  have hidx : ∀ u ∈ nodeList P, da.idx u = idx u := fun u hu => idx_eq_of_mem hL hS hlab hu
  refine ⟨fun u hu => hlab u ((hS.nodes u).2 hu), ?_, ?_, ?_⟩
  · intro u hu
    rw [hidx u hu]
    exact walk_eq_idx hL hS hlab u ((hS.nodes u).2 hu)
  · intro u hu c hc
    rw [hidx u hu, hL.child u ((hS.nodes u).2 hu) c hc]
    by_cases hm : u ++ [c] ∈ nodeList P
    · rw [if_pos hm, if_pos ((hS.nodes _).2 hm), hidx _ hm]
    · rw [if_neg hm, if_neg fun h => hm ((hS.nodes _).1 h)]
  · intro u hu hne
    rw [hidx u hu]
    exact hL.nonroot u ((hS.nodes u).2 hu) hne

theorem nodeList_of_prefix {P : List (LPat V)} {v w : List Nat} (h : v <+: w) (hw : w ∈ nodeList P) :
    v ∈ nodeList P := by
  rcases mem_nodeList.1 hw with rfl | ⟨p, hp, hpre⟩
  · rw [List.prefix_nil.1 h]
    exact (nodeList_prefClosed P).nil_mem
  · exact mem_nodeList.2 (Or.inr ⟨p, hp, h.trans hpre⟩)

section Mirror
variable {da : DA V} {P : List (LPat V)} (hM : Mirror da P)
include hM

theorem Mirror.walkFrom_isSome (s : List Nat) : ∀ u ∈ nodeList P, (∀ c ∈ s, LabelOk da c) →
    (da.walkFrom (da.idx u) s).isSome → u ++ s ∈ nodeList P := by
  induction s with
  | nil =>
    intro u hu _ _
    rwa [List.append_nil]
  | cons c s ih =>
    intro u hu hl h
    rw [DA.walkFrom, hM.child u hu c (hl c List.mem_cons_self)] at h
    by_cases hm : u ++ [c] ∈ nodeList P
    · rw [if_pos hm] at h
      have := ih (u ++ [c]) hm (fun d hd => hl d (List.mem_cons_of_mem c hd)) h
      rwa [List.append_assoc, List.singleton_append] at this
    · rw [if_neg hm] at h
      cases h

theorem Mirror.walk_isSome_iff {s : List Nat} (hl : ∀ c ∈ s, LabelOk da c) :
    (da.walk s).isSome ↔ s ∈ nodeList P := by
  constructor
  · intro h
    exact hM.walkFrom_isSome s [] (nodeList_prefClosed P).nil_mem hl h
  · intro h
    rw [hM.walk_node s h]
    rfl

theorem Mirror.edge_mem_sigma {u : List Nat} {c : Nat} (h : u ++ [c] ∈ nodeList P) :
    c ∈ da.sigma := by
  rcases hM.lab _ h c (List.mem_append_right u List.mem_cons_self) with h1 | hcc
  · exact h1
  · have hch := hM.child u ((nodeList_prefClosed P).closed u c h) c (Or.inr hcc)
    rw [if_pos h, childL_of_code_none _ hcc] at hch
    cases hch

theorem Mirror.heads_ok (u : List Nat) :
    (resid P u).all (fun p => match p.key with | [] => true | k :: _ => da.sigma.contains k)
      = true := by
  rw [List.all_eq_true]
  intro p hp
  cases hk : p.key with
  | nil => rfl
  | cons k ks =>
    obtain ⟨q, hq, hqk, _, _⟩ := mem_resid.1 hp
    have hm : u ++ [k] ∈ nodeList P := by
      refine mem_nodeList.2 (Or.inr ⟨q, hq, ks, ?_⟩)
      rw [hqk, hk, List.append_assoc, List.singleton_append]
    exact List.contains_iff_mem.2 (hM.edge_mem_sigma hm)

/-- What the traversals see at a node `u` for a label of the alphabet: the child lookup and,
beside it, the residual pattern list. -/
theorem Mirror.child_cases {u : List Nat} (hu : u ∈ nodeList P) {c : Nat} (hc : c ∈ da.sigma) :
    (u ++ [c] ∈ nodeList P ∧ da.childL (da.idx u) c = .ok (some (da.idx (u ++ [c]))) ∧
      (stepRes (resid P u) c).isEmpty = false ∧
      da.idx (u ++ [c]) ≠ rootIdx ∧ da.idx (u ++ [c]) ≠ deadIdx) ∨
    (u ++ [c] ∉ nodeList P ∧ da.childL (da.idx u) c = .ok none ∧
      (stepRes (resid P u) c).isEmpty = true) := by
  have hch := hM.child u hu c (Or.inl hc)
  have hne : u ++ [c] ≠ [] := List.append_ne_nil_of_right_ne_nil u (List.cons_ne_nil c [])
  rw [stepRes_resid]
  by_cases hm : u ++ [c] ∈ nodeList P
  · rw [if_pos hm] at hch
    rcases mem_nodeList.1 hm with h0 | h
    · exact absurd h0 hne
    · exact Or.inl ⟨hm, hch,
        Bool.eq_false_iff.2 fun he => resid_ne_nil_iff.2 h (List.isEmpty_iff.1 he),
        hM.nonroot _ hm hne⟩
  · rw [if_neg hm] at hch
    refine Or.inr ⟨hm, hch, List.isEmpty_iff.2 (Classical.byContradiction fun hr => ?_)⟩
    exact hm (mem_nodeList.2 (Or.inr (resid_ne_nil_iff.1 hr)))

end Mirror

/-- The contribution of the label `c` to `nodesFrom` at a node. -/
def kid (da : DA V) (sig : List Nat) (fuel i : Nat) (u : List Nat) (R : List (LPat V)) (c : Nat) :
    List (List Nat × Nat) :=
  if (stepRes R c).isEmpty then [] else
  match da.childL i c with
  | .ok (some j) => da.nodesFrom sig fuel j (u ++ [c]) (stepRes R c)
  | _ => []

theorem nodesFrom_succ (da : DA V) (sig : List Nat) (fuel i : Nat) (u : List Nat)
    (R : List (LPat V)) :
    da.nodesFrom sig (fuel + 1) i u R = (u, i) :: sig.flatMap (kid da sig fuel i u R) := by
  rfl

theorem kid_cases (da : DA V) (sig : List Nat) (fuel i : Nat) (u : List Nat) (R : List (LPat V))
    (c : Nat) : kid da sig fuel i u R c = [] ∨
      ∃ j, kid da sig fuel i u R c = da.nodesFrom sig fuel j (u ++ [c]) (stepRes R c) := by
  unfold kid
  split
  · exact Or.inl rfl
  · split
    · exact Or.inr ⟨_, rfl⟩
    · exact Or.inl rfl

theorem nodesFrom_prefix (da : DA V) (sig : List Nat) :
    ∀ (fuel i : Nat) (u : List Nat) (R : List (LPat V)) (x : List Nat × Nat),
      x ∈ da.nodesFrom sig fuel i u R → u <+: x.1 := by
  intro fuel
  induction fuel with
  | zero => exact fun _ _ _ _ hx => nomatch hx
  | succ fuel ih =>
    intro i u R x hx
    rw [nodesFrom_succ] at hx
    rcases List.mem_cons.1 hx with rfl | hx
    · exact List.prefix_refl _
    · obtain ⟨c, _, hx⟩ := List.mem_flatMap.1 hx
      rcases kid_cases da sig fuel i u R c with h | ⟨j, h⟩
      · rw [h] at hx
        nomatch hx
      · rw [h] at hx
        exact (List.prefix_append u [c]).trans (ih j _ _ x hx)

theorem kid_prefix (da : DA V) (sig : List Nat) (fuel i : Nat) (u : List Nat) (R : List (LPat V))
    (c : Nat) (x : List Nat × Nat) (hx : x ∈ kid da sig fuel i u R c) : (u ++ [c]) <+: x.1 := by
  rcases kid_cases da sig fuel i u R c with h | ⟨j, h⟩
  · rw [h] at hx
    nomatch hx
  · rw [h] at hx
    exact nodesFrom_prefix da sig fuel j _ _ x hx

theorem snoc_prefix_inj {u w : List Nat} {c d : Nat} (h1 : (u ++ [c]) <+: w) (h2 : (u ++ [d]) <+: w) :
    c = d := by
  obtain ⟨r1, e1⟩ := h1
  obtain ⟨r2, e2⟩ := h2
  have := e1.trans e2.symm
  simp only [List.append_assoc, List.append_cancel_left_eq, List.cons_append, List.nil_append,
    List.cons.injEq] at this
  exact this.1

/-- The traversal lists every path once: the subtrees below different labels are disjoint because
their paths extend different one-label extensions of `u`. -/
theorem nodesFrom_nodup (da : DA V) (sig : List Nat) (hsig : sig.Nodup) :
    ∀ (fuel i : Nat) (u : List Nat) (R : List (LPat V)),
      ((da.nodesFrom sig fuel i u R).map (·.1)).Nodup := by
  intro fuel
  induction fuel with
  | zero => exact fun _ _ _ => List.nodup_nil
  | succ fuel ih =>
    intro i u R
    rw [nodesFrom_succ, List.map_cons, List.nodup_cons, List.map_flatMap]
    constructor
    · intro hmem
      obtain ⟨c, _, hx⟩ := List.mem_flatMap.1 hmem
      obtain ⟨x, hx, hxu⟩ := List.mem_map.1 hx
      have := (kid_prefix da sig fuel i u R c x hx).length_le
      rw [hxu, List.length_append, List.length_singleton] at this
      exact Nat.not_succ_le_self _ this
    · unfold List.Nodup
      rw [List.pairwise_flatMap]
      constructor
      · intro c _
        rcases kid_cases da sig fuel i u R c with h | ⟨j, h⟩
        · rw [h]
          exact List.nodup_nil
        · rw [h]
          exact ih j _ _
      · refine List.Pairwise.imp ?_ hsig
        intro c d hcd x hx y hy e
        obtain ⟨x', hx', rfl⟩ := List.mem_map.1 hx
        obtain ⟨y', hy', hyx⟩ := List.mem_map.1 hy
        have h2 := kid_prefix da sig fuel i u R d y' hy'
        rw [hyx, ← e] at h2
        exact hcd (snoc_prefix_inj (kid_prefix da sig fuel i u R c x' hx') h2)

theorem sigma_nodup (da : DA V) : da.sigma.Nodup := by
  unfold DA.sigma
  split
  · exact List.nodup_range
  · exact List.filter_sublist.nodup List.nodup_range

section Mirror
variable {da : DA V} {P : List (LPat V)} (hM : Mirror da P)
include hM

theorem Mirror.mem_kid {u : List Nat} (hu : u ∈ nodeList P) (fuel : Nat) {c : Nat}
    (hc : c ∈ da.sigma) (x : List Nat × Nat) :
    x ∈ kid da da.sigma fuel (da.idx u) u (resid P u) c ↔ u ++ [c] ∈ nodeList P ∧
      x ∈ da.nodesFrom da.sigma fuel (da.idx (u ++ [c])) (u ++ [c]) (resid P (u ++ [c])) := by
  rcases hM.child_cases hu hc with ⟨hm, h1, h2, _⟩ | ⟨hm, _, h2⟩
  · rw [kid, h2, h1, stepRes_resid]
    exact (and_iff_right hm).symm
  · rw [kid, if_pos h2]
    exact Iff.intro (fun h => nomatch h) (fun h => absurd h.1 hm)

theorem Mirror.mem_nodesFrom (w : List Nat) (j : Nat) : ∀ (fuel : Nat), ∀ u ∈ nodeList P,
    maxKeyLen P < u.length + fuel →
      ((w, j) ∈ da.nodesFrom da.sigma fuel (da.idx u) u (resid P u) ↔
        (w ∈ nodeList P ∧ u <+: w ∧ j = da.idx w)) := by
  intro fuel
  induction fuel with
  | zero => exact fun u hu hlen => absurd (node_length_le hu) (Nat.not_le_of_gt hlen)
  | succ fuel ih' =>
    intro u hu hlen
    have ih : ∀ c, u ++ [c] ∈ nodeList P → _ := fun c hm =>
      ih' (u ++ [c]) hm (fuel_step hlen)
    rw [nodesFrom_succ, List.mem_cons, List.mem_flatMap]
    constructor
    · rintro (h | ⟨c, hc, hx⟩)
      · obtain ⟨rfl, rfl⟩ := Prod.mk.inj h
        exact ⟨hu, List.prefix_refl _, rfl⟩
      · obtain ⟨hm, hx⟩ := (hM.mem_kid hu fuel hc _).1 hx
        obtain ⟨h1, h2, h3⟩ := (ih c hm).1 hx
        exact ⟨h1, (List.prefix_append u [c]).trans h2, h3⟩
    · rintro ⟨hw, ⟨v, rfl⟩, rfl⟩
      cases v with
      | nil => exact Or.inl (by rw [List.append_nil])
      | cons c v =>
        have hpre : (u ++ [c]) <+: (u ++ c :: v) :=
          ⟨v, by rw [List.append_assoc, List.singleton_append]⟩
        have hm := nodeList_of_prefix hpre hw
        have hc := hM.edge_mem_sigma hm
        exact Or.inr ⟨c, hc, (hM.mem_kid hu fuel hc _).2 ⟨hm, (ih c hm).2 ⟨hw, hpre, rfl⟩⟩⟩

end Mirror

theorem foldl_max_lt {n : Nat} : ∀ (P : List (LPat V)) (m : Nat), m < n →
    (∀ p ∈ P, p.key.length < n) → P.foldl (fun m p => max m p.key.length) m < n
  | [], _, hm, _ => hm
  | q :: P, _, hm, h =>
    foldl_max_lt P _ (Nat.max_lt.2 ⟨hm, h q List.mem_cons_self⟩)
      fun p hp => h p (List.mem_cons_of_mem q hp)

/-! ## Standard kind: the output pass, structurally (positions, not only chain contents) -/

/-- The output position of node `w` and the record behind it, in terms of the fail target. -/
def OutStruct (P : List (LPat V)) (a : OutAcc V) (w : List Nat) : Prop :=
  match P.find? (fun p => p.key = w) with
  | none => a.opos.getD w 0 = a.opos.getD (lps (nodeList P) w) 0
  | some p => a.opos.getD w 0 ≠ 0 ∧
      a.outs[a.opos.getD w 0 - 1]? = some ⟨p.value, p.blen, a.opos.getD (lps (nodeList P) w) 0⟩

theorem outStep_frame (t : Trie V) (fm : FailMap) (a : OutAcc V) (s : List Nat) :
    (∀ x, s ≠ x → (outStep t fm a s).opos.getD x 0 = a.opos.getD x 0) ∧
      ∀ i, i < a.outs.size → (outStep t fm a s).outs[i]? = a.outs[i]? := by
  unfold outStep
  split
  · exact ⟨fun x hx => (opos_getD_insert _ _ _ _).trans (if_neg hx),
      fun i hi => (Array.getElem?_push_lt hi).trans (Array.getElem?_eq_getElem hi).symm⟩
  · exact ⟨fun x hx => (opos_getD_insert _ _ _ _).trans (if_neg hx), fun _ _ => rfl⟩

/-- One step of `build_outputs`. Entries are processed in order of length and a fail target is
shorter than its node, so the step touches neither an earlier entry nor any entry's fail target. -/
theorem outStep_struct {t : Trie V} {P : List (LPat V)} (hS : TrieSem t P) (hnd : t.queue.Nodup)
    {pre post : List (List Nat)} {s : List Nat} (hq : t.queue = pre ++ s :: post)
    {a : OutAcc V} (h : InvOut P pre a ∧ ∀ w ∈ pre, OutStruct P a w) :
    InvOut P (pre ++ [s]) (outStep t (buildFailMap t false) a s) ∧
      ∀ w ∈ pre ++ [s], OutStruct P (outStep t (buildFailMap t false) a s) w := by
  obtain ⟨hsn, hs0⟩ := Trie.queue_split_mem t hq
  obtain ⟨hpos, houts⟩ := outStep_frame t (buildFailMap t false) a s
  have hlps : ∀ w, w ≠ [] → w.length ≤ s.length → s ≠ lps (nodeList P) w := by
    intro w hw0 hle e
    have := (lps_mem_lt (P := P) hw0).2
    rw [← e] at this
    exact Nat.lt_irrefl _ (Nat.lt_of_lt_of_le this hle)
  refine ⟨outStep_inv hS hnd hq h.1, fun w hw => ?_⟩
  unfold OutStruct
  rcases List.mem_append.1 hw with hwp | hws
  · have hw0 := ((Trie.mem_queue t w).1 (hq ▸ List.mem_append_left _ hwp)).2
    have hne : s ≠ w := fun e => Trie.queue_split_not_mem t hnd hq (e ▸ hwp)
    have hw' := h.2 w hwp
    unfold OutStruct at hw'
    rw [hpos w hne, hpos _ (hlps w hw0 (Trie.queue_split_pre_le t hq w hwp))]
    cases hf : P.find? (fun p => p.key = w) with
    | none =>
      rw [hf] at hw'
      exact hw'
    | some p =>
      rw [hf] at hw'
      have hlt := Nat.lt_of_lt_of_le (Nat.sub_lt (Nat.pos_of_ne_zero hw'.1) Nat.one_pos) (h.1.bound w)
      exact ⟨hw'.1, (houts _ hlt).trans hw'.2⟩
  · obtain rfl := List.mem_singleton.1 hws
    have hop : a.oposOf ((buildFailMap t false).get w) = a.opos.getD (lps (nodeList P) w) 0 := by
      rw [failStd_eq_lps' hS w ((hS.nodes w).1 hsn)]
      rfl
    rw [hpos _ (hlps w hs0 (Nat.le_refl _))]
    cases hfind : P.find? (fun p => p.key = w) with
    | some p =>
      simp only [outStep_of_find_some hS _ a hfind, hop, opos_getD_insert, if_true]
      exact ⟨Nat.succ_ne_zero _, Array.getElem?_push_size⟩
    | none => simp only [outStep_of_find_none hS _ a hfind, hop, opos_getD_insert, if_true]

theorem outStruct {t : Trie V} {P : List (LPat V)} (hS : TrieSem t P) (hsort : t.Sorted) :
    ∀ u, u ∈ nodeList P → u ≠ [] → OutStruct P (buildOutAcc t (buildFailMap t false)) u := by
  intro u hu hu0
  exact (Trie.queue_foldl_inv t (Inv := fun pre a => InvOut P pre a ∧ ∀ w ∈ pre, OutStruct P a w)
    (fun hq h => outStep_struct hS (Trie.nodup_queue t hsort) hq h) t.queue [] _ rfl
    ⟨InvOut.init P, fun _ hw => nomatch hw⟩).2 u
    ((Trie.mem_queue t u).2 ⟨(hS.nodes u).2 hu, hu0⟩)

theorem terminal_resid_none {P : List (LPat V)} {u : List Nat}
    (h : P.find? (fun p => p.key = u) = none) : terminal (resid P u) = none := by
  unfold terminal
  rw [List.find?_eq_none]
  intro p hp hk
  obtain ⟨q, hq, hqk, _, _⟩ := mem_resid.1 hp
  rw [List.isEmpty_iff.1 hk, List.append_nil] at hqk
  exact List.find?_eq_none.1 h q hq (decide_eq_true hqk)

theorem terminal_resid_some {P : List (LPat V)} (hk : (P.map (·.key)).Nodup) {u : List Nat}
    {q : LPat V} (h : P.find? (fun p => p.key = u) = some q) :
    ∃ p, terminal (resid P u) = some p ∧ p.value = q.value ∧ p.blen = q.blen := by
  have hq := List.mem_of_find?_eq_some h
  have hqk : q.key = u := by
    have := List.find?_some h
    exact of_decide_eq_true this
  have hm : (⟨[], q.blen, q.value⟩ : LPat V) ∈ resid P u :=
    mem_resid.2 ⟨q, hq, by rw [hqk, List.append_nil], rfl, rfl⟩
  cases hp : terminal (resid P u) with
  | none => exact absurd rfl (List.find?_eq_none.1 hp _ hm)
  | some p =>
    obtain ⟨q', hq', hq'k, hb, hv⟩ := mem_resid.1 (List.mem_of_find?_eq_some hp)
    have hpk := List.find?_some hp
    rw [List.isEmpty_iff.1 hpk, List.append_nil] at hq'k
    obtain rfl : q' = q := lpat_eq_of_key_eq hk hq' hq (hq'k.trans hqk.symm)
    exact ⟨p, rfl, hv.symm, hb.symm⟩

section Std
variable {da : DA V} {t : Trie V} {idx : List Nat → Nat} {P : List (LPat V)}
  (hL : LayoutSem da t (buildNfa t false) idx) (hS : TrieSem t P)
  (hlab : ∀ u, t.hasNode u = true → ∀ c ∈ u, LabelOk da c)
include hL hS hlab

theorem std_node {u : List Nat} (hu : u ∈ nodeList P) :
    ∃ st, da.st (da.idx u) = .ok st ∧
      st.opos = (buildOutAcc t (buildFailMap t false)).opos.getD u 0 ∧
      (u ≠ [] → st.fail = da.idx (lps (nodeList P) u)) := by
  obtain ⟨st, hst, hop, hfail⟩ := hL.node u ((hS.nodes u).2 hu)
  rw [← idx_eq_of_mem hL hS hlab hu] at hst
  refine ⟨st, hst, hop, fun hu0 => ?_⟩
  have hf := hfail hu0
  simp only [buildNfa] at hf
  rw [failStd_eq_lps' hS u hu] at hf
  rw [idx_eq_of_mem hL hS hlab (lps_mem_lt hu0).1]
  exact hf

/-- T2 and T3 at a node. -/
theorem std_clauses [DecidableEq V] (hsort : t.Sorted) {u : List Nat} (hu : u ∈ nodeList P) :
    ∃ st, da.st (da.idx u) = .ok st ∧ (u.isEmpty || st.fail == da.lpsIdx u) = true ∧
      (if u.isEmpty then st.opos == 0 && (terminal (resid P u)).isNone
        else da.outOk st (resid P u)) = true := by
  obtain ⟨st, hst, hop, hfail⟩ := std_node hL hS hlab hu
  refine ⟨st, hst, ?_⟩
  by_cases hu0 : u = []
  · subst hu0
    have h1 : terminal (resid P []) = none :=
      List.find?_eq_none.2 fun p hp hk => hS.nonempty p hp (List.isEmpty_iff.1 hk)
    refine ⟨rfl, ?_⟩
    show (st.opos == 0 && (terminal (resid P [])).isNone) = true
    rw [hop, (buildOutAcc_std_inv hS hsort).root, h1]
    rfl
  · obtain ⟨fs, hfs, hfop, _⟩ := std_node hL hS hlab (lps_mem_lt hu0).1
    have hstruct := outStruct hS hsort u hu hu0
    unfold OutStruct at hstruct
    have hM := mirror_of_layout hL hS hlab
    rw [List.isEmpty_eq_false_iff.2 hu0, hfail hu0,
      lpsIdx_eq_of_walks (fun _ hl => hM.walk_isSome_iff hl) (hM.lab u hu)]
    refine ⟨beq_self_eq_true _, ?_⟩
    show da.outOk st (resid P u) = true
    unfold DA.outOk
    rw [hfail hu0, hfs]
    simp only
    cases hfind : P.find? (fun p => p.key = u) with
    | none =>
      rw [hfind] at hstruct
      simp only [terminal_resid_none hfind, beq_iff_eq, hop, hfop]
      exact hstruct
    | some q =>
      rw [hfind] at hstruct
      obtain ⟨p, hp, hpv, hpb⟩ := terminal_resid_some hS.keys hfind
      have hout : da.out st.opos = .ok ⟨q.value, q.blen, fs.opos⟩ := by
        rw [DA.out, hop, if_neg hstruct.1, hL.outputs]
        simp only [buildNfa, hstruct.2, hfop]
      simp only [hp, hout, hpv, hpb, decide_true, BEq.rfl, Bool.and_self]

theorem check_std [DecidableEq V] (hsort : t.Sorted) : ∀ (fuel : Nat) (u : List Nat),
    u ∈ nodeList P → maxKeyLen P < u.length + fuel →
      da.checkNodeStd da.sigma fuel (da.idx u) u (resid P u) = true := by
  intro fuel
  induction fuel with
  | zero => exact fun u hu hlen => absurd (node_length_le hu) (Nat.not_le_of_gt hlen)
  | succ fuel ih =>
    intro u hu hlen
    have hM := mirror_of_layout hL hS hlab
    obtain ⟨st, hst, h2, h3⟩ := std_clauses hL hS hlab hsort hu
    rw [DA.checkNodeStd, hst]
    refine and4 (hM.heads_ok u) h2 h3 (List.all_eq_true.2 fun c hc => ?_)
    rcases hM.child_cases hu hc with ⟨hm, h1, h2, h3, h4⟩ | ⟨_, h1, h2⟩
    · rw [h1, h2, stepRes_resid]
      exact and4 rfl (bne_iff_ne.2 h3) (bne_iff_ne.2 h4) (ih _ hm (fuel_step hlen))
    · rw [h1]
      exact h2

end Std

/-- What a successful build provides, for every match kind: the trie of the registered patterns
(the retained ones for leftmost-first) and an index under which the table mirrors the NFA. -/
theorem built (variant : Variant) (kind nfb : Nat) (P : List (LPat V)) (da : DA V)
    (hb : buildDA variant ⟨kind, nfb⟩ P = .ok da) (hk : keysOk P)
    (hlabels : variant = .bytewise → ∀ p ∈ P, ∀ c ∈ p.key, c < 256) :
    ∃ t idx, TrieSem t (if kind = 2 then retainedL P else P) ∧ t.Sorted ∧
      LayoutSem da t (buildNfa t (kind != 0)) idx ∧
      (∀ u, t.hasNode u = true → ∀ c ∈ u, LabelOk da c) ∧
      (∀ u, t.hasNode u = true → u.length < da.states.size) ∧
      (∀ u w, t.hasNode u = true → t.hasNode w = true → idx u = idx w → u = w) ∧
      da.numStates = t.size := by
  have hT : ∀ t, buildTrie kind P = .ok t → TrieSem t (if kind = 2 then retainedL P else P) := by
    intro t ht
    by_cases h2 : kind = 2
    · subst h2
      exact buildTrie_trieSem_lf P t ht hk
    · rw [if_neg h2]
      exact buildTrie_trieSem kind h2 P t ht hk
  have hsub : ∀ p ∈ (if kind = 2 then retainedL P else P), p ∈ P := by
    intro p hp
    split at hp
    · exact (retainedL_sublist P).subset hp
    · exact hp
  obtain ⟨t, idx, hT, hsort, hL, hlab, hD, _, hinj, _, hnum⟩ :=
    build_layout_full variant ⟨kind, nfb⟩ P _ da hb hT hsub hlabels
  exact ⟨t, idx, hT, hsort, hL, hlab, hD, hinj, hnum⟩

/-- **`TableInv` holds for every standard-kind automaton the model builder returns.** -/
theorem tableInv_of_build [DecidableEq V] (variant : Variant) (nfb : Nat) (P : List (LPat V))
    (da : DA V) (hb : buildDA variant ⟨0, nfb⟩ P = .ok da) (hk : keysOk P)
    (hlabels : variant = .bytewise → ∀ p ∈ P, ∀ c ∈ p.key, c < 256) :
    da.tableInv P = true := by
  obtain ⟨t, idx, hT, hsort, hL, hlab, _⟩ := built variant 0 nfb P da hb hk hlabels
  exact check_std hL hT hlab hsort (maxKeyLen P + 1) [] (nodeList_prefClosed P).nil_mem
    (Nat.lt_succ_of_le (Nat.le_add_left _ _))

/-- **`CountInv` holds for every automaton the model builder returns**, with the pattern list the
runtime check evaluates it with: the retained patterns for leftmost-first. -/
theorem countInv_built (variant : Variant) (kind nfb : Nat) (P : List (LPat V))
    (da : DA V) (hb : buildDA variant ⟨kind, nfb⟩ P = .ok da) (hk : keysOk P)
    (hlabels : variant = .bytewise → ∀ p ∈ P, ∀ c ∈ p.key, c < 256) :
    da.countInv (if kind = 2 then retainedL P else P) = true := by
  obtain ⟨t, idx, hT, hsort, hL, hlab, _, hinj, hnum⟩ := built variant kind nfb P da hb hk hlabels
  generalize (if kind = 2 then retainedL P else P) = P' at hT ⊢
  have hM := mirror_of_layout hL hT hlab
  have hmem : ∀ w j, (w, j) ∈ da.nodes P' ↔ (w ∈ nodeList P' ∧ j = da.idx w) := fun w j =>
    (hM.mem_nodesFrom w j _ [] (nodeList_prefClosed P').nil_mem
      (Nat.lt_succ_of_le (Nat.le_add_left _ _))).trans
      (and_congr_right fun _ => and_iff_right List.nil_prefix)
  have hnd : ((da.nodes P').map (·.1)).Nodup := nodesFrom_nodup da da.sigma (sigma_nodup da) _ _ _ _
  have hpaths : ∀ u, u ∈ (da.nodes P').map (·.1) ↔ (t.walk u).isSome := by
    intro u
    rw [List.mem_map]
    constructor
    · rintro ⟨⟨w, j⟩, hx, rfl⟩
      exact (hT.nodes w).2 ((hmem w j).1 hx).1
    · intro h
      exact ⟨(u, da.idx u), (hmem u _).2 ⟨(hT.nodes u).1 h, rfl⟩, rfl⟩
  -- distinct nodes sit at distinct indices
  have hnd2 : ((da.nodes P').map (·.2)).Nodup := by
    refine List.pairwise_map.2 ((List.pairwise_map.1 hnd).imp_of_mem ?_)
    rintro ⟨a, i⟩ ⟨b, k⟩ ha hb hab e
    obtain ⟨ha', rfl⟩ := (hmem a i).1 ha
    obtain ⟨hb', rfl⟩ := (hmem b k).1 hb
    have e' : da.idx a = da.idx b := e
    rw [idx_eq_of_mem hL hT hlab ha', idx_eq_of_mem hL hT hlab hb'] at e'
    exact hab (hinj a b ((hT.nodes a).2 ha') ((hT.nodes b).2 hb') e')
  unfold DA.countInv
  simp only [Bool.and_eq_true, beq_iff_eq]
  refine ⟨?_, nodupFast_of_nodup _ hnd2⟩
  rw [hnum, Trie.size_eq_of_nodes t hsort _ hnd hpaths, List.length_map]

theorem countInv_of_build (variant : Variant) (nfb : Nat) (P : List (LPat V))
    (da : DA V) (hb : buildDA variant ⟨0, nfb⟩ P = .ok da) (hk : keysOk P)
    (hlabels : variant = .bytewise → ∀ p ∈ P, ∀ c ∈ p.key, c < 256) :
    da.countInv P = true :=
  countInv_built variant 0 nfb P da hb hk hlabels

theorem countInv_of_build_ll (variant : Variant) (nfb : Nat) (P : List (LPat V))
    (da : DA V) (hb : buildDA variant ⟨1, nfb⟩ P = .ok da) (hk : keysOk P)
    (hlabels : variant = .bytewise → ∀ p ∈ P, ∀ c ∈ p.key, c < 256) :
    da.countInv P = true :=
  countInv_built variant 1 nfb P da hb hk hlabels

theorem countInv_of_build_lf (variant : Variant) (nfb : Nat) (P : List (LPat V))
    (da : DA V) (hb : buildDA variant ⟨2, nfb⟩ P = .ok da) (hk : keysOk P)
    (hlabels : variant = .bytewise → ∀ p ∈ P, ∀ c ∈ p.key, c < 256) :
    da.countInv (retainedL P) = true :=
  countInv_built variant 2 nfb P da hb hk hlabels

/-- **`SizeInv` holds for every automaton the model builder returns.** -/
theorem sizeInv_built (variant : Variant) (kind nfb : Nat) (P : List (LPat V))
    (da : DA V) (hb : buildDA variant ⟨kind, nfb⟩ P = .ok da) (hk : keysOk P)
    (hlabels : variant = .bytewise → ∀ p ∈ P, ∀ c ∈ p.key, c < 256) :
    da.sizeInv (if kind = 2 then retainedL P else P) = true := by
  obtain ⟨t, idx, hT, hsort, hL, _, hD, _⟩ := built variant kind nfb P da hb hk hlabels
  generalize (if kind = 2 then retainedL P else P) = P' at hT ⊢
  unfold DA.sizeInv
  simp only [Bool.and_eq_true, decide_eq_true_eq]
  constructor
  · exact foldl_max_lt P' 0 (hD [] ((hT.nodes _).2 (nodeList_prefClosed P').nil_mem))
      fun p hp => hD _ ((hT.nodes _).2 (key_mem_nodeList hp))
  · have ho : da.outputs = (buildOutAcc t (buildFailMap t (kind != 0))).outs := hL.outputs
    rw [ho, buildOutAcc_outs_size hT hsort]
    exact Nat.le_refl _

theorem sizeInv_of_build (variant : Variant) (nfb : Nat) (P : List (LPat V))
    (da : DA V) (hb : buildDA variant ⟨0, nfb⟩ P = .ok da) (hk : keysOk P)
    (hlabels : variant = .bytewise → ∀ p ∈ P, ∀ c ∈ p.key, c < 256) :
    da.sizeInv P = true :=
  sizeInv_built variant 0 nfb P da hb hk hlabels

#print axioms tableInv_of_build
#print axioms countInv_of_build
#print axioms countInv_of_build_ll
#print axioms countInv_of_build_lf
#print axioms sizeInv_of_build

end Daac.InvC
