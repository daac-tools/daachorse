/-
The standard (non-leftmost) fail-link pass and the output pass of Model/Nfa.lean, semantically:
`(buildFailMap t false).get u = .node (lps N u)` for every node `u` (`N = nodeList P`), and the
output chain of node `u` lists the patterns that are suffixes of `u`, longest first.
Core Lean only.
-/
import Daac.Proofs.NfaQueue
import Daac.Proofs.StdIface
import Daac.Proofs.StdSem2
namespace Daac
variable {V : Type}

structure InvStd (P : List (LPat V)) (D : List Nat → Prop) (m : FailMap) : Prop where
  any : ∀ w, m.get w = .node (lps (nodeList P) w) ∨ m.get w = .node []
  on : ∀ w, D w → m.get w = .node (lps (nodeList P) w)

theorem InvStd.mono {P : List (LPat V)} {D D' : List Nat → Prop} {m : FailMap}
    (h : InvStd P D m) (hD : ∀ w, D' w → D w) : InvStd P D' m :=
  ⟨h.any, fun w hw => h.on w (hD w hw)⟩

/-- At depth at most 1 the default is the correct value. -/
theorem InvStd.short {P : List (LPat V)} {D : List Nat → Prop} {m : FailMap}
    (h : InvStd P D m) {w : List Nat} (hw : w.length ≤ 1) :
    m.get w = .node (lps (nodeList P) w) := by
  rcases h.any w with h1 | h1
  · exact h1
  · rw [h1, lps_eq_nil_of_length_le_one hw]

theorem InvStd.insert {P : List (LPat V)} {D : List Nat → Prop} {m : FailMap}
    (h : InvStd P D m) (k : List Nat) :
    InvStd P (fun w => D w ∨ w = k) (m.insert k (.node (lps (nodeList P) k))) := by
  constructor
  · intro w
    by_cases hk : k = w
    · exact Or.inl (hk ▸ FailMap.get_insert_self m k _)
    · rw [FailMap.get_insert_ne m _ hk]
      exact h.any w
  · intro w hw
    by_cases hk : k = w
    · exact hk ▸ FailMap.get_insert_self m k _
    · rw [FailMap.get_insert_ne m _ hk]
      exact h.on w (hw.resolve_right fun e => hk e.symm)

/-- The keys whose entries are final when the queue prefix `pre` has been processed. -/
def DoneStd (t : Trie V) (pre : List (List Nat)) (w : List Nat) : Prop :=
  ∃ s ∈ pre, w ∈ t.childPaths s

section
variable {t : Trie V} {P : List (LPat V)} {pre post : List (List Nat)} {s : List Nat} {m : FailMap}

theorem failWalkStd_eq (hS : TrieSem t P) (m : FailMap) (L : Nat)
    (hm : ∀ w ∈ nodeList P, w.length ≤ L → m.get w = .node (lps (nodeList P) w)) :
    ∀ (fuel : Nat) (f : List Nat) (c : Nat), f ∈ nodeList P → f.length ≤ L → f.length < fuel →
      failWalkStd t m fuel f c = .node (lsuf (nodeList P) (f ++ [c])) := by
  have hN := nodeList_prefClosed P
  intro fuel f c
  fun_induction failWalkStd t m fuel f c with
  | case1 f c => intro _ _ h; exact absurd h (Nat.not_lt_zero _)
  | case2 fuel f c hn =>
    intro _ _ _
    rw [lsuf_mem_self ((hS.nodes _).mp hn) hN.nil_mem]
  | case3 fuel f c hn hg =>
    intro hf hL _
    rw [hm f hf hL] at hg
    cases hg
  | case4 fuel f c hn nx hg h0 =>
    intro _ _ _
    have hnot : f ++ [c] ∉ nodeList P := fun h => hn ((hS.nodes _).mpr h)
    rw [h0.1, List.nil_append] at hnot ⊢
    rw [lsuf_singleton_of_not_mem hN.nil_mem hnot]
  | case5 fuel f c hn nx hg h0 ih =>
    intro hf hL hfuel
    obtain rfl : nx = lps (nodeList P) f := FailTo.node.inj (hg.symm.trans (hm f hf hL))
    have hf0 : f ≠ [] := fun e =>
      h0 ⟨e, by rw [e]; exact lps_eq_nil_of_length_le_one (Nat.zero_le 1)⟩
    have hlt := lps_length_lt P hf0
    rw [lsuf_fail hN f c hf0 fun h => hn ((hS.nodes _).mpr h)]
    exact ih (lps_mem P f) (Nat.le_trans (Nat.le_of_lt hlt) hL)
      (Nat.lt_of_lt_of_le hlt (Nat.le_of_lt_succ hfuel))

/-- The inner fold of `failStepStd` over children `cs` of `s`, started where the links of all
nodes no deeper than `s` are final: each walk starts at the link of `s` and reads only such
links, and each insertion adds the child's final link. -/
theorem failStepStd_fold (hS : TrieSem t P) (hs : s ≠ []) :
    ∀ (cs : List (List Nat)), (∀ w ∈ cs, w ∈ t.childPaths s) →
    ∀ (D : List Nat → Prop), (∀ w ∈ nodeList P, w.length ≤ s.length → D w) →
    ∀ (m : FailMap), InvStd P D m →
    InvStd P (fun w => D w ∨ w ∈ cs)
      (cs.foldl (fun m child =>
        match m.get s, child.getLast? with
        | .node f, some c => m.insert child (failWalkStd t m (s.length + 2) f c)
        | _, _ => m) m) := by
  intro cs
  induction cs with
  | nil => intro _ D _ m h; exact h.mono (by simp)
  | cons child cs ih =>
    intro hcs D hD m h
    obtain ⟨c, rfl, _, hsn⟩ := (Trie.mem_childPaths t s child).mp (hcs _ List.mem_cons_self)
    have hread : ∀ w ∈ nodeList P, w.length ≤ s.length → m.get w = .node (lps (nodeList P) w) :=
      fun w hw hl => h.on w (hD w hw hl)
    have hlt := lps_length_lt P hs
    simp only [List.foldl_cons]
    rw [hread s ((hS.nodes s).mp hsn) (Nat.le_refl _), List.getLast?_concat]
    simp only
    rw [failWalkStd_eq hS m s.length hread (s.length + 2) _ c (lps_mem P s) (Nat.le_of_lt hlt)
      (Nat.lt_add_right 2 hlt), ← lps_snoc P hs c]
    refine (ih (fun w hw => hcs w (List.mem_cons_of_mem _ hw)) _
      (fun w hw hl => Or.inl (hD w hw hl)) _ (h.insert (s ++ [c]))).mono ?_
    rintro w (hw | hw)
    · exact Or.inl (Or.inl hw)
    · rcases List.mem_cons.mp hw with hw | hw
      · exact Or.inl (Or.inr hw)
      · exact Or.inr hw

theorem failStepStd_inv (hS : TrieSem t P) (hq : t.queue = pre ++ s :: post)
    (h : InvStd P (DoneStd t pre) m) : InvStd P (DoneStd t (pre ++ [s])) (failStepStd t m s) := by
  -- the parent of a node of depth `2 ≤ · ≤ |s|` has been processed
  have h1 : InvStd P (fun w => DoneStd t pre w ∨ (w ∈ nodeList P ∧ w.length ≤ s.length)) m := by
    refine ⟨h.any, fun w hw => hw.elim (h.on w) fun ⟨hwN, hl⟩ => ?_⟩
    by_cases h1 : w.length ≤ 1
    · exact h.short h1
    · exact h.on w ⟨_, Trie.parent_mem_pre t hq ((hS.nodes w).mpr hwN) (Nat.lt_of_not_le h1) hl⟩
  refine (failStepStd_fold hS (Trie.queue_split_mem t hq).2 (t.childPaths s) (fun _ hw => hw) _
    (fun w hw hl => Or.inr ⟨hw, hl⟩) m h1).mono ?_
  rintro w ⟨x, hx, hw⟩
  rcases List.mem_append.mp hx with hx | hx
  · exact Or.inl (Or.inl ⟨x, hx, hw⟩)
  · exact Or.inr (List.mem_singleton.mp hx ▸ hw)

theorem buildFailMap_std_eq (t : Trie V) :
    buildFailMap t false = t.queue.foldl (failStepStd t) {} := by
  unfold buildFailMap
  simp

theorem failStd_eq_lps' (hS : TrieSem t P) :
    ∀ u, u ∈ nodeList P → (buildFailMap t false).get u = .node (lps (nodeList P) u) := by
  intro u hu
  have h : InvStd P (DoneStd t t.queue) (buildFailMap t false) := by
    rw [buildFailMap_std_eq]
    exact Trie.queue_foldl_inv t (Inv := fun pre m => InvStd P (DoneStd t pre) m)
      (fun hq h => failStepStd_inv hS hq h) t.queue [] {} rfl
      ⟨fun w => Or.inr (FailMap.get_empty w), fun w ⟨s, hs, _⟩ => absurd hs List.not_mem_nil⟩
  by_cases h1 : u.length ≤ 1
  · exact h.short h1
  · exact h.on u ⟨_, Trie.parent_mem_queue t ((hS.nodes u).mpr hu) (Nat.lt_of_not_le h1)⟩

end

theorem failStd_eq_lps {t : Trie V} {P : List (LPat V)} (hS : TrieSem t P) (_hsort : t.Sorted) :
    ∀ u, u ∈ nodeList P → (buildFailMap t false).get u = .node (lps (nodeList P) u) :=
  failStd_eq_lps' hS

/-- Every record's parent is smaller than the record's own (1-based) position. -/
def ParentOk (outs : Array (Out V)) : Prop := ∀ (i : Nat) (o : Out V), outs[i]? = some o → o.parent ≤ i

def isKeyOf (P : List (LPat V)) (s : List Nat) : Bool := (P.find? (fun p => p.key = s)).isSome

structure InvOut (P : List (LPat V)) (pre : List (List Nat)) (a : OutAcc V) : Prop where
  parent : ParentOk a.outs
  bound : ∀ w, a.opos.getD w 0 ≤ a.outs.size
  root : a.opos.getD [] 0 = 0
  chain : ∀ w ∈ pre, chainList a.outs (a.outs.size + 1) (a.opos.getD w 0)
    = (sufLPats P w).map (fun p => (p.value, p.blen))
  size : a.outs.size = (pre.filter (isKeyOf P)).length

section
variable {outs : Array (Out V)}

theorem ParentOk.empty : ParentOk (#[] : Array (Out V)) :=
  fun _ _ h => nomatch h

theorem ParentOk.push (h : ParentOk outs) {o : Out V} (ho : o.parent ≤ outs.size) :
    ParentOk (outs.push o) := by
  intro i x hx
  rw [Array.getElem?_push] at hx
  split at hx
  · rename_i hi
    cases hx
    exact hi ▸ ho
  · exact h i x hx

theorem chainList_zero (outs : Array (Out V)) (fuel : Nat) : chainList outs fuel 0 = [] := by
  cases fuel <;> simp [chainList]

theorem chainList_succ {fuel p : Nat} {o : Out V} (hp : p ≠ 0) (ho : outs[p - 1]? = some o) :
    chainList outs (fuel + 1) p = (o.value, o.length) :: chainList outs fuel o.parent := by
  simp only [chainList, if_neg hp, ho]

theorem chainList_fuel (h : ParentOk outs) :
    ∀ (f1 f2 p : Nat), p ≤ f1 → p ≤ f2 → chainList outs f1 p = chainList outs f2 p := by
  intro f1
  induction f1 with
  | zero => intro f2 p h1 _; rw [Nat.le_zero.mp h1, chainList_zero, chainList_zero]
  | succ f1 ih =>
    intro f2 p h1 h2
    by_cases hp : p = 0
    · rw [hp, chainList_zero, chainList_zero]
    · obtain ⟨f2, rfl⟩ := Nat.exists_eq_add_one_of_ne_zero fun e => hp (Nat.le_zero.mp (e ▸ h2))
      cases ho : outs[p - 1]? with
      | none => simp only [chainList, ho]
      | some o =>
        -- the parent lies below `p`, so both fuels still cover it
        have hpar := h _ o ho
        rw [chainList_succ hp ho, chainList_succ hp ho,
          ih f2 o.parent (Nat.le_trans hpar (Nat.sub_le_of_le_add h1))
            (Nat.le_trans hpar (Nat.sub_le_of_le_add h2))]

theorem chainList_push (h : ParentOk outs) (x : Out V) :
    ∀ (fuel p : Nat), p ≤ outs.size →
      chainList (outs.push x) fuel p = chainList outs fuel p := by
  intro fuel
  induction fuel with
  | zero => intro p _; rfl
  | succ fuel ih =>
    intro p hp
    by_cases hp0 : p = 0
    · rw [hp0, chainList_zero, chainList_zero]
    · have hlt : p - 1 < outs.size := Nat.lt_of_lt_of_le (Nat.sub_one_lt hp0) hp
      have ho : outs[p - 1]? = some outs[p - 1] := Array.getElem?_eq_getElem hlt
      rw [chainList_succ hp0 ho, chainList_succ hp0 (by rw [Array.getElem?_push_lt hlt]),
        ih _ (Nat.le_trans (h _ _ ho) (Nat.le_of_lt hlt))]

/-- Both together, for the fuel `size + 1` that the output pass is measured with. -/
theorem chainList_push_size (h : ParentOk outs) (x : Out V) {p : Nat} (hp : p ≤ outs.size) :
    chainList (outs.push x) ((outs.push x).size + 1) p = chainList outs (outs.size + 1) p := by
  rw [chainList_push h x _ p hp, Array.size_push]
  exact chainList_fuel h _ _ p (Nat.le_trans hp (Nat.le_add_right _ 2)) (Nat.le_succ_of_le hp)

end

section
variable {t : Trie V} {P : List (LPat V)} {pre post : List (List Nat)} {s : List Nat}
  {a : OutAcc V}

theorem sufLPats_node (hk : (P.map (·.key)).Nodup) (hs : s ≠ []) :
    sufLPats P s =
      (P.find? (fun p => p.key = s)).toList ++ sufLPats P (lps (nodeList P) s) := by
  classical
  have hfilter : P.filter (fun p => p.key = s) = (P.find? (fun p => p.key = s)).toList := by
    cases h : P.find? (fun p => p.key = s) with
    | none => exact List.filter_eq_nil_iff.mpr fun p hp => List.find?_eq_none.mp h p hp
    | some p =>
      have hpk : p.key = s := by simpa using List.find?_some h
      have := filter_key_of_nodup hk (List.mem_of_find?_eq_some h)
      rwa [hpk] at this
  cases s with
  | nil => exact absurd rfl hs
  | cons c r =>
    rw [← hfilter, sufLPats_cons, sufLPats_lsuf P r]
    rfl

theorem InvOut.init (P : List (LPat V)) : InvOut P [] (⟨{}, #[]⟩ : OutAcc V) where
  parent := ParentOk.empty
  bound := by intro w; simp
  root := by simp
  chain := fun w hw => absurd hw List.not_mem_nil
  size := by simp

theorem InvOut.chain_of (h : InvOut P pre a) {w : List Nat} (hw : w = [] ∨ w ∈ pre) :
    chainList a.outs (a.outs.size + 1) (a.opos.getD w 0)
      = (sufLPats P w).map (fun p => (p.value, p.blen)) := by
  classical
  rcases hw with rfl | hw
  · rw [h.root, chainList_zero, sufLPats_nil]; rfl
  · exact h.chain w hw

/-- What either branch of `outStep` does to the invariant: the entry `s` gets the position `k`, and
the records become `outs'`, which leave the chains from the old positions as they were. -/
theorem InvOut.step (h : InvOut P pre a) (hs0 : s ≠ []) (hspre : s ∉ pre) {k : Nat}
    {outs' : Array (Out V)} (hpar : ParentOk outs')
    (hkeep : ∀ p ≤ a.outs.size, p ≤ outs'.size ∧
      chainList outs' (outs'.size + 1) p = chainList a.outs (a.outs.size + 1) p)
    (hk : k ≤ outs'.size)
    (hchain : chainList outs' (outs'.size + 1) k = (sufLPats P s).map (fun p => (p.value, p.blen)))
    (hsize : outs'.size = ((pre ++ [s]).filter (isKeyOf P)).length) :
    InvOut P (pre ++ [s]) ⟨a.opos.insert s k, outs'⟩ where
  parent := hpar
  bound := by
    intro w
    simp only [opos_getD_insert]
    split
    · exact hk
    · exact (hkeep _ (h.bound w)).1
  root := by
    simp only [opos_getD_insert, if_neg hs0]
    exact h.root
  chain := by
    intro w hw
    simp only [opos_getD_insert]
    rcases List.mem_append.mp hw with hw | hw
    · rw [if_neg (fun (e : s = w) => hspre (e ▸ hw)), (hkeep _ (h.bound w)).2]
      exact h.chain w hw
    · rw [List.mem_singleton.mp hw, if_pos rfl]
      exact hchain
  size := hsize

theorem outStep_inv (hS : TrieSem t P) (hnd : t.queue.Nodup) (hq : t.queue = pre ++ s :: post)
    (h : InvOut P pre a) : InvOut P (pre ++ [s]) (outStep t (buildFailMap t false) a s) := by
  obtain ⟨hsn, hs0⟩ := Trie.queue_split_mem t hq
  have hspre := Trie.queue_split_not_mem t hnd hq
  have hop : a.oposOf ((buildFailMap t false).get s) = a.opos.getD (lps (nodeList P) s) 0 := by
    rw [failStd_eq_lps' hS s ((hS.nodes s).mp hsn)]; rfl
  -- the chain behind the fail link is final
  have hfc := h.chain_of (Trie.nil_or_mem_pre t hq ((hS.nodes _).mpr (lps_mem P s))
    (lps_length_lt P hs0))
  have hqb := h.bound (lps (nodeList P) s)
  cases hfind : P.find? (fun p => p.key = s) with
  | some p =>
    -- a new record for `p`, in front of that chain
    rw [outStep_of_find_some hS _ a hfind, hop]
    refine h.step hs0 hspre (h.parent.push hqb)
      (fun p hp => ⟨Array.size_push _ ▸ Nat.le_succ_of_le hp, chainList_push_size h.parent _ hp⟩)
      (Nat.le_of_eq (Array.size_push _).symm) ?_ ?_
    · rw [Array.size_push,
        chainList_succ (o := ⟨p.value, p.blen, a.opos.getD (lps (nodeList P) s) 0⟩)
          (Nat.succ_ne_zero _) (by rw [Nat.succ_sub_one]; exact Array.getElem?_push_size),
        chainList_push h.parent _ _ _ hqb, hfc, sufLPats_node hS.keys hs0, hfind]
      rfl
    · simp [List.filter_append, isKeyOf, hfind, h.size]
  | none =>
    rw [outStep_of_find_none hS _ a hfind, hop]
    refine h.step hs0 hspre h.parent (fun p hp => ⟨hp, rfl⟩) hqb ?_ ?_
    · rw [hfc, sufLPats_node hS.keys hs0, hfind]
      rfl
    · simp [List.filter_append, isKeyOf, hfind, h.size]

theorem buildOutAcc_std_inv (hS : TrieSem t P) (hsort : t.Sorted) :
    InvOut P t.queue (buildOutAcc t (buildFailMap t false)) :=
  Trie.queue_foldl_inv t (fun hq h => outStep_inv hS (Trie.nodup_queue t hsort) hq h)
    t.queue [] _ rfl (InvOut.init P)

theorem oposStd_le (hS : TrieSem t P) (hsort : t.Sorted) :
    ∀ u, (buildOutAcc t (buildFailMap t false)).opos.getD u 0
      ≤ (buildOutAcc t (buildFailMap t false)).outs.size :=
  (buildOutAcc_std_inv hS hsort).bound

theorem foldl_outStep_outs_size (hS : TrieSem t P) (fm : FailMap) :
    ∀ (L : List (List Nat)) (a : OutAcc V),
      (L.foldl (outStep t fm) a).outs.size = a.outs.size + (L.filter (isKeyOf P)).length := by
  intro L
  induction L with
  | nil => exact fun a => rfl
  | cons s L ih =>
    intro a
    rw [List.foldl_cons, ih]
    cases hfind : P.find? (fun p => p.key = s) with
    | some p =>
      rw [outStep_of_find_some hS fm a hfind,
        List.filter_cons_of_pos (by rw [isKeyOf, hfind]; rfl), Array.size_push, List.length_cons,
        Nat.add_assoc, Nat.add_comm 1]
    | none =>
      rw [outStep_of_find_none hS fm a hfind,
        List.filter_cons_of_neg (by rw [isKeyOf, hfind]; exact Bool.false_ne_true)]

theorem buildOutAcc_outs_size (hS : TrieSem t P) (hsort : t.Sorted) (fm : FailMap) :
    (buildOutAcc t fm).outs.size = P.length := by
  classical
  have hperm : (t.queue.filter (isKeyOf P)).Perm (P.map (·.key)) := by
    rw [List.perm_ext_iff_of_nodup (List.filter_sublist.nodup (Trie.nodup_queue t hsort)) hS.keys]
    intro a
    simp only [List.mem_filter, Trie.mem_queue, isKeyOf, List.find?_isSome, List.mem_map,
      decide_eq_true_eq]
    constructor
    · rintro ⟨_, p, hp, hk⟩; exact ⟨p, hp, hk⟩
    · rintro ⟨p, hp, rfl⟩
      exact ⟨⟨(hS.nodes _).mpr (key_mem_nodeList hp), hS.nonempty p hp⟩, p, hp, rfl⟩
  rw [buildOutAcc, foldl_outStep_outs_size hS fm, hperm.length_eq, List.length_map]
  exact Nat.zero_add _

theorem outsStd_size (hS : TrieSem t P) (hsort : t.Sorted) :
    (buildOutAcc t (buildFailMap t false)).outs.size = P.length :=
  buildOutAcc_outs_size hS hsort _

end

end Daac
