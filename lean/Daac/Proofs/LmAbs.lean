/-
Pure string combinatorics for the leftmost automaton: the abstract scan `absLm`, driven by the
string-level transition `deltaL` and output `oposL`, returns the leftmost-longest occurrence
`bestIn P x 0`. Core Lean only.
-/
import Daac.Proofs.LmIface
namespace Daac
variable {V : Type}

def Occ (P : List (LPat V)) (x : List Nat) (s : Nat) (q : LPat V) : Prop :=
  q ∈ P ∧ q.key ≠ [] ∧ q.key <+: x.drop s

structure IsBest (P : List (LPat V)) (x : List Nat) (s : Nat) (p : LPat V) : Prop where
  occ : Occ P x s p
  left : ∀ s' q, s' < s → ¬ Occ P x s' q
  long : ∀ q, Occ P x s q → q.key.length ≤ p.key.length

theorem mem_prefLPats {P : List (LPat V)} {x : List Nat} {q : LPat V} :
    q ∈ prefLPats P x ↔ Occ P x 0 q := by
  simp only [prefLPats, List.mem_filter, decide_eq_true_eq, Occ, List.drop_zero]

theorem longestLPat_eq_none {l : List (LPat V)} : longestLPat l = none ↔ l = [] := by
  cases l with
  | nil => simp [longestLPat]
  | cons p ps => simp only [longestLPat]; split <;> (try split) <;> simp

theorem longestLPat_some {l : List (LPat V)} {p : LPat V} (h : longestLPat l = some p) :
    p ∈ l ∧ ∀ q ∈ l, q.key.length ≤ p.key.length := by
  induction l generalizing p with
  | nil => cases h
  | cons a l ih =>
    rw [longestLPat] at h
    split at h
    · next hn =>
      cases h
      rw [longestLPat_eq_none.1 hn]
      exact ⟨List.mem_singleton.2 rfl, fun q hq => List.mem_singleton.1 hq ▸ Nat.le_refl _⟩
    · next q hq =>
      obtain ⟨hm, hmax⟩ := ih hq
      split at h <;> cases h
      · next hgt => exact ⟨List.mem_cons_of_mem _ hm, List.forall_mem_cons.2 ⟨Nat.le_of_lt hgt, hmax⟩⟩
      · next hgt => exact ⟨List.mem_cons_self, List.forall_mem_cons.2
          ⟨Nat.le_refl _, fun r hr => Nat.le_trans (hmax r hr) (Nat.le_of_not_lt hgt)⟩⟩

theorem occ_length {P : List (LPat V)} {x : List Nat} {s : Nat} {q : LPat V}
    (h : Occ P x s q) : s + q.key.length ≤ x.length := by
  have h1 := h.2.2.length_le
  rw [List.length_drop] at h1
  have h2 : 0 < x.length - s := Nat.lt_of_lt_of_le (List.length_pos_iff.2 h.2.1) h1
  exact Nat.add_le_of_le_sub' (Nat.le_of_lt (Nat.lt_of_sub_pos h2)) h1

theorem occ_append_right {P : List (LPat V)} {x : List Nat} {s : Nat} {q : LPat V}
    (h : Occ P x s q) (r : List Nat) : Occ P (x ++ r) s q := by
  refine ⟨h.1, h.2.1, h.2.2.trans ?_⟩
  rw [List.drop_append_of_le_length (Nat.le_trans (Nat.le_add_right _ _) (occ_length h))]
  exact List.prefix_append _ _

theorem occ_of_append {P : List (LPat V)} {x r : List Nat} {s : Nat} {q : LPat V}
    (h : Occ P (x ++ r) s q) (hfit : s + q.key.length ≤ x.length) : Occ P x s q := by
  obtain ⟨hq, hne, hp⟩ := h
  refine ⟨hq, hne, ?_⟩
  rw [List.drop_append_of_le_length (Nat.le_trans (Nat.le_add_right _ _) hfit)] at hp
  exact List.prefix_of_prefix_length_le hp (List.prefix_append _ _)
    (by rw [List.length_drop]; exact Nat.le_sub_of_add_le' hfit)

theorem occ_append_left {P : List (LPat V)} {v w : List Nat} {s : Nat} {q : LPat V} :
    Occ P (v ++ w) (v.length + s) q ↔ Occ P w s q := by
  simp only [Occ, ← List.drop_drop, List.drop_append_length]

theorem occ_cons {P : List (LPat V)} {c : Nat} {r : List Nat} {s : Nat} {q : LPat V} :
    Occ P (c :: r) (s + 1) q ↔ Occ P r s q := by
  simp only [Occ, List.drop_succ_cons]

theorem not_occ_nil {P : List (LPat V)} {s : Nat} {q : LPat V} : ¬ Occ P [] s q := by
  intro h
  exact h.2.1 (List.eq_nil_of_length_eq_zero
    (Nat.eq_zero_of_le_zero (Nat.le_trans (Nat.le_add_left _ _) (occ_length h))))

theorem occ_of_le {P : List (LPat V)} {v w : List Nat} {s : Nat} {q : LPat V}
    (h : Occ P (v ++ w) s q) (hs : v.length ≤ s) : Occ P w (s - v.length) q := by
  rw [← Nat.add_sub_cancel' hs] at h
  exact occ_append_left.1 h

theorem bestIn_cons_none {P : List (LPat V)} {c : Nat} {r : List Nat}
    (h : ∀ q, ¬ Occ P (c :: r) 0 q) (n : Nat) : bestIn P (c :: r) n = bestIn P r (n + 1) := by
  rw [bestIn, List.eq_nil_iff_forall_not_mem.2 fun q hq => h q (mem_prefLPats.1 hq)]; rfl

theorem bestIn_none_spec {P : List (LPat V)} {x : List Nat} {n : Nat}
    (h : bestIn P x n = none) : ∀ s q, ¬ Occ P x s q := by
  fun_induction bestIn P x n with
  | case1 => intro s q; exact not_occ_nil
  | case2 c r n p hp => cases h
  | case3 c r n hn ih =>
    intro s q ho
    cases s with
    | zero => exact List.ne_nil_of_mem (mem_prefLPats.2 ho) (longestLPat_eq_none.1 hn)
    | succ s => exact ih h s q (occ_cons.1 ho)

theorem bestIn_some_spec {P : List (LPat V)} {x : List Nat} {n k : Nat} {p : LPat V}
    (h : bestIn P x n = some (k, p)) : ∃ s, k = n + s ∧ IsBest P x s p := by
  fun_induction bestIn P x n with
  | case1 => cases h
  | case2 c r n p' hp' =>
    cases h
    obtain ⟨hm, hmax⟩ := longestLPat_some hp'
    exact ⟨0, rfl, mem_prefLPats.1 hm, fun s' q hs' => absurd hs' (Nat.not_lt_zero _),
      fun q hq => hmax q (mem_prefLPats.2 hq)⟩
  | case3 c r n hn ih =>
    obtain ⟨s, hk, hb⟩ := ih h
    refine ⟨s + 1, by rw [hk, Nat.add_assoc, Nat.add_comm 1], occ_cons.2 hb.occ, ?_,
      fun q hq => hb.long q (occ_cons.1 hq)⟩
    intro s' q hs' ho
    cases s' with
    | zero => exact List.ne_nil_of_mem (mem_prefLPats.2 ho) (longestLPat_eq_none.1 hn)
    | succ s' => exact hb.left s' q (Nat.lt_of_succ_lt_succ hs') (occ_cons.1 ho)

theorem isBest_of_bestIn {P : List (LPat V)} {x : List Nat} {s : Nat} {p : LPat V}
    (h : bestIn P x 0 = some (s, p)) : IsBest P x s p := by
  obtain ⟨s', hs, hb⟩ := bestIn_some_spec h
  rwa [hs, Nat.zero_add]

theorem bestIn_of_isBest {P : List (LPat V)} (hkeys : (P.map (·.key)).Nodup)
    {x : List Nat} {s : Nat} {p : LPat V} (h : IsBest P x s p) (n : Nat) :
    bestIn P x n = some (n + s, p) := by
  induction x generalizing n s with
  | nil => exact absurd h.occ not_occ_nil
  | cons c r ih =>
    cases s with
    | zero =>
      rw [bestIn]
      have hpm := mem_prefLPats.2 h.occ
      cases hl : longestLPat (prefLPats P (c :: r)) with
      | none => exact absurd (longestLPat_eq_none.1 hl) (List.ne_nil_of_mem hpm)
      | some p' =>
        -- `p'` and `p` both occur at 0 and each is at least as long as the other: same key.
        obtain ⟨hm, hmax⟩ := longestLPat_some hl
        have ho' := mem_prefLPats.1 hm
        have hpre := List.prefix_of_prefix_length_le ho'.2.2 h.occ.2.2 (h.long p' ho')
        rw [lpat_eq_of_key_eq hkeys ho'.1 h.occ.1 (hpre.eq_of_length (Nat.le_antisymm (h.long p' ho') (hmax p hpm)))]
        rfl
    | succ s =>
      rw [bestIn_cons_none (fun q => h.left 0 q (Nat.succ_pos s)),
        ih ⟨occ_cons.1 h.occ, fun s' q hs' ho => h.left (s' + 1) q (Nat.succ_lt_succ hs') (occ_cons.2 ho),
          fun q hq => h.long q (occ_cons.2 hq)⟩ (n + 1), Nat.add_assoc, Nat.add_comm 1 s]

theorem bestIn_of_noOcc {P : List (LPat V)} {x : List Nat} (h : ∀ s q, ¬ Occ P x s q) (n : Nat) :
    bestIn P x n = none := by
  cases hb : bestIn P x n with
  | none => rfl
  | some r =>
    obtain ⟨s, _, hbest⟩ := bestIn_some_spec (k := r.1) (p := r.2) hb
    exact absurd hbest.occ (h s r.2)

theorem bestIn_shift (P : List (LPat V)) (x : List Nat) (n : Nat) :
    bestIn P x n = (bestIn P x 0).map fun r => (n + r.1, r.2) := by
  induction x generalizing n with
  | nil => rfl
  | cons c r ih =>
    simp only [bestIn]
    split
    · rfl
    · rw [ih (n + 1), ih (0 + 1), Option.map_map]
      congr 1; funext r; simp only [Function.comp, Nat.zero_add, Nat.add_assoc]

theorem bestIn_skip {P : List (LPat V)} {v w : List Nat}
    (hno : ∀ s q, s < v.length → ¬ Occ P (v ++ w) s q) (n : Nat) :
    bestIn P (v ++ w) n = bestIn P w (n + v.length) := by
  induction v generalizing n with
  | nil => rfl
  | cons a v ih =>
    rw [List.cons_append, bestIn_cons_none (r := v ++ w) (fun q => hno 0 q (Nat.succ_pos _)),
      ih (fun s q hs ho => hno (s + 1) q (Nat.succ_lt_succ hs) (occ_cons.2 ho)),
      List.length_cons, Nat.add_assoc, Nat.add_comm 1]

theorem isBest_append_left {P : List (LPat V)} {v w : List Nat} {s : Nat} {p : LPat V}
    (hno : ∀ s' q, s' < v.length → ¬ Occ P (v ++ w) s' q) :
    IsBest P (v ++ w) (v.length + s) p ↔ IsBest P w s p := by
  constructor
  · intro h
    exact ⟨occ_append_left.1 h.occ,
      fun s' q hs' ho => h.left (v.length + s') q (Nat.add_lt_add_left hs' _) (occ_append_left.2 ho),
      fun q hq => h.long q (occ_append_left.2 hq)⟩
  · intro h
    refine ⟨occ_append_left.2 h.occ, ?_, fun q hq => h.long q (occ_append_left.1 hq)⟩
    intro s' q hs' ho
    by_cases hlt : s' < v.length
    · exact hno s' q hlt ho
    · have hle := Nat.le_of_not_lt hlt
      exact h.left (s' - v.length) q (Nat.sub_lt_left_of_lt_add hle hs') (occ_of_le ho hle)

theorem isBest_restrict {P : List (LPat V)} {y r : List Nat} {s : Nat} {p : LPat V}
    (h : IsBest P (y ++ r) s p) (hfit : s + p.key.length ≤ y.length) : IsBest P y s p :=
  ⟨occ_of_append h.occ hfit, fun s' q hs' ho => h.left s' q hs' (occ_append_right ho r),
    fun q hq => h.long q (occ_append_right hq r)⟩

theorem suffix_decomp {u y : List Nat} (h : u <:+ y) :
    ∃ v, y = v ++ u ∧ v.length = y.length - u.length := by
  obtain ⟨v, hv⟩ := h
  exact ⟨v, hv.symm, by rw [← hv]; simp⟩

/-! From here on `y ++ [c] = w ++ t` where `t` is the longest suffix of `y ++ [c]` that is a node. -/

theorem length_split {y w t : List Nat} {c : Nat} (hw : y ++ [c] = w ++ t) :
    y.length + 1 = w.length + t.length := by
  have hl := congrArg List.length hw
  rwa [List.length_append, List.length_append] at hl

/-- An occurrence in `y ++ c :: rest` that starts before `t` lies inside `y`: otherwise its part
inside `y ++ [c]` would be a prefix of a pattern, hence a node, and longer than `t`. -/
theorem occ_split {P : List (LPat V)} {y w : List Nat} {c : Nat}
    (hw : y ++ [c] = w ++ lsuf (nodeList P) (y ++ [c])) {rest : List Nat} {s : Nat} {q : LPat V}
    (h : Occ P (y ++ c :: rest) s q) (hs : s < w.length) : Occ P y s q := by
  have hl := length_split hw
  refine occ_of_append h (Nat.le_of_not_lt fun hfit => ?_)
  have hp := h.2.2
  rw [← List.singleton_append, ← List.append_assoc, List.drop_append] at hp
  have hpre : (y ++ [c]).drop s <+: q.key :=
    List.prefix_of_prefix_length_le (List.prefix_append _ _) hp
      (by rw [List.length_drop, List.length_append, List.length_singleton]
          exact Nat.sub_le_of_le_add (Nat.add_comm s _ ▸ Nat.succ_le_of_lt hfit))
  have := (lsuf_spec (nodeList_prefClosed P).nil_mem (y ++ [c])).2.2 _
    (List.drop_suffix _ _) (mem_nodeList.2 (Or.inr ⟨q, h.1, hpre⟩))
  rw [List.length_drop, List.length_append, List.length_singleton] at this
  omega

theorem isBest_extend {P : List (LPat V)} {y w : List Nat} {c : Nat} {s : Nat} {p : LPat V}
    (h : IsBest P y s p) (hw : y ++ [c] = w ++ lsuf (nodeList P) (y ++ [c]))
    (hs : s < w.length) (rest : List Nat) : IsBest P (y ++ c :: rest) s p :=
  ⟨occ_append_right h.occ _,
    fun s' q hs' ho => h.left s' q hs' (occ_split hw ho (Nat.lt_trans hs' hs)),
    fun q hq => h.long q (occ_split hw hq hs)⟩

/-- The candidate after reaching `t`: the pattern `t` reports if there is one, else the old
candidate; either way the best occurrence in `t`. -/
theorem cand_update {P : List (LPat V)} (hkeys : (P.map (·.key)).Nodup) {y w t : List Nat} {c : Nat}
    (hw : y ++ [c] = w ++ t) (hno : ∀ s q, s < w.length → ¬ Occ P (y ++ [c]) s q) (m : Nat) :
    (match oposL P t with
     | some p => some (m + y.length + 1 - p.key.length, p)
     | none => bestIn P y m) = bestIn P t (m + w.length) := by
  have hl := length_split hw
  rw [hw] at hno
  rw [bestIn_shift P t]
  unfold oposL
  cases hb : bestIn P t 0 with
  | none =>
    apply bestIn_of_noOcc
    intro s q ho
    have ho' := hw ▸ occ_append_right ho [c]
    by_cases hs : s < w.length
    · exact hno s q hs ho'
    · exact bestIn_none_spec hb _ q (occ_of_le ho' (Nat.le_of_not_lt hs))
  | some r =>
    obtain ⟨s, p⟩ := r
    have hbt := isBest_of_bestIn hb
    have hfit := occ_length hbt.occ
    show (match (if s + p.key.length = t.length then some p else none) with
      | some p => some (m + y.length + 1 - p.key.length, p)
      | none => bestIn P y m) = some (m + w.length + s, p)
    by_cases he : s + p.key.length = t.length
    · rw [if_pos he]
      show some (m + y.length + 1 - p.key.length, p) = _
      rw [Nat.add_assoc m, hl, ← he, ← Nat.add_assoc, ← Nat.add_assoc, Nat.add_sub_cancel]
    · -- the best occurrence in `t` ends before `c`, so it is the best occurrence in `y`
      rw [if_neg he]
      have hbz : IsBest P (y ++ [c]) (w.length + s) p := hw ▸ (isBest_append_left hno).2 hbt
      show bestIn P y m = _
      rw [Nat.add_assoc]
      exact bestIn_of_isBest hkeys (isBest_restrict hbz (by omega)) m

theorem absLm_cons_stop {P : List (LPat V)} {u : List Nat} {c : Nat} (hd : deltaL P u c = [])
    (r : Nat × LPat V) (rest : List Nat) (n : Nat) : absLm P (c :: rest) u (some r) n = some r := by
  rw [absLm, if_pos hd]; rfl

theorem absLm_cons_cont {P : List (LPat V)} {u : List Nat} {c : Nat}
    {cand : Option (Nat × LPat V)} (h : deltaL P u c = [] → cand = none) (rest : List Nat) (n : Nat) :
    absLm P (c :: rest) u cand n = absLm P rest (deltaL P u c)
      (match oposL P (deltaL P u c) with
       | some p => some (n + 1 - p.key.length, p)
       | none => cand) (n + 1) := by
  rw [absLm]
  by_cases hd : deltaL P u c = []
  · -- at the root nothing is reported, so restarting is the same as going on
    rw [if_pos hd, h hd, hd]; rfl
  · rw [if_neg hd]
    cases oposL P (deltaL P u c) <;> rfl

theorem deltaL_of_none {P : List (LPat V)} {u : List Nat} (hb : bestIn P u 0 = none) (c : Nat) :
    deltaL P u c = lsuf (nodeList P) (u ++ [c]) := by
  unfold deltaL; rw [hb]

theorem deltaL_of_some {P : List (LPat V)} {u w : List Nat} {c s : Nat} {p : LPat V}
    (hb : bestIn P u 0 = some (s, p)) (hw : u ++ [c] = w ++ lsuf (nodeList P) (u ++ [c])) :
    deltaL P u c = if s < w.length then [] else lsuf (nodeList P) (u ++ [c]) := by
  unfold deltaL
  rw [hb]
  simp only [length_split hw, Nat.add_sub_cancel]

theorem deltaL_eq_nil_or (P : List (LPat V)) (u : List Nat) (c : Nat) :
    deltaL P u c = [] ∨ deltaL P u c = lsuf (nodeList P) (u ++ [c]) := by
  unfold deltaL
  cases bestIn P u 0 with
  | none => exact Or.inr rfl
  | some r =>
    by_cases h : u.length + 1 - (lsuf (nodeList P) (u ++ [c])).length > r.1
    · exact Or.inl (if_pos h)
    · exact Or.inr (if_neg h)

/-- From any string `u` with its own best occurrence as candidate, the scan of `rest` finds the
best occurrence of `u ++ rest`. This is the loop invariant of the scan in a form that needs no
memory of the text `y` read since the last restart: the state is `u = lsuf N y` (K1) and no
occurrence in `y` starts before `u` (K2), so the candidate `best y` (K3) is `best u`, and
`best (y ++ rest)` is `best (u ++ rest)`, both shifted by `|y| - |u|`; `m` carries that shift. -/
theorem absLm_from {P : List (LPat V)} (hkeys : (P.map (·.key)).Nodup) (rest : List Nat) :
    ∀ (u : List Nat) (m : Nat),
      absLm P rest u (bestIn P u m) (m + u.length) = bestIn P (u ++ rest) m := by
  induction rest with
  | nil => intro u m; rw [absLm, List.append_nil]
  | cons c rest ih =>
    intro u m
    obtain ⟨w, hw, -⟩ := suffix_decomp (lsuf_spec (nodeList_prefClosed P).nil_mem (u ++ [c])).1
    have hl := length_split hw
    -- the scan goes on to `t`: what lies before `t` can be forgotten
    have cont : (∀ s q, s < w.length → ¬ Occ P u s q) →
        deltaL P u c = lsuf (nodeList P) (u ++ [c]) → (deltaL P u c = [] → bestIn P u m = none) →
        absLm P (c :: rest) u (bestIn P u m) (m + u.length) = bestIn P (u ++ c :: rest) m := by
      intro hno hdt hnil
      have hno' : ∀ rest s q, s < w.length → ¬ Occ P (u ++ c :: rest) s q :=
        fun rest s q hs ho => hno s q hs (occ_split hw ho hs)
      have hsplit : u ++ c :: rest = w ++ (lsuf (nodeList P) (u ++ [c]) ++ rest) := by
        rw [← List.append_assoc, ← hw, List.append_assoc]; rfl
      rw [absLm_cons_cont hnil, hdt, cand_update hkeys hw (hno' []) m, Nat.add_assoc m, hl,
        ← Nat.add_assoc, ih, ← bestIn_skip (hsplit ▸ hno' rest), ← hsplit]
    cases hb : bestIn P u 0 with
    | none =>
      exact cont (fun s q _ => bestIn_none_spec hb s q) (deltaL_of_none hb c)
        (fun _ => by rw [bestIn_shift, hb]; rfl)
    | some r =>
      obtain ⟨s, p⟩ := r
      have hbest := isBest_of_bestIn hb
      have hd := deltaL_of_some hb hw
      by_cases hlt : s < w.length
      · -- the candidate starts before `t`: the scan stops, and the candidate stays the best
        rw [if_pos hlt] at hd
        rw [bestIn_shift, hb, bestIn_of_isBest hkeys (isBest_extend hbest hw hlt rest) m]
        exact absLm_cons_stop hd _ rest _
      · rw [if_neg hlt] at hd
        refine cont (fun s' q hs' => hbest.left s' q (Nat.lt_of_lt_of_le hs' (Nat.le_of_not_lt hlt)))
          hd (fun h0 => ?_)
        -- `t` cannot be empty: the candidate starts inside it
        have := occ_length hbest.occ
        have := List.length_pos_iff.2 hbest.occ.2.1
        rw [hd] at h0
        rw [h0, List.length_nil] at hl
        omega

/-- `_hne` is not needed: `bestIn` ignores empty keys by itself. -/
theorem absLm_eq_bestIn (P : List (LPat V)) (_hne : ∀ p ∈ P, p.key ≠ [])
    (hkeys : (P.map (·.key)).Nodup) (x : List Nat) :
    absLm P x [] none 0 = bestIn P x 0 :=
  absLm_from hkeys x [] 0

end Daac

#print axioms Daac.absLm_eq_bestIn
