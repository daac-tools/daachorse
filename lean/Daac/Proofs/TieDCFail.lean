/-
Translation tie, construction side, char-wise: the fail / output_pos pass of
`CharwiseDoubleArrayAhoCorasickBuilder::build_double_array` (GENERATED: `Daac/Gen/BuildC.lean`,
`DC.Builder.build_double_array.loop3`) against the model's `setFailOut .charwise`.

Same argument as for the byte-wise pass in Proofs/TieD.lean, whose fold `foM` and list facts
(`failOut_lists`) are stated for either variant; the char-wise setters never fail, so `foM .charwise`
has no `u24Max` test.
-/
import Daac.Gen.BuildC
import Daac.Proofs.TieD
import Daac.Proofs.LayoutC
namespace Daac.Tie.DC
open Daac Daac.Gen Daac.Tie.H Daac.Tie.D
variable {V : Type}

theorem loop3_cons (sm : Array Nat) (i : Nat) (st : N.NfaBuilderState V)
    (rest : List (Nat × N.NfaBuilderState V)) (b : LC.Builder) (hd : i ≠ Gen.deadStateId)
    (hg : GoodItem sm b.states.size (i, st)) :
    DC.Builder.build_double_array.loop3 sm ((i, st) :: rest) b =
      DC.Builder.build_double_array.loop3 sm rest
        { b with states :=
            (b.states.modify (tripG sm (i, st)).1 (wFO (tripG sm (i, st)).2.1 (tripG sm (i, st)).2.2)) } := by
  obtain ⟨g1, g2, g3⟩ := hg hd
  have h1 : (i == Gen.deadStateId) = false := by simpa using hd
  rw [DC.Builder.build_double_array.loop3, h1]
  simp only [Bool.false_eq_true, if_false, index_ok sm i 0 g1, index_ok b.states _ stDefaultC g2,
    Rs.StC.set_output_pos, tripG]
  by_cases hf : st.fail = Gen.deadStateId
  · simp only [hf, beq_self_eq_true, if_true, index_set_self _ _ _ g2, Rs.StC.set_fail,
      set_set_eq_modify _ _ _ _ _ g2]
  · have hfb : (st.fail == Gen.deadStateId) = false := by simpa using hf
    simp only [hfb, if_neg hf, Bool.false_eq_true, if_false, index_ok sm st.fail 0 (g3 hf),
      index_set_self _ _ _ g2, Rs.StC.set_fail, set_set_eq_modify _ _ _ _ _ g2]

theorem loop3_eq_foM (sm : Array Nat) : ∀ (items : List (Nat × N.NfaBuilderState V)) (b : LC.Builder),
    (∀ it ∈ items, GoodItem sm b.states.size it) →
    RelE (fun b' A => b'.states = A)
      (DC.Builder.build_double_array.loop3 sm items b)
      (foM .charwise ((items.filter (fun it => it.1 != Gen.deadStateId)).map (tripG sm)) b.states) := by
  intro items
  induction items with
  | nil => intro b _; rfl
  | cons it rest ih =>
    intro b hgood
    obtain ⟨i, st⟩ := it
    have hrest : ∀ it ∈ rest, GoodItem sm b.states.size it := fun it h => hgood it (List.mem_cons_of_mem _ h)
    by_cases hd : i = Gen.deadStateId
    · have h1 : (i == Gen.deadStateId) = true := by simpa using hd
      have h2 : ((i, st).1 != Gen.deadStateId) = false := by simp [hd]
      rw [DC.Builder.build_double_array.loop3, h1, if_pos rfl,
        List.filter_cons_of_neg (p := fun it : Nat × N.NfaBuilderState V => it.1 != Gen.deadStateId)
          (by rw [h2]; exact Bool.false_ne_true)]
      exact ih b hrest
    · have h2 : ((i, st).1 != Gen.deadStateId) = true := by simpa using hd
      have g2 : (tripG sm (i, st)).1 < b.states.size := (hgood _ List.mem_cons_self hd).2.1
      rw [loop3_cons sm i st rest b hd (hgood _ List.mem_cons_self),
        List.filter_cons_of_pos (p := fun it : Nat × N.NfaBuilderState V => it.1 != Gen.deadStateId) h2,
        List.map_cons, foM, if_neg (fun h => nomatch h.1), setSt_lt _ g2]
      exact ih _ (by rw [Array.size_modify]; exact hrest)

/-- About `loop3` of Gen/BuildC, the char-wise fail / output_pos pass (the byte-wise one is `loop2`). -/
theorem loop2_sim_c (m : Mapper) (BL : Nat) (t : Trie V) (nfa : Nfa V) (g : N.NfaBuilder V) (ido : List Nat → Nat)
    (R : NfaRep g t nfa ido) (hfn : FailNodes t nfa) (hsort : t.Sorted)
    (b : LC.Builder) (sm : Array Nat) (lay : Lay) (hst : b.states = lay.states)
    (hmap : ∀ u, t.hasNode u = true → sm[ido u]? = some (lay.idx.getD u deadIdx))
    (I : LayC.Inv m t BL lay []) :
    RelE (fun b' lay' => b'.states = lay'.states)
      (DC.Builder.build_double_array.loop3 sm (Rs.enumerateA g.states) b)
      (setFailOut .charwise nfa (t.paths []) lay) := by
  have hpl : ∀ w, t.hasNode w = true → LayC.has lay w := LayC.inv_all_placed I
  obtain ⟨hgood, hfo⟩ := failOut_lists t nfa g ido R hfn sm lay hmap .charwise hsort
    (fun w hw => I.ixLt w (hpl w hw)) (fun u w hu hw => I.ixInj u w (hpl u hu) (hpl w hw))
  have G := loop3_eq_foM sm (Rs.enumerateA g.states) b (by rw [hst]; exact hgood)
  rw [hst, hfo] at G
  rw [setFailOut_eq_foM]
  rcases G.inv with ⟨b', A, hx, hy, hr⟩ | ⟨e1, e2, hx, hy, he⟩
  · rw [hx, hy]
    exact hr
  · rw [hx, hy]
    exact RelE.err he

end Daac.Tie.DC
#print axioms Daac.Tie.DC.loop2_sim_c
