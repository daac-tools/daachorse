/-
From the evaluated invariant `DA.tableInv` to the semantic interface `StdSem` (StdIface.lean).
Core Lean only.
-/
import Daac.Proofs.StdIface
namespace Daac
variable {V : Type}

theorem lsuf_cons_of_not_mem {α : Type} [DecidableEq α] {N : List (List α)} {a : α} {t : List α}
    (h : a :: t ∉ N) : lsuf N (a :: t) = lsuf N t := by
  simp [lsuf, sufs, h]

theorem sufLPats_nil (P : List (LPat V)) : sufLPats P [] = [] := by
  simp [sufLPats, sufs]

theorem sufLPats_cons (P : List (LPat V)) (a : Nat) (t : List Nat) :
    sufLPats P (a :: t) = P.filter (fun p => p.key = a :: t) ++ sufLPats P t := by
  simp [sufLPats, sufs]

theorem key_mem_nodeList {P : List (LPat V)} {p : LPat V} (hp : p ∈ P) : p.key ∈ nodeList P :=
  mem_nodeList.2 (Or.inr ⟨p, hp, List.prefix_refl _⟩)

theorem sufLPats_lsuf (P : List (LPat V)) :
    ∀ t : List Nat, sufLPats P t = sufLPats P (lsuf (nodeList P) t)
  | [] => by rw [lsuf_nil]
  | a :: t => by
    by_cases h : a :: t ∈ nodeList P
    · rw [lsuf_mem_self h (nodeList_prefClosed P).nil_mem]
    · -- no pattern has a key outside the node set
      have : P.filter (fun p => p.key = a :: t) = [] :=
        List.filter_eq_nil_iff.2 fun _ hp hk => h (of_decide_eq_true hk ▸ key_mem_nodeList hp)
      rw [lsuf_cons_of_not_mem h, sufLPats_cons, ← sufLPats_lsuf P t, this, List.nil_append]

theorem filter_key_of_nodup : ∀ {P : List (LPat V)}, (P.map (·.key)).Nodup → ∀ {q : LPat V},
    q ∈ P → P.filter (fun p => p.key = q.key) = [q] := by
  intro P hk q hq
  induction P with
  | nil => cases hq
  | cons r P ih =>
    obtain ⟨hr, hP⟩ := List.nodup_cons.1 hk
    rcases List.mem_cons.1 hq with rfl | hq
    · have : P.filter (fun p => p.key = q.key) = [] :=
        List.filter_eq_nil_iff.2 fun p hp hpk =>
          hr (List.mem_map.2 ⟨p, hp, of_decide_eq_true hpk⟩)
      rw [List.filter_cons, if_pos (decide_eq_true rfl), this]
    · have hne : r.key ≠ q.key := fun e => hr (List.mem_map.2 ⟨q, hq, e.symm⟩)
      rw [List.filter_cons, if_neg (by simpa using hne), ih hP hq]

theorem terminal_resid_none {P : List (LPat V)} {u : List Nat} (h : terminal (resid P u) = none) :
    P.filter (fun p => p.key = u) = [] := by
  refine List.filter_eq_nil_iff.2 fun p hp hk => ?_
  have hm : (⟨[], p.blen, p.value⟩ : LPat V) ∈ resid P u :=
    mem_resid.2 ⟨p, hp, by rw [of_decide_eq_true hk, List.append_nil], rfl, rfl⟩
  exact List.find?_eq_none.1 h _ hm rfl

theorem terminal_resid_some {P : List (LPat V)} (hkeys : (P.map (·.key)).Nodup) {u : List Nat}
    {p : LPat V} (h : terminal (resid P u) = some p) :
    ∃ q, P.filter (fun p => p.key = u) = [q] ∧ q.blen = p.blen ∧ q.value = p.value := by
  have h : (resid P u).find? (fun p => p.key.isEmpty) = some p := h
  obtain ⟨q, hq, hqk, hqb, hqv⟩ := mem_resid.1 (List.mem_of_find?_eq_some h)
  have hpe : p.key.isEmpty = true := List.find?_some (p := fun p : LPat V => p.key.isEmpty) h
  have hpk : p.key = [] := List.isEmpty_iff.1 hpe
  rw [hpk, List.append_nil] at hqk
  exact ⟨q, hqk ▸ filter_key_of_nodup hkeys hq, hqb, hqv⟩

theorem stepRes_resid (P : List (LPat V)) (u : List Nat) (c : Nat) :
    stepRes (resid P u) c = resid P (u ++ [c]) := by
  rw [resid_append]; rfl

theorem snoc_mem_nodeList {P : List (LPat V)} {u : List Nat} {c : Nat} :
    u ++ [c] ∈ nodeList P ↔ stepRes (resid P u) c ≠ [] := by
  rw [stepRes_resid, resid_ne_nil_iff, mem_nodeList]
  exact or_iff_right (List.append_ne_nil_of_right_ne_nil u (List.cons_ne_nil c []))

theorem le_foldl_max (P : List (LPat V)) (m : Nat) :
    m ≤ P.foldl (fun m p => max m p.key.length) m := by
  induction P generalizing m with
  | nil => exact Nat.le_refl m
  | cons q P ih => exact Nat.le_trans (Nat.le_max_left _ _) (ih _)

theorem key_length_le_maxKeyLen {P : List (LPat V)} {p : LPat V} (hp : p ∈ P) :
    p.key.length ≤ maxKeyLen P := by
  unfold maxKeyLen
  generalize 0 = m
  induction P generalizing m with
  | nil => cases hp
  | cons q P ih =>
    rcases List.mem_cons.1 hp with rfl | hp
    · exact Nat.le_trans (Nat.le_max_right _ _) (le_foldl_max P _)
    · exact ih hp _

theorem node_length_le {P : List (LPat V)} {u : List Nat} (hu : u ∈ nodeList P) :
    u.length ≤ maxKeyLen P := by
  rcases mem_nodeList.1 hu with rfl | ⟨p, hp, hpre⟩
  · exact Nat.zero_le _
  · exact Nat.le_trans hpre.length_le (key_length_le_maxKeyLen hp)

theorem lps_mem_lt {P : List (LPat V)} {u : List Nat} (hu : u ≠ []) :
    lps (nodeList P) u ∈ nodeList P ∧ (lps (nodeList P) u).length < u.length := by
  obtain ⟨a, b, _⟩ := lsuf_spec (nodeList_prefClosed P).nil_mem u.tail
  refine ⟨b, ?_⟩
  cases u with
  | nil => exact absurd rfl hu
  | cons x u => exact Nat.lt_succ_of_le a.length_le

theorem code_isSome_of_mem_sigma {da : DA V} {c : Nat} (h : c ∈ da.sigma) : (da.code c).isSome := by
  rw [DA.sigma] at h
  cases hv : da.variant with
  | bytewise => rw [DA.code, hv]; rfl
  | charwise =>
    rw [hv] at h
    exact (List.mem_filter.1 h).2

theorem childL_of_code_none {da : DA V} {c : Nat} (i : Nat) (h : da.code c = none) :
    da.childL i c = .ok none := by
  rw [DA.childL, h]

theorem idx_nil (da : DA V) : da.idx [] = rootIdx := rfl

theorem idx_of_walk {da : DA V} {u : List Nat} {j : Nat} (h : da.walk u = some j) : da.idx u = j := by
  rw [DA.idx, h]; rfl

theorem walkFrom_cons_some {da : DA V} {i j c : Nat} (h : da.childL i c = .ok (some j))
    (w : List Nat) : da.walkFrom i (c :: w) = da.walkFrom j w := by
  rw [DA.walkFrom, h]

theorem walkFrom_cons_none {da : DA V} {i c : Nat} (h : da.childL i c = .ok none)
    (w : List Nat) : da.walkFrom i (c :: w) = none := by
  rw [DA.walkFrom, h]

theorem walkFrom_append (da : DA V) : ∀ (u w : List Nat) (i : Nat),
    da.walkFrom i (u ++ w) = (da.walkFrom i u).bind (fun j => da.walkFrom j w) := by
  intro u w
  induction u with
  | nil => intro i; rfl
  | cons c u ih =>
    intro i
    rw [List.cons_append, DA.walkFrom, DA.walkFrom]
    split
    · exact ih _
    · rfl

theorem DA.walk_snoc {da : DA V} {u : List Nat} {i j c : Nat} (hu : da.walk u = some i)
    (h : da.childL i c = .ok (some j)) : da.walk (u ++ [c]) = some j := by
  rw [DA.walk, walkFrom_append, ← DA.walk, hu, Option.bind_some, walkFrom_cons_some h]; rfl

theorem head_filterMap_walk_pair (da : DA V) (N : List (List Nat)) :
    ∀ (L : List (List Nat)), (∀ s ∈ L, (da.walk s).isSome ↔ s ∈ N) →
    ((L.filterMap fun s => (da.walk s).map fun j => (s, j)).head?).getD ([], rootIdx)
      = ((L.find? (fun s => decide (s ∈ N))).getD [],
          da.idx ((L.find? (fun s => decide (s ∈ N))).getD [])) := by
  intro L h
  induction L with
  | nil => rfl
  | cons s L ih =>
    obtain ⟨hs, hL⟩ := List.forall_mem_cons.1 h
    by_cases hN : s ∈ N
    · obtain ⟨j, hj⟩ := Option.isSome_iff_exists.1 (hs.2 hN)
      rw [List.filterMap_cons, hj, List.find?_cons, decide_eq_true hN]
      exact congrArg (Prod.mk s) (idx_of_walk hj).symm
    · have hw : da.walk s = none := Option.not_isSome_iff_eq_none.1 fun hw => hN (hs.1 hw)
      rw [List.filterMap_cons, hw, List.find?_cons, decide_eq_false hN]
      exact ih hL

/-- `checkNodeStd` and `checkNodeLm` differ only in what they ask of the node itself; the walk through
the trie is proved once, for any `G` that goes down to the children the way both do. -/
def TrieMirror (da : DA V) (sig : List Nat) (G : List Nat → Nat → List (LPat V) → Prop) : Prop :=
  ∀ ⦃u i R⦄, G u i R → (∀ p ∈ R, ∀ k ks, p.key = k :: ks → k ∈ sig) ∧
    ∀ c ∈ sig, (stepRes R c = [] ∧ da.childL i c = .ok none) ∨
      (stepRes R c ≠ [] ∧ ∃ j, da.childL i c = .ok (some j) ∧ j ≠ rootIdx ∧ j ≠ deadIdx ∧
        G (u ++ [c]) j (stepRes R c))

namespace TrieMirror
variable {da : DA V} {sig : List Nat} {G : List Nat → Nat → List (LPat V) → Prop}
  {u : List Nat} {i : Nat} {R P : List (LPat V)}

theorem head_mem (hG : TrieMirror da sig G) (h : G u i R) {c : Nat} (hc : stepRes R c ≠ []) :
    c ∈ sig := by
  obtain ⟨p, hp⟩ := List.exists_mem_of_ne_nil _ hc
  obtain ⟨q, hq, hk, _⟩ := mem_stepRes.1 hp
  exact (hG h).1 q hq _ _ hk

/-- The children clause for every admissible label: an unmapped label has no child and, as every
residual head is mapped, no residual pattern either. -/
theorem step (hG : TrieMirror da da.sigma G) (h : G u i R) {c : Nat} (hc : LabelOk da c) :
    (stepRes R c = [] ∧ da.childL i c = .ok none) ∨
      (stepRes R c ≠ [] ∧ ∃ j, da.childL i c = .ok (some j) ∧ j ≠ rootIdx ∧ j ≠ deadIdx ∧
        G (u ++ [c]) j (stepRes R c)) := by
  rcases hc with hc | hc
  · exact (hG h).2 c hc
  · refine Or.inl ⟨Classical.byContradiction fun hne => ?_, childL_of_code_none i hc⟩
    have := code_isSome_of_mem_sigma (hG.head_mem h hne)
    rw [hc] at this
    cases this

theorem walk_some (hG : TrieMirror da sig G) (w : List Nat) (h : G u i R)
    (hw : w = [] ∨ resid R w ≠ []) :
    ∃ j, da.walkFrom i w = some j ∧ G (u ++ w) j (resid R w) ∧
      (w ≠ [] → j ≠ rootIdx) ∧ (∀ c ∈ w, c ∈ sig) := by
  induction w generalizing u i R with
  | nil => exact ⟨i, rfl, by rw [List.append_nil]; exact h, fun h => absurd rfl h, fun _ h => nomatch h⟩
  | cons c w ih =>
    have hne : resid R (c :: w) ≠ [] := hw.resolve_left (List.cons_ne_nil c w)
    have hs : stepRes R c ≠ [] := fun h0 => hne (by rw [resid_cons, h0, resid_nil_pats])
    have hc : c ∈ sig := hG.head_mem h hs
    rcases (hG h).2 c hc with ⟨h0, _⟩ | ⟨_, j, hcl, hjr, _, hg⟩
    · exact absurd h0 hs
    · obtain ⟨k, hk, hgk, hkr, hsig⟩ := ih hg (Or.inr hne)
      refine ⟨k, by rw [walkFrom_cons_some hcl, hk], ?_, fun _ => ?_, ?_⟩
      · rw [resid_cons, List.append_cons]; exact hgk
      · -- below a child the walk stays away from the root
        cases w with
        | nil => cases hk; exact hjr
        | cons d w => exact hkr (List.cons_ne_nil d w)
      · exact List.forall_mem_cons.2 ⟨hc, hsig⟩

theorem walk_none (hG : TrieMirror da da.sigma G) (w : List Nat) (h : G u i R)
    (hl : ∀ c ∈ w, LabelOk da c) (hw : w ≠ []) (hr : resid R w = []) :
    da.walkFrom i w = none := by
  induction w generalizing u i R with
  | nil => exact absurd rfl hw
  | cons c w ih =>
    obtain ⟨hlc, hlw⟩ := List.forall_mem_cons.1 hl
    rcases hG.step h hlc with ⟨_, hcl⟩ | ⟨hs, j, hcl, _, _, hg⟩
    · exact walkFrom_cons_none hcl w
    · have hw0 : w ≠ [] := by
        rintro rfl
        exact hs hr
      rw [walkFrom_cons_some hcl]
      exact ih hg hlw hw0 hr

theorem node (hG : TrieMirror da sig G) (hroot : G [] rootIdx P) (hu : u ∈ nodeList P) :
    ∃ j, da.walk u = some j ∧ G u j (resid P u) ∧ (u ≠ [] → j ≠ rootIdx) ∧ (∀ c ∈ u, c ∈ sig) :=
  hG.walk_some u hroot ((mem_nodeList.1 hu).imp_right resid_ne_nil_iff.2)

theorem walk_isSome_iff (hG : TrieMirror da da.sigma G) (hroot : G [] rootIdx P) {s : List Nat}
    (hl : ∀ c ∈ s, LabelOk da c) : (da.walk s).isSome ↔ s ∈ nodeList P := by
  constructor
  · intro h
    apply Classical.byContradiction
    intro hs
    have hs0 : s ≠ [] := fun e => hs (e ▸ (nodeList_prefClosed P).nil_mem)
    have hr : resid P s = [] :=
      Classical.byContradiction fun hr => hs (mem_nodeList.2 (Or.inr (resid_ne_nil_iff.1 hr)))
    rw [DA.walk, hG.walk_none s hroot hl hs0 hr] at h
    cases h
  · intro h
    obtain ⟨j, hj, _⟩ := hG.node hroot h
    rw [hj]; rfl

/-- The child lookup at a node, as the transition loop reads it (`TransSem.child`). -/
theorem child (hG : TrieMirror da da.sigma G) (hroot : G [] rootIdx P) :
    ∀ u ∈ nodeList P, ∀ c, LabelOk da c →
      da.childL (da.idx u) c =
        .ok (if u ++ [c] ∈ nodeList P then some (da.idx (u ++ [c])) else none) := by
  intro u hu c hc
  obtain ⟨j, hj, hg, _⟩ := hG.node hroot hu
  rw [idx_of_walk hj]
  rcases hG.step hg hc with ⟨hs, hch⟩ | ⟨hs, j', hch, _⟩
  · rw [hch, if_neg fun hm => snoc_mem_nodeList.1 hm hs]
  · rw [hch, if_pos (snoc_mem_nodeList.2 hs), idx_of_walk (DA.walk_snoc hj hch)]

end TrieMirror

/-- The fail target of `u` is found like the longest suffix of `u.tail`. -/
theorem DA.lpsIdx_eq_lsufIdx (da : DA V) (u : List Nat) : da.lpsIdx u = (da.lsufIdx u.tail).2 := by
  rw [DA.lpsIdx, DA.lsufIdx]
  induction sufs u.tail with
  | nil => rfl
  | cons s L ih =>
    rw [List.filterMap_cons, List.filterMap_cons]
    cases da.walk s with
    | none => exact ih
    | some j => rfl

theorem labelOk_of_bytewise {da : DA V} (hv : da.variant = .bytewise) {c : Nat} (hc : c < 256) :
    LabelOk da c := by
  left
  simp [DA.sigma, hv, hc]

theorem labelOk_of_charwise {da : DA V} (hv : da.variant = .charwise) (c : Nat) :
    LabelOk da c := by
  cases hcc : da.code c with
  | none => exact Or.inr hcc
  | some cc =>
    left
    have hlt : c < da.mapTable.size := Nat.lt_of_not_le fun hle => by
      simp [DA.code, hv, Array.getElem?_eq_none hle] at hcc
    simp only [DA.sigma, hv, List.mem_filter, List.mem_range]
    exact ⟨hlt, by simp [hcc]⟩

section walks
variable {da : DA V} {N : List (List Nat)}
  (hW : ∀ s, (∀ c ∈ s, LabelOk da c) → ((da.walk s).isSome ↔ s ∈ N))
include hW

theorem lsufIdx_eq_of_walks {x : List Nat} (hl : ∀ c ∈ x, LabelOk da c) :
    da.lsufIdx x = (lsuf N x, da.idx (lsuf N x)) :=
  head_filterMap_walk_pair da N _ fun s hs => hW s fun c hc => hl c ((mem_sufs.1 hs).subset hc)

theorem lpsIdx_eq_of_walks {u : List Nat} (hl : ∀ c ∈ u, LabelOk da c) :
    da.lpsIdx u = da.idx (lps N u) := by
  rw [DA.lpsIdx_eq_lsufIdx, lsufIdx_eq_of_walks hW fun c hc => hl c ((List.tail_suffix u).subset hc)]
  rfl

end walks

variable [DecidableEq V]

def Good (da : DA V) (sig : List Nat) (u : List Nat) (i : Nat) (R : List (LPat V)) : Prop :=
  ∃ f, da.checkNodeStd sig f i u R = true

theorem Good.unfold {da : DA V} {sig u i} {R : List (LPat V)} (h : Good da sig u i R) :
    ∃ st, da.st i = .ok st ∧
      (∀ p ∈ R, ∀ k ks, p.key = k :: ks → k ∈ sig) ∧
      (u ≠ [] → st.fail = da.lpsIdx u) ∧
      (u = [] → st.opos = 0 ∧ terminal R = none) ∧
      (u ≠ [] → da.outOk st R = true) ∧
      (∀ c ∈ sig, (stepRes R c = [] ∧ da.childL i c = .ok none) ∨
        (stepRes R c ≠ [] ∧ ∃ j, da.childL i c = .ok (some j) ∧ j ≠ rootIdx ∧ j ≠ deadIdx ∧
          Good da sig (u ++ [c]) j (stepRes R c))) := by
  obtain ⟨f, hf⟩ := h
  revert hf
  fun_cases DA.checkNodeStd da sig f i u R <;> intro hf
  case case3 f st hst =>
      simp only [Bool.and_eq_true, List.all_eq_true] at hf
      obtain ⟨⟨⟨hheads, hfail⟩, hout⟩, hch⟩ := hf
      refine ⟨st, hst, ?_, ?_, ?_, ?_, ?_⟩
      · intro p hp k ks hk
        have := hheads p hp
        rw [hk] at this
        exact List.contains_iff_mem.1 this
      · intro hu
        rw [List.isEmpty_eq_false_iff.2 hu, Bool.false_or] at hfail
        exact eq_of_beq hfail
      · rintro rfl
        simpa using hout
      · intro hu
        rw [List.isEmpty_eq_false_iff.2 hu] at hout
        exact hout
      · intro c hc
        have := hch c hc
        cases hcl : da.childL i c with
        | error e => rw [hcl] at this; exact absurd this Bool.false_ne_true
        | ok o =>
          rw [hcl] at this
          cases o with
          | none => exact Or.inl ⟨List.isEmpty_iff.1 this, rfl⟩
          | some j =>
            simp only [Bool.and_eq_true, Bool.not_eq_true', bne_iff_ne, ne_eq] at this
            obtain ⟨⟨⟨h1, h2⟩, h3⟩, h4⟩ := this
            exact Or.inr ⟨List.isEmpty_eq_false_iff.1 h1, j, rfl, h2, h3, f, h4⟩
  all_goals exact absurd hf Bool.false_ne_true

theorem Good.mirror {da : DA V} {sig : List Nat} : TrieMirror da sig (Good da sig) := by
  intro u i R h
  obtain ⟨_, _, hh, _, _, _, hch⟩ := h.unfold
  exact ⟨hh, hch⟩

theorem good_root {da : DA V} {P : List (LPat V)} (hT : da.tableInv P = true) :
    Good da da.sigma [] rootIdx P := ⟨_, hT⟩

theorem node_good {da : DA V} {P : List (LPat V)} (hT : da.tableInv P = true) {u : List Nat}
    (hu : u ∈ nodeList P) :
    ∃ j, da.walk u = some j ∧ Good da da.sigma u j (resid P u) ∧ (u ≠ [] → j ≠ rootIdx) ∧
      (∀ c ∈ u, c ∈ da.sigma) :=
  Good.mirror.node (good_root hT) hu

theorem lpsIdx_eq {da : DA V} {P : List (LPat V)} (hT : da.tableInv P = true) {u : List Nat}
    (hu : u ∈ nodeList P) : da.lpsIdx u = da.idx (lps (nodeList P) u) := by
  obtain ⟨_, _, _, _, hsig⟩ := node_good hT hu
  exact lpsIdx_eq_of_walks (fun _ => Good.mirror.walk_isSome_iff (good_root hT))
    fun c hc => Or.inl (hsig c hc)

/-- What the transition loop reads of the tables, for a placement `ix` of the nodes of `P`. The
evaluated invariant provides it for `da.idx`, the layout of a built automaton for its own index
map. -/
structure TransSem (da : DA V) (P : List (LPat V)) (ix : List Nat → Nat) : Prop where
  root : ix [] = rootIdx
  nonroot : ∀ u ∈ nodeList P, u ≠ [] → ix u ≠ rootIdx
  child : ∀ u ∈ nodeList P, ∀ c, LabelOk da c →
    da.childL (ix u) c = .ok (if u ++ [c] ∈ nodeList P then some (ix (u ++ [c])) else none)
  fail : ∀ u ∈ nodeList P, u ≠ [] →
    ∃ st, da.st (ix u) = .ok st ∧ st.fail = ix (lps (nodeList P) u)

section
omit [DecidableEq V]

theorem child_eq_childL {da : DA V} {c cc : Nat} (hcc : da.code c = some cc) (i : Nat) :
    da.child i cc = da.childL i c := by
  rw [DA.childL, hcc]

/-- A label without a code leads to the root: no node ends in it, since the child lookup finds
nothing for it. -/
theorem lsuf_snoc_unmapped {da : DA V} {P : List (LPat V)} {ix : List Nat → Nat}
    (hchild : ∀ u ∈ nodeList P, ∀ c, LabelOk da c →
      da.childL (ix u) c = .ok (if u ++ [c] ∈ nodeList P then some (ix (u ++ [c])) else none))
    (u : List Nat) {c : Nat} (hcc : da.code c = none) : lsuf (nodeList P) (u ++ [c]) = [] := by
  have hN := nodeList_prefClosed P
  obtain ⟨a, b, _⟩ := lsuf_spec hN.nil_mem (u ++ [c])
  rcases List.suffix_concat_iff.1 a with h0 | ⟨w, hw, _⟩
  · exact h0
  · rw [hw] at b
    have hch := hchild w (hN.closed w c b) c (Or.inr hcc)
    rw [if_pos b, childL_of_code_none _ hcc] at hch
    cases hch

namespace TransSem
variable {da : DA V} {P : List (LPat V)} {ix : List Nat → Nat}

/-- `k + |t| ≤ |u| + 2` for the `k` iterations that lead from `u` to `t = lsuf N (u ++ [c])`: a
goto lengthens the node by one, every fail step shortens it. -/
theorem nextLoop_steps (h : TransSem da P ix) {c cc : Nat} (hc : LabelOk da c)
    (hcc : da.code c = some cc) :
    ∀ (fuel : Nat) (u : List Nat), u ∈ nodeList P → u.length < fuel → ∀ n,
      ∃ k, da.nextLoop fuel (ix u) cc n = .ok (ix (lsuf (nodeList P) (u ++ [c])), n + k) ∧
        1 ≤ k ∧ k + (lsuf (nodeList P) (u ++ [c])).length ≤ u.length + 2 := by
  have hN := nodeList_prefClosed P
  intro fuel
  induction fuel with
  | zero => exact fun u _ hl => absurd hl (Nat.not_lt_zero _)
  | succ fuel ih =>
    intro u hu hlen n
    rw [DA.nextLoop, child_eq_childL hcc, h.child u hu c hc]
    by_cases hm : u ++ [c] ∈ nodeList P
    · rw [if_pos hm, lsuf_mem_self hm hN.nil_mem, List.length_append]
      exact ⟨1, rfl, Nat.le_refl _, Nat.le_of_eq (Nat.add_comm _ _)⟩
    · rw [if_neg hm]
      by_cases hu0 : u = []
      · subst hu0
        rw [List.nil_append, lsuf_cons_of_not_mem hm, lsuf_nil, h.root]
        exact ⟨1, rfl, Nat.le_refl _, by decide⟩
      · obtain ⟨st, hst, hfail⟩ := h.fail u hu hu0
        obtain ⟨hv, hvl⟩ := lps_mem_lt (P := P) hu0
        obtain ⟨k, hk, _, hk2⟩ := ih _ hv (Nat.lt_of_lt_of_le hvl (Nat.le_of_lt_succ hlen)) (n + 1)
        simp only [if_neg (h.nonroot u hu hu0), hst, hfail, lsuf_fail hN u c hu0 hm, hk]
        refine ⟨k + 1, by rw [Nat.add_assoc, Nat.add_comm 1 k], Nat.le_add_left 1 k, ?_⟩
        rw [Nat.add_right_comm]
        exact Nat.succ_le_of_lt (Nat.lt_of_le_of_lt hk2 (Nat.add_lt_add_right hvl 2))

theorem nextS_steps (h : TransSem da P ix) (hD : ∀ u ∈ nodeList P, u.length < da.states.size)
    {u : List Nat} (hu : u ∈ nodeList P) {c : Nat} (hc : LabelOk da c) :
    ∃ k, da.nextS (ix u) c = .ok (ix (lsuf (nodeList P) (u ++ [c])), k) ∧
      (da.code c ≠ none → 1 ≤ k) ∧ k + (lsuf (nodeList P) (u ++ [c])).length ≤ u.length + 2 := by
  rw [DA.nextS]
  cases hcc : da.code c with
  | none =>
    rw [lsuf_snoc_unmapped h.child u hcc, h.root]
    exact ⟨0, rfl, fun hne => absurd rfl hne, Nat.zero_le _⟩
  | some cc =>
    obtain ⟨k, hk, hk1, hk2⟩ :=
      h.nextLoop_steps hc hcc da.fuel u hu (Nat.lt_succ_of_lt (hD u hu)) 0
    exact ⟨k, by simp only [hk, Nat.zero_add], fun _ => hk1, hk2⟩

theorem next_ok (h : TransSem da P ix) (hD : ∀ u ∈ nodeList P, u.length < da.states.size)
    {u : List Nat} (hu : u ∈ nodeList P) {c : Nat} (hc : LabelOk da c) :
    da.next (ix u) c = .ok (ix (lsuf (nodeList P) (u ++ [c]))) := by
  obtain ⟨k, hk, _⟩ := h.nextS_steps hD hu hc
  rw [DA.next, hk]
  rfl

end TransSem
end

theorem transSem_of_tableInv {da : DA V} {P : List (LPat V)} (hT : da.tableInv P = true) :
    TransSem da P da.idx where
  root := rfl
  nonroot u hu hu0 := by
    obtain ⟨j, hj, _, hjr, _⟩ := node_good hT hu
    exact idx_of_walk hj ▸ hjr hu0
  child := Good.mirror.child (good_root hT)
  fail u hu hu0 := by
    obtain ⟨j, hj, hg, _⟩ := node_good hT hu
    obtain ⟨st, hst, _, hfail, _⟩ := hg.unfold
    exact ⟨st, idx_of_walk hj ▸ hst, (hfail hu0).trans (lpsIdx_eq hT hu)⟩

theorem next_ok_of_tableInv {da : DA V} {P : List (LPat V)} (hT : da.tableInv P = true)
    (hD : maxKeyLen P < da.states.size) :
    ∀ u ∈ nodeList P, ∀ c, LabelOk da c →
      da.next (da.idx u) c = .ok (da.idx (lsuf (nodeList P) (u ++ [c]))) :=
  fun _ hu _ hc => (transSem_of_tableInv hT).next_ok
    (fun _ hu => Nat.lt_of_le_of_lt (node_length_le hu) hD) hu hc

theorem outOk_spec {da : DA V} {st : St} {R : List (LPat V)} (h : da.outOk st R = true) :
    ∃ fs, da.st st.fail = .ok fs ∧ (terminal R = none → st.opos = fs.opos) ∧
      ∀ p, terminal R = some p → ∃ o, da.out st.opos = .ok o ∧
        o.value = p.value ∧ o.length = p.blen ∧ o.parent = fs.opos := by
  unfold DA.outOk at h
  cases hfs : da.st st.fail with
  | error e => rw [hfs] at h; exact absurd h Bool.false_ne_true
  | ok fs =>
    rw [hfs] at h
    refine ⟨fs, rfl, fun ht => ?_, fun p ht => ?_⟩
    · rw [ht] at h
      exact eq_of_beq h
    · rw [ht] at h
      cases ho : da.out st.opos with
      | error e => rw [ho] at h; exact absurd h Bool.false_ne_true
      | ok o =>
        rw [ho] at h
        simp only [Bool.and_eq_true, decide_eq_true_eq, beq_iff_eq] at h
        exact ⟨o, rfl, h.1.1, h.1.2, h.2⟩

/-- By induction on the length of `u`: the chain of `u` is its own record, if a pattern ends at
`u`, followed by the chain of its fail state `lps u`, which lists the patterns that are proper
suffixes of `u`. -/
theorem chain_ok_of_tableInv {da : DA V} {P : List (LPat V)} (hkeys : (P.map (·.key)).Nodup)
    (hT : da.tableInv P = true) :
    ∀ (n : Nat) (u : List Nat), u.length ≤ n → u ∈ nodeList P → ∃ st, da.st (da.idx u) = .ok st ∧
      ChainIs da st.opos ((sufLPats P u).map (fun p => (p.value, p.blen))) := by
  intro n
  induction n with
  | zero =>
    intro u hlen hu
    obtain rfl : u = [] := List.eq_nil_of_length_eq_zero (Nat.le_zero.1 hlen)
    obtain ⟨st, hst, _, _, hroot, _⟩ := (good_root hT).unfold
    refine ⟨st, hst, ?_⟩
    rw [(hroot rfl).1, sufLPats_nil]
    exact ChainIs.nil
  | succ n ih =>
    intro u hlen hu
    cases u with
    | nil => exact ih [] (Nat.zero_le n) hu
    | cons a t =>
      have hu0 : a :: t ≠ [] := List.cons_ne_nil a t
      obtain ⟨j, hj, hg, _, _⟩ := node_good hT hu
      obtain ⟨st, hst, _, hfail, _, hout, _⟩ := hg.unfold
      obtain ⟨hv, hvl⟩ := lps_mem_lt (P := P) hu0
      obtain ⟨fs', hfs', hchain⟩ := ih _ (Nat.le_of_lt_succ (Nat.lt_of_lt_of_le hvl hlen)) hv
      obtain ⟨fs, hfs, hnone, hsome⟩ := outOk_spec (hout hu0)
      rw [hfail hu0, lpsIdx_eq hT hu, hfs'] at hfs
      cases hfs
      refine ⟨st, by rw [idx_of_walk hj]; exact hst, ?_⟩
      rw [sufLPats_cons, sufLPats_lsuf P t]
      cases hterm : terminal (resid P (a :: t)) with
      | none =>
        rw [terminal_resid_none hterm, List.nil_append, hnone hterm]
        exact hchain
      | some p =>
        obtain ⟨q, hq, hqb, hqv⟩ := terminal_resid_some hkeys hterm
        obtain ⟨o, ho, hov, hol, hop⟩ := hsome p hterm
        have hpos : st.opos ≠ 0 := by
          intro h0
          rw [h0] at ho
          cases ho
        rw [hq, List.singleton_append, List.map_cons, hqv, hqb, ← hov, ← hol]
        exact ChainIs.cons hpos ho (hop ▸ hchain)

/-- The hypotheses `_hP` and `_hne` are not used: the root clause of the invariant already
excludes empty keys from matching. -/
theorem stdSem_of_tableInv (da : DA V) (P : List (LPat V))
    (_hP : P ≠ []) (hkeys : (P.map (·.key)).Nodup) (_hne : ∀ p ∈ P, p.key ≠ [])
    (hT : da.tableInv P = true) (hD : maxKeyLen P < da.states.size) : StdSem da P where
  root := idx_nil da
  next_ok := next_ok_of_tableInv hT hD
  chain_ok := fun u hu => chain_ok_of_tableInv hkeys hT u.length u (Nat.le_refl _) hu

#print axioms stdSem_of_tableInv
#print axioms next_ok_of_tableInv
#print axioms chain_ok_of_tableInv

end Daac
