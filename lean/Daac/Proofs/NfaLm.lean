/-
(F): the fail links computed by the leftmost fail-link pass `buildFailMap t true`
(`build_fails_leftmost`, Model/Nfa.lean).  The link of a non-root node `u` is dead iff `u` contains a
pattern occurrence and the longest proper suffix of `u` that is a node starts after the start of
the leftmost-longest occurrence inside `u`; otherwise it is the ordinary link `lps N u`.
Core Lean only.
-/
import Daac.Proofs.NfaQueue
import Daac.Proofs.LmAbs
namespace Daac
variable {V : Type}

/-- The right-hand side of (F). -/
def lmF (P : List (LPat V)) (u : List Nat) : FailTo :=
  match bestIn P u 0 with
  | some (s, _) =>
    if u.length - (lps (nodeList P) u).length > s then .dead else .node (lps (nodeList P) u)
  | none => .node (lps (nodeList P) u)

def IsPat (P : List (LPat V)) (u : List Nat) : Prop := ∃ p ∈ P, p.key = u

/-- What the child loop of `failStepLm` for the entry `s` relies on. -/
structure GoodTab (P : List (LPat V)) (m : FailMap) (s : List Nat) : Prop where
  root : m.get [] = .node []
  self : m.get s = lmF P s
  shorter : ∀ f ∈ nodeList P, f ≠ [] → f.length < s.length → m.get f = lmF P f

/-- The child loop writes one level below everything it reads. -/
theorem GoodTab.insert {P : List (LPat V)} {m : FailMap} {s : List Nat} (hG : GoodTab P m s)
    {x : List Nat} (v : FailTo) (hx : x.length = s.length + 1) : GoodTab P (m.insert x v) s := by
  have hne : ∀ y : List Nat, y.length ≤ s.length → x ≠ y := by
    intro y hy e
    rw [e] at hx
    exact Nat.not_succ_le_self _ (hx ▸ hy)
  refine ⟨?_, ?_, ?_⟩
  · rw [FailMap.get_insert_ne _ _ (hne [] (Nat.zero_le _))]
    exact hG.root
  · rw [FailMap.get_insert_ne _ _ (hne s (Nat.le_refl _))]
    exact hG.self
  · intro f hf hf0 hfl
    rw [FailMap.get_insert_ne _ _ (hne f (Nat.le_of_lt hfl))]
    exact hG.shorter f hf hf0 hfl

section
variable {t : Trie V} {P : List (LPat V)} {pre post : List (List Nat)} {u s : List Nat}
  {m : FailMap}

/-- (F) case by case in terms of `bestIn`: the link is dead and the best occurrence starts before
`lps u`, or the link is `lps u` and the best occurrence (if any) starts inside it. -/
theorem lmF_cases_best (P : List (LPat V)) (u : List Nat) :
    (lmF P u = .dead ∧
      ∃ s p, bestIn P u 0 = some (s, p) ∧ u.length - (lps (nodeList P) u).length > s) ∨
    (lmF P u = .node (lps (nodeList P) u) ∧
      ∀ s p, bestIn P u 0 = some (s, p) → u.length - (lps (nodeList P) u).length ≤ s) := by
  unfold lmF
  cases hbu : bestIn P u 0 with
  | none => exact Or.inr ⟨rfl, fun s p h => nomatch h⟩
  | some r =>
    obtain ⟨s, p⟩ := r
    by_cases hd : u.length - (lps (nodeList P) u).length > s
    · exact Or.inl ⟨if_pos hd, s, p, rfl, hd⟩
    · refine Or.inr ⟨if_neg hd, fun s' p' h => ?_⟩
      cases h
      exact Nat.le_of_not_lt hd

/-- The same in terms of occurrences: every occurrence starts no earlier than the best one. -/
theorem lmF_cases (P : List (LPat V)) (u : List Nat) :
    (lmF P u = .dead ∧ ∃ b q, Occ P u b q ∧ b < u.length - (lps (nodeList P) u).length) ∨
    (lmF P u = .node (lps (nodeList P) u) ∧
      ∀ b q, Occ P u b q → u.length - (lps (nodeList P) u).length ≤ b) := by
  rcases lmF_cases_best P u with ⟨hd, s, p, hbu, hlt⟩ | ⟨hn, hb⟩
  · obtain ⟨s', hs', hB⟩ := bestIn_some_spec hbu
    rw [Nat.zero_add] at hs'
    exact Or.inl ⟨hd, s, p, hs' ▸ hB.occ, hlt⟩
  · refine Or.inr ⟨hn, fun b q ho => ?_⟩
    cases hbu : bestIn P u 0 with
    | none => exact absurd ho (bestIn_none_spec hbu b q)
    | some r =>
      obtain ⟨k, p⟩ := r
      obtain ⟨s, hk, hB⟩ := bestIn_some_spec hbu
      rw [Nat.zero_add] at hk
      exact Nat.le_trans (hb k p hbu) (hk ▸ Nat.le_of_not_lt fun h => hB.left b q h ho)

theorem lmF_dead {b : Nat} {q : LPat V} (ho : Occ P u b q)
    (hb : b < u.length - (lps (nodeList P) u).length) : lmF P u = .dead := by
  rcases lmF_cases P u with ⟨hd, _⟩ | ⟨_, hall⟩
  · exact hd
  · exact absurd hb (Nat.not_lt.mpr (hall b q ho))

theorem lmF_node (h : ∀ b q, Occ P u b q → u.length - (lps (nodeList P) u).length ≤ b) :
    lmF P u = .node (lps (nodeList P) u) := by
  rcases lmF_cases P u with ⟨_, b, q, ho, hb⟩ | ⟨hn, _⟩
  · exact absurd hb (Nat.not_lt.mpr (h b q ho))
  · exact hn

theorem lmF_pat (hne : ∀ p ∈ P, p.key ≠ []) (h : IsPat P u) : lmF P u = .dead := by
  obtain ⟨p, hp, rfl⟩ := h
  have ho : Occ P p.key 0 p := ⟨hp, hne p hp, List.prefix_refl _⟩
  exact lmF_dead ho (Nat.sub_pos_of_lt (lps_length_lt P (hne p hp)))

theorem occ_start_lt {x : List Nat} {k : Nat} {q : LPat V} (h : Occ P x k q) : k < x.length :=
  Nat.lt_of_lt_of_le (Nat.lt_add_of_pos_right (List.length_pos_iff.2 h.2.1)) (occ_length h)

/-- An occurrence inside a non-pattern `s ++ [c]` lies inside `s` or starts inside the longest
proper suffix of `s ++ [c]` that is a node. -/
theorem occ_snoc_lps {c k : Nat} {q : LPat V} (hnp : ¬ IsPat P (s ++ [c]))
    (h : Occ P (s ++ [c]) k q) :
    Occ P s k q ∨ (s ++ [c]).length - (lps (nodeList P) (s ++ [c])).length ≤ k := by
  by_cases hfit : k + q.key.length ≤ s.length
  · exact Or.inl (occ_of_append h hfit)
  · right
    -- the occurrence reaches the last label
    have hl := occ_length h
    have he : k + q.key.length = (s ++ [c]).length := by
      rw [List.length_append] at hl ⊢
      exact Nat.le_antisymm hl (Nat.lt_of_not_le hfit)
    exact lps_start_le_of_key_drop P h.1 h.2.2 he fun e => hnp ⟨q, h.1, e⟩

theorem lmF_snoc_node {c : Nat} (hnp : ¬ IsPat P (s ++ [c]))
    (hno : ∀ k q, Occ P s k q → (s ++ [c]).length - (lps (nodeList P) (s ++ [c])).length ≤ k) :
    lmF P (s ++ [c]) = .node (lps (nodeList P) (s ++ [c])) :=
  lmF_node fun k q ho => (occ_snoc_lps hnp ho).elim (hno k q) id

theorem lmF_snoc_dead {c b : Nat} {q : LPat V} (ho : Occ P s b q)
    (hb : b < s.length + 1 - (lps (nodeList P) (s ++ [c])).length) :
    lmF P (s ++ [c]) = .dead :=
  lmF_dead (occ_append_right ho [c]) (by rwa [List.length_append, List.length_singleton])

/-- The inner loop of `build_fails_leftmost` for the (non-pattern) child `s ++ [c]`, at a node `f`
with `s = v ++ f`, `v ≠ []`, below which the longest proper suffix of `s ++ [c]` lies and before
which nothing occurs in `s`: it returns the value (F) of the child. -/
theorem failWalkLm_char (hS : TrieSem t P) (m : FailMap) (s : List Nat) (c : Nat)
    (hnp : ¬ IsPat P (s ++ [c])) (hm0 : m.get [] = .node [])
    (hm : ∀ f ∈ nodeList P, f ≠ [] → f.length < s.length → m.get f = lmF P f) :
    ∀ fuel v f, f.length < fuel → s = v ++ f → v ≠ [] → f ∈ nodeList P →
      lsuf (nodeList P) (f ++ [c]) = lps (nodeList P) (s ++ [c]) →
      (∀ k q, Occ P s k q → v.length ≤ k) →
      failWalkLm t m fuel f c = lmF P (s ++ [c]) := by
  have hN := nodeList_prefClosed P
  intro fuel
  induction fuel with
  | zero => intro v f h; exact absurd h (Nat.not_lt_zero _)
  | succ fuel ih =>
    intro v f hfuel hs hv hfN hL hno
    have hsl : s.length = v.length + f.length := by rw [hs, List.length_append]
    rw [failWalkLm]
    by_cases hc : t.hasNode (f ++ [c]) = true
    · -- `f ++ [c]` is the ordinary link of the child, and it starts where `f` starts in `s`
      have hlw : lps (nodeList P) (s ++ [c]) = f ++ [c] := by
        rw [← hL, lsuf_mem_self ((hS.nodes _).1 hc) hN.nil_mem]
      rw [if_pos hc, ← hlw]
      refine (lmF_snoc_node hnp fun k q ho => ?_).symm
      rw [hlw, List.length_append, List.length_append, List.length_singleton,
        Nat.add_sub_add_right, hsl, Nat.add_sub_cancel]
      exact hno k q ho
    · rw [if_neg hc]
      have hcN : f ++ [c] ∉ nodeList P := fun h => hc ((hS.nodes _).2 h)
      by_cases hf : f = []
      · -- at the root: the child's ordinary link is the root and nothing occurs in `s` at all
        subst hf
        have hlw : lps (nodeList P) (s ++ [c]) = [] := by
          rw [← hL]; exact lsuf_singleton_of_not_mem hN.nil_mem hcN
        rw [hm0]
        simp only [and_self, if_true]
        refine ((lmF_snoc_node hnp fun k q ho => ?_).trans (congrArg FailTo.node hlw)).symm
        exact absurd (occ_start_lt ho) (Nat.not_lt.mpr (hsl ▸ hno k q ho))
      · rw [hm f hfN hf (hsl ▸ Nat.lt_add_of_pos_left (List.length_pos_iff.2 hv))]
        have hlf := lps_length_lt P hf
        have hfail := lsuf_fail hN f c hf hcN
        rcases lmF_cases P f with ⟨hd, b, q, ho, hb⟩ | ⟨hn, hno'⟩
        · -- an occurrence in `f` before the link of `f` lies before the link of the child
          rw [hd]
          have ho' : Occ P s (v.length + b) q := hs ▸ occ_append_left.2 ho
          have hle : (lps (nodeList P) (s ++ [c])).length ≤ (lps (nodeList P) f).length + 1 := by
            rw [← hL, hfail]
            have := (lsuf_spec hN.nil_mem (lps (nodeList P) f ++ [c])).1.length_le
            rwa [List.length_append] at this
          refine (lmF_snoc_dead ho' (Nat.lt_of_lt_of_le (Nat.add_lt_add_left hb _) ?_)).symm
          rw [← Nat.add_sub_assoc (Nat.le_of_lt hlf), ← hsl]
          exact sub_le_add_one_sub hle
        · rw [hn]
          simp only
          rw [if_neg (fun h => hf h.1)]
          obtain ⟨v', hv', hvl'⟩ := suffix_decomp (lps_suffix P f)
          refine ih (v ++ v') _ (Nat.lt_of_lt_of_le hlf (Nat.le_of_lt_succ hfuel))
            (by rw [List.append_assoc, ← hv', hs]) (fun h => hv (List.append_eq_nil_iff.1 h).1)
            (lps_mem P f) (by rw [← hfail, hL]) ?_
          intro k q ho
          obtain ⟨k', rfl⟩ : ∃ k', k = v.length + k' :=
            ⟨k - v.length, (Nat.add_sub_cancel' (hno k q ho)).symm⟩
          rw [hs] at ho
          rw [List.length_append, hvl']
          exact Nat.add_le_add_left (hno' k' q (occ_append_left.1 ho)) _

theorem hasOutput_iff (hS : TrieSem t P) (u : List Nat) :
    t.hasOutput u = true ↔ IsPat P u := by
  have h1 : t.hasOutput u = ((t.walk u).bind Trie.out).isSome := by
    unfold Trie.hasOutput
    cases t.walk u <;> simp
  rw [h1, hS.outs u]
  simp [IsPat]

/-- The body of the child loop of `failStepLm`. -/
def lmChildStep (t : Trie V) (s : List Nat) (m : FailMap) (child : List Nat) : FailMap :=
  match m.get s, child.getLast? with
  | .dead, _ => m.insert child .dead
  | .node f, some c => m.insert child (failWalkLm t m (s.length + 2) f c)
  | _, none => m

theorem failStepLm_eq (t : Trie V) (m : FailMap) (s : List Nat) :
    failStepLm t m s =
      (t.childPaths s).foldl (lmChildStep t s) (if t.hasOutput s then m.insert s .dead else m) :=
  rfl

theorem lmChildStep_spec (hS : TrieSem t P) {c : Nat} (hs0 : s ≠ []) (hG : GoodTab P m s) :
    ∃ v, lmChildStep t s m (s ++ [c]) = m.insert (s ++ [c]) v ∧
      (¬ IsPat P (s ++ [c]) → v = lmF P (s ++ [c])) := by
  unfold lmChildStep
  rw [hG.self, List.getLast?_concat]
  have hlt := lps_length_lt P hs0
  rcases lmF_cases P s with ⟨hd, b, q, ho, hb⟩ | ⟨hn, hno⟩
  · -- children of a dead-failing node fail to the dead state
    rw [hd]
    exact ⟨.dead, rfl, fun _ =>
      (lmF_snoc_dead ho (Nat.lt_of_lt_of_le hb (lps_start_snoc_le P hs0 c))).symm⟩
  · rw [hn]
    obtain ⟨v, hv, hvl⟩ := suffix_decomp (lps_suffix P s)
    refine ⟨_, rfl, fun hnp => ?_⟩
    refine failWalkLm_char hS m s c hnp hG.root hG.shorter _ v _ (Nat.lt_add_right 2 hlt) hv
      (List.ne_nil_of_length_pos (hvl ▸ Nat.sub_pos_of_lt hlt)) (lps_mem P s)
      (lps_snoc P hs0 c).symm ?_
    intro k q ho
    rw [hvl]
    exact hno k q ho

theorem foldl_lmChildStep (hS : TrieSem t P) (hs0 : s ≠ []) :
    ∀ (cs : List (List Nat)) (m : FailMap), (∀ x ∈ cs, ∃ c, x = s ++ [c]) → GoodTab P m s →
      GoodTab P (cs.foldl (lmChildStep t s) m) s ∧
      (∀ x, x ∉ cs → FailMap.get (cs.foldl (lmChildStep t s) m) x = m.get x) ∧
      (∀ x ∈ cs, ¬ IsPat P x → FailMap.get (cs.foldl (lmChildStep t s) m) x = lmF P x) := by
  intro cs
  induction cs with
  | nil => intro m _ hG; exact ⟨hG, fun _ _ => rfl, fun _ h => absurd h List.not_mem_nil⟩
  | cons a cs ih =>
    intro m hcs hG
    obtain ⟨c, rfl⟩ := hcs _ List.mem_cons_self
    obtain ⟨v, hv, hvF⟩ := lmChildStep_spec (c := c) hS hs0 hG
    obtain ⟨h1, h2, h3⟩ := ih (m.insert (s ++ [c]) v)
      (fun x hx => hcs x (List.mem_cons_of_mem _ hx)) (hG.insert v (by simp))
    rw [List.foldl_cons, hv]
    refine ⟨h1, ?_, ?_⟩
    · intro x hx
      rw [List.mem_cons, not_or] at hx
      rw [h2 x hx.2, FailMap.get_insert_ne _ _ (fun h => hx.1 h.symm)]
    · intro x hx hnp
      by_cases hxc : x ∈ cs
      · exact h3 x hxc hnp
      · -- a later insertion does not touch `x = s ++ [c]`
        have hxa : x = s ++ [c] := (List.mem_cons.1 hx).resolve_right hxc
        rw [h2 x hxc, hxa, FailMap.get_insert_self]
        exact hvF (hxa ▸ hnp)

/-- Invariant of the fold over the queue, `pre` = entries processed so far: the root never gets an
entry; a processed entry has its final link; an unprocessed non-pattern node whose parent is
processed (or which has depth 1) already has its final link. -/
structure LmInv (P : List (LPat V)) (pre : List (List Nat)) (m : FailMap) : Prop where
  root : m.get [] = .node []
  main : ∀ u ∈ nodeList P, u ≠ [] →
    (u ∈ pre ∨ (¬ IsPat P u ∧ (u.length = 1 ∨ u.dropLast ∈ pre))) → m.get u = lmF P u

theorem lmInv_init (P : List (LPat V)) : LmInv P [] ({} : FailMap) := by
  refine ⟨FailMap.get_empty [], ?_⟩
  rintro u _ _ (h | ⟨hnp, h | h⟩)
  · exact absurd h List.not_mem_nil
  · -- a non-pattern node of depth 1 keeps the default link: nothing occurs in the empty string
    obtain ⟨a, rfl⟩ : ∃ a, u = [a] := by
      match u, h with
      | [a], _ => exact ⟨a, rfl⟩
    rw [FailMap.get_empty]
    exact ((lmF_snoc_node (s := []) hnp fun k q ho =>
      absurd (occ_start_lt ho) (Nat.not_lt_zero _)).trans
        (congrArg FailTo.node (lps_eq_nil_of_length_le_one (Nat.le_refl 1)))).symm
  · exact absurd h List.not_mem_nil

/-- The table after the pattern-end assignment for the entry `s` is what the child loop needs. -/
theorem LmInv.goodTab (hS : TrieSem t P) (hq : t.queue = pre ++ s :: post) (hI : LmInv P pre m) :
    GoodTab P (if t.hasOutput s then m.insert s .dead else m) s := by
  obtain ⟨hsn, hs0⟩ := Trie.queue_split_mem t hq
  have hshort : ∀ f ∈ nodeList P, f ≠ [] → f.length < s.length → m.get f = lmF P f :=
    fun f hf hf0 hfl => hI.main f hf hf0
      (Or.inl (Trie.queue_split_shorter t hq f ((hS.nodes f).2 hf) hf0 hfl))
  by_cases ho : t.hasOutput s = true
  · rw [if_pos ho]
    refine ⟨?_, ?_, ?_⟩
    · rw [FailMap.get_insert_ne _ _ hs0]
      exact hI.root
    · rw [FailMap.get_insert_self, lmF_pat hS.nonempty ((hasOutput_iff hS s).1 ho)]
    · intro f hf hf0 hfl
      rw [FailMap.get_insert_ne _ _ (fun h => Nat.lt_irrefl _ (h ▸ hfl))]
      exact hshort f hf hf0 hfl
  · rw [if_neg ho]
    refine ⟨hI.root, hI.main s ((hS.nodes s).1 hsn) hs0 (Or.inr ⟨?_, ?_⟩), hshort⟩
    · exact fun h => ho ((hasOutput_iff hS s).2 h)
    · by_cases h1 : s.length ≤ 1
      · exact Or.inl (Nat.le_antisymm h1 (List.length_pos_iff.2 hs0))
      · exact Or.inr (Trie.parent_mem_pre t hq hsn (Nat.lt_of_not_le h1) (Nat.le_refl _)).1

theorem lmInv_step (hS : TrieSem t P) (hq : t.queue = pre ++ s :: post)
    (hI : LmInv P pre m) : LmInv P (pre ++ [s]) (failStepLm t m s) := by
  have hs0 := (Trie.queue_split_mem t hq).2
  have hcs : ∀ x ∈ t.childPaths s, ∃ c, x = s ++ [c] := fun x hx =>
    let ⟨c, hc, _⟩ := (Trie.mem_childPaths t s x).1 hx; ⟨c, hc⟩
  obtain ⟨hG', hout, hin⟩ :=
    foldl_lmChildStep hS hs0 (t.childPaths s) _ hcs (hI.goodTab hS hq)
  rw [failStepLm_eq]
  refine ⟨hG'.root, fun u hu hu0 hcond => ?_⟩
  by_cases hus : u = s
  · exact hus ▸ hG'.self
  have hpre : ∀ {x : List Nat}, x ≠ s → x ∈ pre ++ [s] → x ∈ pre := fun hx h =>
    (List.mem_append.1 h).resolve_right fun h' => hx (List.mem_singleton.1 h')
  by_cases huc : u ∈ t.childPaths s
  · -- a child of `s` is deeper than every processed entry, so it is an unprocessed non-pattern
    rcases hcond with h | ⟨hnp, _⟩
    · obtain ⟨c, rfl⟩ := hcs _ huc
      have := Trie.queue_split_pre_le t hq _ (hpre hus h)
      rw [List.length_append, List.length_singleton] at this
      exact absurd this (Nat.not_succ_le_self _)
    · exact hin u huc hnp
  · -- everything else is untouched and was final already
    have hm1 : FailMap.get (if t.hasOutput s then m.insert s .dead else m) u = m.get u := by
      split
      · exact FailMap.get_insert_ne _ _ (fun h => hus h.symm)
      · rfl
    rw [hout u huc, hm1]
    refine hI.main u hu hu0 ?_
    rcases hcond with h | ⟨hnp, h | h⟩
    · exact Or.inl (hpre hus h)
    · exact Or.inr ⟨hnp, Or.inl h⟩
    · refine Or.inr ⟨hnp, Or.inr (hpre (fun hd => huc ?_) h)⟩
      exact hd ▸ Trie.mem_childPaths_dropLast t ((hS.nodes u).2 hu) hu0

theorem buildFailMap_lm_eq (t : Trie V) :
    buildFailMap t true = t.queue.foldl (failStepLm t) {} := by
  unfold buildFailMap
  simp

theorem buildFailMap_lm_inv (hS : TrieSem t P) : LmInv P t.queue (buildFailMap t true) := by
  rw [buildFailMap_lm_eq]
  exact Trie.queue_foldl_inv t (fun hq hI => lmInv_step hS hq hI) t.queue [] {} rfl (lmInv_init P)

theorem failLm_char (hS : TrieSem t P) :
    ∀ u, u ∈ nodeList P → u ≠ [] → (buildFailMap t true).get u = lmF P u :=
  fun u hu hu0 => (buildFailMap_lm_inv hS).main u hu hu0
    (Or.inl ((Trie.mem_queue t u).2 ⟨(hS.nodes u).2 hu, hu0⟩))

end

end Daac

#print axioms Daac.failLm_char
