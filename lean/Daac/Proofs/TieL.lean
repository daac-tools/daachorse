/-
Translation tie, construction side, part 2: array growth, BASE search and CHECK sanitising of both
builders as GENERATED from /repo's `src/bytewise/builder.rs` and `src/charwise/builder.rs`
(`Daac/Gen/LayoutB.lean`, `LayoutC.lean`) equal the corresponding functions of the hand-written
layout model (Daac/Model/Build.lean: `baseOk`, `findBase`, `removeInvalidChecks`, `extendArray`,
and the initialisation prefix of `buildLayout`), through `Tie.H.repr` and up to panic texts.
-/
import Daac.Proofs.TieH
import Daac.Gen.LayoutB
import Daac.Gen.LayoutC
namespace Daac.Tie.L
open Daac Daac.Gen
open Daac.Tie.H (Wf norm norm_cases norm_cases' norm_ok norm_panic)

/-- The initialisation prefix of `buildLayout` (Model/Build.lean): helper with one block, root and
dead slots taken, one block of default elements. -/
def initModel (v : Variant) (blockLen nfb : Nat) : Except BuildErr (Array St × Helper) :=
  match Helper.new blockLen nfb with
  | .error e => .error e
  | .ok h0 =>
    match h0.pushBlock with
    | .error _ => .error (.panic "push_block().unwrap()")
    | .ok h1 =>
      match h1.useIndex rootIdx with
      | .error e => .error e
      | .ok h2 =>
        match h2.useIndex deadIdx with
        | .error e => .error e
        | .ok h3 => .ok (Array.replicate blockLen (stDefault v), h3)

theorem nonZero_isSome (b : Nat) : (Rs.nonZero b).isSome = (true && b != 0) := by
  unfold Rs.nonZero
  by_cases h : b = 0 <;> simp [h]

theorem nonZero_some (x p : Nat) : Rs.nonZero x = some p ↔ (x ≠ 0 ∧ p = x) := by
  unfold Rs.nonZero
  by_cases h : x = 0
  · rw [if_pos h]; exact ⟨fun k => (nomatch k), fun k => absurd h k.1⟩
  · rw [if_neg h]; exact ⟨fun k => ⟨h, (Option.some.inj k).symm⟩, fun k => by rw [k.2]⟩

def ctlOpt {σ : Type} (c : Ctl Nat σ) : Option Nat :=
  match c with
  | .ret b => some b
  | .done _ => none

theorem modify_eq_set (a : Array St) (i : Nat) (h : i < a.size) (f : St → St) :
    a.modify i f = a.setIfInBounds i (f a[i]) := by
  apply Array.ext_getElem?; intro k
  simp only [Array.getElem?_modify, Array.getElem?_setIfInBounds]
  by_cases hk : i = k
  · subst hk; simp [h]
  · simp [hk]

theorem index_setSt (a : Array St) (i c : Nat) :
    (∃ el, Rs.index a i = .ok el ∧
      setSt a i (fun s => { s with check := c }) = .ok (a.setIfInBounds i { el with check := c })) ∨
    (∃ s1 s2, Rs.index a i = .error (.panic s1) ∧
      setSt a i (fun s => { s with check := c }) = .error (.panic s2)) := by
  by_cases h : i < a.size
  · left
    refine ⟨a[i], by simp [Rs.index, h], ?_⟩
    simp only [setSt, h, if_true, modify_eq_set a i h]
  · right
    refine ⟨"index out of bounds", "states[i]: index out of bounds", ?_, ?_⟩
    · simp [Rs.index, h]
    · simp only [setSt, h, if_false]

theorem resize_add {α : Type} (a : Array α) (n : Nat) (v : α) :
    Rs.resize a (a.size + n) v = a ++ Array.replicate n v := by
  simp [Rs.resize]

theorem resize_empty {α : Type} (n : Nat) (v : α) :
    Rs.resize (#[] : Array α) n v = Array.replicate n v := by
  simp [Rs.resize]

/-- The helper part of `init_array` (identical in both builders). -/
def genInit (bl nfb : Nat) : Except BuildErr Gen.H.BuildHelper :=
  match Gen.H.BuildHelper.new bl nfb with
  | .error e => .error e
  | .ok r1 =>
    match Gen.H.BuildHelper.push_block r1 with
    | .error _ => .error (.panic "push_block().unwrap()")
    | .ok (_, s3) =>
      match Gen.H.BuildHelper.use_index s3 Gen.rootStateIdx with
      | .error e => .error e
      | .ok (_, s5) =>
        match Gen.H.BuildHelper.use_index s5 Gen.deadStateIdx with
        | .error e => .error e
        | .ok (_, s7) => .ok s7

theorem genInit_eq (v : Variant) (bl nfb : Nat) (a : Array St) (ha : a = Array.replicate bl (stDefault v)) :
    norm ((genInit bl nfb).map (fun h => (a, H.repr h))) = norm (initModel v bl nfb) := by
  unfold genInit initModel
  have hroot : rootIdx = Gen.rootStateIdx := rfl
  have hdead : deadIdx = Gen.deadStateIdx := rfl
  rw [hroot, hdead]
  rcases norm_cases _ _ _ (H.new_eq bl nfb) with ⟨g0, h1, h2⟩ | ⟨e1, e2, h1, h2, h3⟩
  · rw [h1, h2]
    dsimp only
    have w0 := H.new_wf bl nfb g0 h1
    rcases norm_cases _ _ _ (H.push_block_eq g0 w0) with ⟨⟨u1, g1⟩, k1, k2⟩ | ⟨e1, e2, k1, k2, k3⟩
    · rw [k1, k2]
      dsimp only
      have w1 : Wf g1 := H.wf_of_size w0 (H.push_block_size w0 k1)
      rcases norm_cases _ _ _ (H.use_index_eq g1 w1 Gen.rootStateIdx) with ⟨⟨u2, g2⟩, m1, m2⟩ | ⟨e1, e2, m1, m2, m3⟩
      · rw [m1, m2]
        dsimp only
        have w2 : Wf g2 := H.wf_of_size w1 (H.use_index_size w1 m1)
        rcases norm_cases _ _ _ (H.use_index_eq g2 w2 Gen.deadStateIdx) with ⟨⟨u3, g3⟩, n1, n2⟩ | ⟨e1, e2, n1, n2, n3⟩
        · rw [n1, n2, ha]; rfl
        · rw [n1, n2]; exact n3 _
      · rw [m1, m2]; exact m3 _
    · rw [k1, k2]; rfl
  · rw [h1, h2]; exact h3 _

/-- The vacant-list loop of `find_base` for either builder: `L` is the translated loop, `chk` its
test of a candidate BASE, `c0` the first code. -/
theorem fb_loop_of_check (v : Variant) (g : Gen.H.BuildHelper) (c0 : Nat) (codes : List Nat)
    (chk : Nat → Except BuildErr (Option Nat))
    (hchk : ∀ b, norm ((chk b).map Option.isSome) = norm (baseOk v (H.repr g) b codes))
    (hval : ∀ b x, chk b = .ok (some x) → x = b)
    (L : Nat → Gen.H.VacantIter → Except BuildErr (Ctl Nat Gen.H.VacantIter))
    (hL : ∀ n it, L (n + 1) it =
      match Gen.H.VacantIter.next it with
      | .error e => .error e
      | .ok (none, it') => .ok (.done it')
      | .ok (some i, it') =>
        match chk (i ^^^ c0) with
        | .error e => .error e
        | .ok (some b) => .ok (.ret b)
        | .ok none => L n it') :
    ∀ (fuel : Nat) (it : Gen.H.VacantIter) (vac : List Nat),
    H.genVacantFrom fuel it = .ok vac → vac.length < fuel →
    norm ((L fuel it).map ctlOpt) = norm (findBaseIn v (H.repr g) c0 codes vac) := by
  intro fuel
  induction fuel with
  | zero => intro it vac _ h; cases h
  | succ n ih =>
    intro it vac hg hlen
    unfold H.genVacantFrom at hg
    rw [hL]
    cases hn : Gen.H.VacantIter.next it with
    | error e => rw [hn] at hg; cases hg
    | ok p =>
      obtain ⟨o, it'⟩ := p
      rw [hn] at hg
      cases o with
      | none =>
        cases hg
        rfl
      | some i =>
        dsimp only at hg ⊢
        cases hr : H.genVacantFrom n it' with
        | error e => rw [hr] at hg; cases hg
        | ok l =>
          rw [hr] at hg
          cases hg
          unfold findBaseIn
          rcases norm_cases _ _ _ (hchk (i ^^^ c0)) with ⟨a, h1, h2⟩ | ⟨e1, e2, h1, h2, h3⟩
          · rw [h1, h2]
            cases a with
            | none => exact ih it' l hr (by simpa using hlen)
            | some x =>
              cases hval _ x h1
              rfl
          · rw [h1, h2]; exact h3 _

namespace B

theorem cvb_loop (g : Gen.H.BuildHelper) (hw : Wf g) (base : Nat) : ∀ labels : List Nat,
    (∃ e1 e2, Gen.LB.Builder.check_valid_base.loop0 base g labels = .error e1 ∧
        allUnused (H.repr g) base labels = .error e2 ∧
        ∀ γ : Type, norm (.error e1 : Except BuildErr γ) = norm (.error e2)) ∨
    (Gen.LB.Builder.check_valid_base.loop0 base g labels = .ok (.ret none) ∧
        allUnused (H.repr g) base labels = .ok false) ∨
    (Gen.LB.Builder.check_valid_base.loop0 base g labels = .ok (.done ()) ∧
        allUnused (H.repr g) base labels = .ok true) := by
  intro labels
  induction labels with
  | nil => right; right; exact ⟨rfl, rfl⟩
  | cons c rest ih =>
    unfold Gen.LB.Builder.check_valid_base.loop0 allUnused
    dsimp only
    rcases norm_cases' _ _ (H.is_used_index_eq g hw (base ^^^ c)) with ⟨r, h1, h2⟩ | ⟨e1, e2, h1, h2, h3⟩
    · rw [h1, h2]
      cases r
      · exact ih
      · right; left; exact ⟨rfl, rfl⟩
    · rw [h1, h2]
      left; exact ⟨e1, e2, rfl, rfl, h3⟩

theorem check_valid_base_eq (g : Gen.H.BuildHelper) (hw : Wf g) (base : Nat) (labels : List Nat) :
    norm ((Gen.LB.Builder.check_valid_base base labels g).map Option.isSome)
      = norm (baseOk .bytewise (H.repr g) base labels) := by
  unfold Gen.LB.Builder.check_valid_base baseOk
  rcases norm_cases' _ _ (H.is_used_base_eq g hw base) with ⟨r, h1, h2⟩ | ⟨e1, e2, h1, h2, h3⟩
  · simp only [h1, h2]
    cases r
    · rcases cvb_loop g hw base labels with ⟨e1, e2, k1, k2, k3⟩ | ⟨k1, k2⟩ | ⟨k1, k2⟩
      · simp only [k1, k2]; exact k3 _
      · simp only [k1, k2]; rfl
      · simp only [k1, k2, Bool.false_eq_true, if_false, Except.map, nonZero_isSome]
    · rfl
  · simp only [h1, h2]; exact h3 _

theorem check_valid_base_val (g : Gen.H.BuildHelper) (hw : Wf g) (base : Nat) (labels : List Nat) (x : Nat)
    (h : Gen.LB.Builder.check_valid_base base labels g = .ok (some x)) : x = base := by
  unfold Gen.LB.Builder.check_valid_base at h
  split at h
  · cases h
  · split at h
    · cases h
    · rcases cvb_loop g hw base labels with ⟨e1, e2, k1, -, -⟩ | ⟨k1, -⟩ | ⟨k1, -⟩ <;> rw [k1] at h
      · cases h
      · cases h
      · exact ((nonZero_some _ _).1 (Except.ok.inj h)).2

theorem fb_loop (g : Gen.H.BuildHelper) (hw : Wf g) (c0 : Nat) (rest : List Nat) :
    ∀ (fuel : Nat) (it : Gen.H.VacantIter) (vac : List Nat),
    H.genVacantFrom fuel it = .ok vac → vac.length < fuel →
    norm ((Gen.LB.Builder.find_base.loop0 (c0 :: rest) g fuel it).map ctlOpt)
      = norm (findBaseIn .bytewise (H.repr g) c0 (c0 :: rest) vac) := by
  refine fb_loop_of_check .bytewise g c0 (c0 :: rest) (Gen.LB.Builder.check_valid_base · (c0 :: rest) g)
    (check_valid_base_eq g hw · _) (check_valid_base_val g hw · _) _ fun n it => ?_
  rw [Gen.LB.Builder.find_base.loop0]
  cases Gen.H.VacantIter.next it with
  | error e => rfl
  | ok p =>
    obtain ⟨o, it'⟩ := p
    cases o with
    | none => rfl
    | some i =>
      dsimp only [Rs.indexL, List.getElem?_cons_zero]
      cases Gen.LB.Builder.check_valid_base (i ^^^ c0) (c0 :: rest) g with
      | error e => rfl
      | ok r => cases r <;> rfl

/-- `find_base`: under a vacant list that can be walked without a panic (`hv`; the generated code
walks it lazily, the model first collects it), a non-empty label list, and a non-empty array that
fits `u32`.  `hlen`: the collected walk is not longer than the capacity.  The model's
`vacant` truncates silently after `cap + 1` items while the generated loop panics when its fuel
`cap + 1` runs out, and it needs one unit of fuel beyond the walk to see `None`; `hlen` holds for
every linked helper (`Helper.LL.length_le`). -/
theorem find_base_eq (b : Gen.LB.Builder) (g : Gen.H.BuildHelper) (hw : Wf g)
    (idx : Std.HashMap (List Nat) Nat) (labels : List Nat) (hl : labels ≠ [])
    (vac : List Nat) (hv : (H.repr g).vacant = .ok vac) (hlen : vac.length ≤ g.items.size)
    (hs : 0 < b.states.size ∧ b.states.size ≤ 4294967295) :
    norm (Gen.LB.Builder.find_base b labels g) = norm (findBase .bytewise ⟨b.states, H.repr g, idx⟩ labels) := by
  have hgv : H.genVacantFrom (g.items.size + 1) (Gen.H.BuildHelper.vacant_iter g) = .ok vac :=
    H.eq_ok_of_norm ((H.vacant_eq g hw).trans (congrArg norm hv))
  obtain ⟨c0, rest, rfl⟩ := List.exists_cons_of_ne_nil hl
  unfold Gen.LB.Builder.find_base findBase
  dsimp only
  rw [hv]
  dsimp only [List.headD_cons]
  rcases norm_cases _ _ _ (fb_loop g hw c0 rest _ _ vac hgv (Nat.lt_succ_of_le hlen)) with
    ⟨c, h1, h2⟩ | ⟨e1, e2, h1, h2, h3⟩
  · rw [h1, h2]
    cases c with
    | ret r => rfl
    | done it =>
      have hnz := (nonZero_some _ _).2 ⟨Nat.ne_of_gt hs.1, rfl⟩
      simp only [ctlOpt, Rs.u32TryFromUnwrap, Rs.u32Max_eq, hs.2, if_true, hnz]
  · rw [h1, h2]; exact h3 _
theorem ric_loop (g : Gen.H.BuildHelper) (hw : Wf g) (ub : Nat) : ∀ (n c : Nat) (b : Gen.LB.Builder),
    norm ((Gen.LB.Builder.remove_invalid_checks.loop0 g ub (List.range' c n) b).map (·.states))
      = norm (sanitiseLoop (H.repr g) ub n c b.states) := by
  intro n
  induction n with
  | zero => intro c b; rfl
  | succ n ih =>
    intro c b
    rw [List.range'_succ]
    unfold Gen.LB.Builder.remove_invalid_checks.loop0 sanitiseLoop
    dsimp only
    have hroot : rootIdx = Gen.rootStateIdx := rfl
    have hdead : deadIdx = Gen.deadStateIdx := rfl
    rw [hroot, hdead]
    by_cases hrd : (ub ^^^ c) = Gen.rootStateIdx ∨ (ub ^^^ c) = Gen.deadStateIdx
    · rw [if_pos (by simpa only [Bool.or_eq_true, decide_eq_true_eq] using hrd), if_pos hrd, if_pos rfl]
      rcases index_setSt b.states (ub ^^^ c) c with ⟨el, h1, h2⟩ | ⟨s1, s2, h1, h2⟩
      · rw [h1, h2]; exact ih (c + 1) _
      · rw [h1, h2]; rfl
    · rw [if_neg (by simpa only [Bool.or_eq_true, decide_eq_true_eq] using hrd), if_neg hrd]
      rcases norm_cases' _ _ (H.is_used_index_eq g hw (ub ^^^ c)) with ⟨r, h1, h2⟩ | ⟨e1, e2, h1, h2, h3⟩
      · rw [h1, h2]
        cases r
        · simp only [Bool.not_false, if_true]
          rcases index_setSt b.states (ub ^^^ c) c with ⟨el, k1, k2⟩ | ⟨s1, s2, k1, k2⟩
          · rw [k1, k2]; exact ih (c + 1) _
          · rw [k1, k2]; rfl
        · simp only [Bool.not_true, Bool.false_eq_true, if_false]
          exact ih (c + 1) b
      · rw [h1, h2]; exact h3 _

theorem remove_invalid_checks_eq (b : Gen.LB.Builder) (g : Gen.H.BuildHelper) (hw : Wf g) (blk : Nat) :
    norm ((Gen.LB.Builder.remove_invalid_checks b blk g).map (fun p => p.2.states))
      = norm (removeInvalidChecks b.states (H.repr g) blk) := by
  unfold Gen.LB.Builder.remove_invalid_checks removeInvalidChecks
  rcases norm_cases' _ _ (H.unused_base_in_block_eq g hw blk) with ⟨r, h1, h2⟩ | ⟨e1, e2, h1, h2, h3⟩
  · rw [h1, h2]
    cases r with
    | none => rfl
    | some ub =>
      dsimp only
      have hr : Rs.rangeList 0 (255 + 1) = List.range' 0 256 := rfl
      rw [hr]
      rcases norm_cases _ _ _ (ric_loop g hw ub 256 0 b) with ⟨b', k1, k2⟩ | ⟨e1, e2, k1, k2, k3⟩
      · rw [k1, k2]; rfl
      · rw [k1, k2]; exact k3 _
  · rw [h1, h2]; exact h3 _

theorem ric_loop_frame (g : Gen.H.BuildHelper) (ub : Nat) (l : List Nat) (b b' : Gen.LB.Builder)
    (h : Gen.LB.Builder.remove_invalid_checks.loop0 g ub l b = .ok b') :
    b'.match_kind = b.match_kind ∧ b'.num_free_blocks = b.num_free_blocks := by
  revert h
  fun_induction Gen.LB.Builder.remove_invalid_checks.loop0 g ub l b <;> intro h
  case case1 => rw [← Except.ok.inj h]; exact ⟨rfl, rfl⟩
  -- the four recursive calls: after a CHECK was written (3, 7) or the label was skipped (4, 8)
  case case3 ih => exact ih h
  case case4 ih => exact ih h
  case case7 ih => exact ih h
  case case8 ih => exact ih h
  all_goals cases h

theorem remove_invalid_checks_frame (b b' : Gen.LB.Builder) (g : Gen.H.BuildHelper) (blk : Nat) (u : Unit)
    (h : Gen.LB.Builder.remove_invalid_checks b blk g = .ok (u, b')) :
    b'.match_kind = b.match_kind ∧ b'.num_free_blocks = b.num_free_blocks := by
  revert h
  fun_cases Gen.LB.Builder.remove_invalid_checks b blk g <;> intro h
  case case3 ub b1 hl _ => cases h; exact ric_loop_frame _ _ _ _ _ hl
  case case4 => cases h; exact ⟨rfl, rfl⟩
  all_goals cases h

theorem extend_array_eq (b : Gen.LB.Builder) (g : Gen.H.BuildHelper) (hw : Wf g)
    (hb : g.block_len = Gen.blockLen) (idx : Std.HashMap (List Nat) Nat) :
    norm ((Gen.LB.Builder.extend_array b g).map (fun p => (p.2.1.states, H.repr p.2.2)))
      = norm ((extendArray .bytewise ⟨b.states, H.repr g, idx⟩).map (fun l => (l.states, l.h))) := by
  unfold Gen.LB.Builder.extend_array extendArray
  have hbl : (H.repr g).blockLen = Gen.blockLen := hb
  dsimp only
  rw [hbl, u32Max_eq, H.dropped_block_eq g hw]
  by_cases hs : b.states.size > 4294967295 - Gen.blockLen
  · rw [if_pos (decide_eq_true hs), if_pos hs]; rfl
  · rw [if_neg (by simpa only [decide_eq_true_eq] using hs), if_neg hs]
    cases hd : (H.repr g).droppedBlock with
    | none =>
      dsimp only
      rcases norm_cases _ _ _ (H.push_block_eq g hw) with ⟨⟨u1, g1⟩, k1, k2⟩ | ⟨e1, e2, k1, k2, k3⟩
      · rw [k1, k2]
        simp only [Except.map, resize_add]; rfl
      · rw [k1, k2]; exact k3 _
    | some cb =>
      dsimp only
      rcases norm_cases _ _ _ (remove_invalid_checks_eq b g hw cb) with ⟨⟨u0, b'⟩, r1, r2⟩ | ⟨e1, e2, r1, r2, r3⟩
      · rw [r1, r2]
        dsimp only
        rcases norm_cases _ _ _ (H.push_block_eq g hw) with ⟨⟨u1, g1⟩, k1, k2⟩ | ⟨e1, e2, k1, k2, k3⟩
        · rw [k1, k2]
          simp only [Except.map, resize_add]; rfl
        · rw [k1, k2]; exact k3 _
      · rw [r1, r2]; exact r3 _

theorem init_array_unfold (b : Gen.LB.Builder) : Gen.LB.Builder.init_array b =
    (genInit Gen.blockLen b.num_free_blocks).map
      (fun h => (h, { b with states := Rs.resize b.states Gen.blockLen stDefaultB })) := by
  unfold Gen.LB.Builder.init_array genInit
  dsimp only
  cases Gen.H.BuildHelper.new Gen.blockLen b.num_free_blocks with
  | error e => rfl
  | ok g0 =>
    dsimp only
    cases Gen.H.BuildHelper.push_block g0 with
    | error e => rfl
    | ok r1 =>
      dsimp only
      cases Gen.H.BuildHelper.use_index r1.2 Gen.rootStateIdx with
      | error e => rfl
      | ok r2 =>
        dsimp only
        cases Gen.H.BuildHelper.use_index r2.2 Gen.deadStateIdx with
        | error e => rfl
        | ok r3 => rfl

theorem init_array_eq (b : Gen.LB.Builder) (hs : b.states = #[]) :
    norm ((Gen.LB.Builder.init_array b).map (fun p => (p.2.states, H.repr p.1)))
      = norm (initModel .bytewise bytewiseBlockLen b.num_free_blocks) := by
  rw [init_array_unfold]
  have := genInit_eq .bytewise Gen.blockLen b.num_free_blocks (Rs.resize b.states Gen.blockLen stDefaultB)
    (by rw [hs, resize_empty]; rfl)
  rw [← show bytewiseBlockLen = Gen.blockLen from rfl] at this ⊢
  rw [← this]
  cases genInit bytewiseBlockLen b.num_free_blocks <;> rfl
end B

namespace C

theorem vb_loop (g : Gen.H.BuildHelper) (base : Nat) : ∀ edges : List (Nat × Nat),
    Gen.LC.Builder.verify_base.loop0 base g edges
      = Gen.LB.Builder.check_valid_base.loop0 base g (edges.map (·.1)) := by
  intro edges
  induction edges with
  | nil => rfl
  | cons cc rest ih =>
    obtain ⟨c, d⟩ := cc
    rw [List.map_cons]
    unfold Gen.LC.Builder.verify_base.loop0 Gen.LB.Builder.check_valid_base.loop0
    rw [ih]
    -- the same code under the two modules' own `match` constants
    dsimp only
    cases Gen.H.BuildHelper.is_used_index g (base ^^^ c) <;> rfl

theorem verify_base_eq (g : Gen.H.BuildHelper) (hw : Wf g) (base : Nat) (edges : List (Nat × Nat)) :
    norm ((Gen.LC.Builder.verify_base base edges g).map Option.isSome)
      = norm (baseOk .charwise (H.repr g) base (edges.map (·.1))) := by
  unfold Gen.LC.Builder.verify_base baseOk
  rw [vb_loop]
  rcases B.cvb_loop g hw base (edges.map (·.1)) with ⟨e1, e2, k1, k2, k3⟩ | ⟨k1, k2⟩ | ⟨k1, k2⟩
  · simp only [k1, k2]; exact k3 _
  · simp only [k1, k2]; rfl
  · simp only [k1, k2, Except.map, nonZero_isSome]

theorem verify_base_val (g : Gen.H.BuildHelper) (hw : Wf g) (base : Nat) (edges : List (Nat × Nat)) (x : Nat)
    (h : Gen.LC.Builder.verify_base base edges g = .ok (some x)) : x = base := by
  unfold Gen.LC.Builder.verify_base at h
  rw [vb_loop] at h
  rcases B.cvb_loop g hw base (edges.map (·.1)) with ⟨e1, e2, k1, -, -⟩ | ⟨k1, -⟩ | ⟨k1, -⟩ <;> rw [k1] at h
  · cases h
  · cases h
  · exact ((nonZero_some _ _).1 (Except.ok.inj h)).2

theorem fb_loop (g : Gen.H.BuildHelper) (hw : Wf g) (e0 : Nat × Nat) (rest : List (Nat × Nat)) :
    ∀ (fuel : Nat) (it : Gen.H.VacantIter) (vac : List Nat),
    H.genVacantFrom fuel it = .ok vac → vac.length < fuel →
    norm ((Gen.LC.Builder.find_base.loop0 (e0 :: rest) g fuel it).map ctlOpt)
      = norm (findBaseIn .charwise (H.repr g) e0.1 (e0.1 :: rest.map (·.1)) vac) := by
  refine fb_loop_of_check .charwise g e0.1 _ (Gen.LC.Builder.verify_base · (e0 :: rest) g)
    (verify_base_eq g hw · (e0 :: rest)) (verify_base_val g hw · _) _ fun n it => ?_
  rw [Gen.LC.Builder.find_base.loop0]
  cases Gen.H.VacantIter.next it with
  | error e => rfl
  | ok p =>
    obtain ⟨o, it'⟩ := p
    cases o with
    | none => rfl
    | some i =>
      dsimp only [Rs.indexL, List.getElem?_cons_zero]
      cases Gen.LC.Builder.verify_base (i ^^^ e0.1) (e0 :: rest) g with
      | error e => rfl
      | ok r => cases r <;> rfl

/-- `find_base` (char-wise): additionally the fallback value `len ^ code₀` must be a `NonZeroU32`
(the code asserts it with `unwrap`, the model does not).  `hlen`: as for the byte-wise
builder, the collected walk is not longer than the capacity. -/
theorem find_base_eq (b : Gen.LC.Builder) (g : Gen.H.BuildHelper) (hw : Wf g)
    (idx : Std.HashMap (List Nat) Nat) (edges : List (Nat × Nat)) (hl : edges ≠ [])
    (vac : List Nat) (hv : (H.repr g).vacant = .ok vac) (hlen : vac.length ≤ g.items.size)
    (hs : b.states.size ≤ 4294967295) (hz : b.states.size ^^^ (edges.map (·.1)).headD 0 ≠ 0) :
    norm (Gen.LC.Builder.find_base b edges g)
      = norm (findBase .charwise ⟨b.states, H.repr g, idx⟩ (edges.map (·.1))) := by
  have hgv : H.genVacantFrom (g.items.size + 1) (Gen.H.BuildHelper.vacant_iter g) = .ok vac :=
    H.eq_ok_of_norm ((H.vacant_eq g hw).trans (congrArg norm hv))
  obtain ⟨e0, rest, rfl⟩ := List.exists_cons_of_ne_nil hl
  unfold Gen.LC.Builder.find_base findBase
  simp only [List.map_cons, List.headD_cons] at hz ⊢
  rw [hv, if_pos (show (!(e0 :: rest).isEmpty) = true from rfl)]
  dsimp only
  rcases norm_cases _ _ _ (fb_loop g hw e0 rest _ _ vac hgv (Nat.lt_succ_of_le hlen)) with
    ⟨c, h1, h2⟩ | ⟨e1, e2, h1, h2, h3⟩
  · rw [h1, h2]
    cases c with
    | ret r => rfl
    | done it =>
      have hnz := (nonZero_some _ _).2 ⟨hz, rfl⟩
      simp only [ctlOpt, Rs.u32TryFromUnwrap, Rs.u32Max_eq, hs, if_true, Rs.indexL, List.getElem?_cons_zero, hnz]
  · rw [h1, h2]; exact h3 _
theorem extend_array_eq (b : Gen.LC.Builder) (g : Gen.H.BuildHelper) (hw : Wf g)
    (hb : g.block_len = b.block_len) (idx : Std.HashMap (List Nat) Nat) :
    norm ((Gen.LC.Builder.extend_array b g).map (fun p => (p.2.1.states, H.repr p.2.2)))
      = norm ((extendArray .charwise ⟨b.states, H.repr g, idx⟩).map (fun l => (l.states, l.h))) := by
  unfold Gen.LC.Builder.extend_array extendArray
  have hbl : (H.repr g).blockLen = b.block_len := hb
  dsimp only
  rw [hbl, u32Max_eq]
  by_cases hs : b.states.size > 4294967295 - b.block_len
  · rw [if_pos (decide_eq_true hs), if_pos hs]; rfl
  · rw [if_neg (by simpa only [decide_eq_true_eq] using hs), if_neg hs]
    rcases norm_cases _ _ _ (H.push_block_eq g hw) with ⟨⟨u1, g1⟩, k1, k2⟩ | ⟨e1, e2, k1, k2, k3⟩
    · rw [k1, k2]
      simp only [Except.map, resize_add]; rfl
    · rw [k1, k2]; exact k3 _

theorem init_array_unfold (b : Gen.LC.Builder) : Gen.LC.Builder.init_array b =
    (genInit (max (Nat.nextPowerOfTwo b.mapper.alphaSize) 2) b.num_free_blocks).map
      (fun h => (h, { b with block_len := max (Nat.nextPowerOfTwo b.mapper.alphaSize) 2,
                             states := Rs.resize b.states (max (Nat.nextPowerOfTwo b.mapper.alphaSize) 2) stDefaultC })) := by
  unfold Gen.LC.Builder.init_array genInit Gen.LC.CodeMapper.alphabet_size
  dsimp only
  cases Gen.H.BuildHelper.new (max (Nat.nextPowerOfTwo b.mapper.alphaSize) 2) b.num_free_blocks with
  | error e => rfl
  | ok g0 =>
    dsimp only
    cases Gen.H.BuildHelper.push_block g0 with
    | error e => rfl
    | ok r1 =>
      dsimp only
      cases Gen.H.BuildHelper.use_index r1.2 Gen.rootStateIdx with
      | error e => rfl
      | ok r2 =>
        dsimp only
        cases Gen.H.BuildHelper.use_index r2.2 Gen.deadStateIdx with
        | error e => rfl
        | ok r3 => rfl

theorem init_array_eq (b : Gen.LC.Builder) (hs : b.states = #[]) :
    norm ((Gen.LC.Builder.init_array b).map (fun p => (p.2.states, H.repr p.1)))
      = norm (initModel .charwise (max 2 (Nat.nextPowerOfTwo b.mapper.alphaSize)) b.num_free_blocks) := by
  rw [init_array_unfold, Nat.max_comm 2]
  have := genInit_eq .charwise (max (Nat.nextPowerOfTwo b.mapper.alphaSize) 2) b.num_free_blocks
    (Rs.resize b.states (max (Nat.nextPowerOfTwo b.mapper.alphaSize) 2) stDefaultC)
    (by rw [hs, resize_empty]; rfl)
  rw [← this]
  cases genInit (max (Nat.nextPowerOfTwo b.mapper.alphaSize) 2) b.num_free_blocks <;> rfl
end C
end Daac.Tie.L
