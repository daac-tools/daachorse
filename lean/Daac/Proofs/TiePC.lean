/-
Translation tie, the char-wise builder END TO END: the GENERATED pipeline

  `NfaBuilder::new` → per pattern `add` then the frequency-counting loop → `CodeMapper::new`
    → `len == 0` test → `build_fails` / `build_fails_leftmost` → `build_outputs`
    → `CharwiseDoubleArrayAhoCorasickBuilder::build_double_array`

(Daac/Gen/Nfa.lean from `src/nfa_builder.rs`, Daac/Gen/MapperNew.lean from `src/charwise/mapper.rs` and
the counting loop of `build_original_nfa_and_mapper`, Daac/Gen/BuildC.lean from
`src/charwise/builder.rs`) computes the state table of the hand-written model `buildDA .charwise`
(Daac/Model/Build.lean), up to panic texts.  The pieces: the variant-independent front of Proofs/TieP
(`sparseTie`: the sparse NFA for any label width `nb`), Proofs/TieM (mapper), Proofs/TieDC (layout
loop), and the characterisation of `buildDA` by the outcome of its insertion fold (Proofs/TieP).
-/
import Daac.Proofs.TieP
import Daac.Proofs.TieM
import Daac.Proofs.TieDC
import Daac.Proofs.MapperFacts
namespace Daac.Tie.PC
open Daac Daac.Gen Daac.Gen.N Daac.Gen.M Daac.Tie.N Daac.Tie.F Daac.Tie.D Daac.Tie.H Daac.Tie.M Daac.Tie.P

variable {V : Type}

/-- The pattern loop of `build_original_nfa_and_mapper`:
`for (pattern, value) in patvals { nfa.add(&chars, value)?; for &c in &chars { .. freqs[c] += 1 } }`
over the generated `NfaBuilder.add` and the generated `count_chars`.  An `add` error returns at once
(the `?`), before the characters of that pattern, or of any later one, are counted. -/
def addCountAllGen (nb : Nat → Nat) :
    NfaBuilder V → Array Nat → List (LPat V) → Except BuildErr (NfaBuilder V × Array Nat)
  | g, fr, [] => .ok (g, fr)
  | g, fr, p :: ps =>
    match NfaBuilder.add nb g p.key p.value with
    | .error e => .error e
    | .ok (_, g') =>
      match count_chars fr p.key with
      | .error e => .error e
      | .ok fr' => addCountAllGen nb g' fr' ps

/-- The generated `CodeMapper` (Gen/MapperNew.lean) as the `mapper` field of the generated char-wise
builder (Gen/LayoutC.lean uses the model's two-field record for `CodeMapper`): field by field. -/
def toMapper (m : CodeMapper) : Mapper := ⟨m.table, m.alphabet_size⟩

/-- The char-wise `build_with_values` over the translated units, in the order of the Rust text:
the interleaved pattern loop, `self.mapper = CodeMapper::new(&freqs)`, the emptiness test, the fail
pass selected by the match kind, `build_outputs`, then `build_double_array` on the builder holding
that mapper (`states` empty, `block_len` 0 as `new` leaves them).  The sequencing is hand-written glue;
every unit it calls is generated from the Rust text. -/
def genBuildC (nb : Nat → Nat) (kind nfb : Nat) (P : List (LPat V)) : Except BuildErr (Array St) :=
  match addCountAllGen nb (NfaBuilder.new kind) #[] P with
  | .error e => .error e
  | .ok (g, freqs) =>
    match CodeMapper.new freqs with
    | .error e => .error e
    | .ok m =>
      if g.len = 0 then .error .invalidArgument else
      match failPass kind g with
      | .error e => .error e
      | .ok (q, g1) =>
        match NfaBuilder.build_outputs g1 q with
        | .error e => .error e
        | .ok (_, g2) =>
          (DC.Builder.build_double_array ⟨#[], toMapper m, kind, 0, nfb⟩ g2).map (·.2.states)

/-- The interleaved loop = the insertion fold, then (only if no `add` failed) the counting fold: the
counting loop never fails and does not touch the NFA builder. -/
theorem addCountAllGen_eq (nb : Nat → Nat) (ps : List (LPat V)) (g : NfaBuilder V) (fr : Array Nat) :
    addCountAllGen nb g fr ps =
      match addAllGen nb g ps with
      | .error e => .error e
      | .ok g' =>
        match countAll fr (ps.map (·.key)) with
        | .error e => .error e
        | .ok fr' => .ok (g', fr') := by
  induction ps generalizing g fr with
  | nil => rfl
  | cons p ps ih =>
    simp only [addCountAllGen, addAllGen, List.map_cons, countAll]
    cases hadd : NfaBuilder.add nb g p.key p.value with
    | error e => rfl
    | ok r =>
      obtain ⟨u, g'⟩ := r
      simp only [count_chars_eq]
      exact ih g' _

theorem addCountAllGen_ok (nb : Nat → Nat) (ps : List (LPat V)) (g g' : NfaBuilder V) (fr : Array Nat)
    (h : addAllGen nb g ps = .ok g') :
    addCountAllGen nb g fr ps = .ok (g', (ps.map (·.key)).flatten.foldl step fr) ∧
      countAll fr (ps.map (·.key)) = .ok ((ps.map (·.key)).flatten.foldl step fr) := by
  rewrite [addCountAllGen_eq, h, countAll_eq]
  exact ⟨rfl, rfl⟩

theorem addCountAllGen_new (nb : Nat → Nat) (kind : Nat) (P : List (LPat V)) (g : NfaBuilder V)
    (h : addAllGen nb (NfaBuilder.new kind) P = .ok g) :
    addCountAllGen nb (NfaBuilder.new kind) #[] P = .ok (g, freqsOf (tableLen P) P) := by
  rw [addCountAllGen_eq, h, count_eq]

theorem new_freqs_char (P : List (LPat V)) (hch : ∀ p ∈ P, ∀ c ∈ p.key, c ≤ 0x10FFFF) :
    CodeMapper.new (freqsOf (tableLen P) P) =
      .ok ⟨(Mapper.build P).table, (Mapper.build P).alphaSize⟩ :=
  new_freqsOf P (Nat.le_of_lt (tableLen_lt_of_char P hch))

theorem pipeline_refines_charwise (nb : Nat → Nat) (kind : Nat) (cfg : Cfg) (P : List (LPat V))
    (hnfb : 1 ≤ cfg.nfb) (hch : ∀ p ∈ P, ∀ c ∈ p.key, c ≤ 0x10FFFF)
    (hsz : 2 + (P.map (·.key.length)).sum ≤ 4294967295)
    (hlen : ∀ p ∈ P, (p.key.map nb).sum = p.blen ∧ p.blen ≤ 4294967295)
    (g : NfaBuilder V) (hadd : addAllGen nb (NfaBuilder.new kind) P = .ok g) (hl : g.len ≠ 0)
    (b : LC.Builder) (hb : b.states = #[]) (hn : b.num_free_blocks = cfg.nfb)
    (hmp : b.mapper = Mapper.build P) :
    ∃ a q g1 g2, (NfaAcc.init : NfaAcc V).addAll (kind == 2) P = .ok a ∧ a.len = g.len ∧
      failPass kind g = .ok (q, g1) ∧ NfaBuilder.build_outputs g1 q = .ok ((), g2) ∧
      g2.states.size = a.trie.size + 1 ∧ g.states.size = a.trie.size + 1 ∧
      OutsRel g2.outputs (buildNfa a.trie (kind != 0)).out.outs ∧
      norm ((DC.Builder.build_double_array b g2).map (·.2.states))
        = norm (buildLayout .charwise cfg (Mapper.build P) a.trie (buildNfa a.trie (kind != 0))) := by
  obtain ⟨a, q, g1, g2, S⟩ := sparseTie nb kind P hsz hlen g hadd hl
  have htl := tableLen_lt_of_char P hch
  -- the mapper built from ALL patterns maps every label on a node of the trie
  have hmap : ∀ u, a.trie.hasNode u = true → ∀ c ∈ u, ∃ k, (Mapper.build P).get c = some k :=
    fun u hu c hc =>
      let ⟨p, hp, hcp⟩ := S.labels u hu c hc
      mapper_maps_labels P htl p hp c hcp
  exact ⟨a, q, g1, g2, S.addAll, S.len, S.failPass, S.outputs, S.rep.size, S.size, S.outs,
    Tie.DC.build_double_array_refines_charwise cfg (Mapper.build P) a.trie _ g2 _ S.rep S.failNodes
      S.sorted (mapperOk_build' P) hmap hnfb b hb hn hmp⟩

/-- END TO END, against `buildDA .charwise` itself (`cfg.kind = kind`): if the translated insertion fold
succeeds and registered a pattern, then the translated counting loop and `CodeMapper::new` return a
mapper `m` that is the model's (`mapTable`, `alphaSize`), the translated fail pass and `build_outputs`
succeed, the translated `build_double_array` run with that mapper yields the `states` field of the
model automaton up to panic texts, and on success the model automaton's `outputs` are the translated
builder's output records and `numStates = g.states.size - 1`. -/
theorem generated_charwise_build_eq_buildDA (nb : Nat → Nat) (kind : Nat) (cfg : Cfg) (P : List (LPat V))
    (hkind : cfg.kind = kind) (hnfb : 1 ≤ cfg.nfb) (hch : ∀ p ∈ P, ∀ c ∈ p.key, c ≤ 0x10FFFF)
    (hsz : 2 + (P.map (·.key.length)).sum ≤ 4294967295)
    (hlen : ∀ p ∈ P, (p.key.map nb).sum = p.blen ∧ p.blen ≤ 4294967295)
    (g : NfaBuilder V) (hadd : addAllGen nb (NfaBuilder.new kind) P = .ok g) (hl : g.len ≠ 0) :
    ∃ freqs m q g1 g2, addCountAllGen nb (NfaBuilder.new kind) #[] P = .ok (g, freqs) ∧
      CodeMapper.new freqs = .ok m ∧
      failPass kind g = .ok (q, g1) ∧ NfaBuilder.build_outputs g1 q = .ok ((), g2) ∧
      norm ((DC.Builder.build_double_array ⟨#[], toMapper m, kind, 0, cfg.nfb⟩ g2).map (·.2.states))
        = norm ((buildDA .charwise cfg P).map (·.states)) ∧
      ∀ da, buildDA .charwise cfg P = .ok da →
        OutsRel g2.outputs da.outputs ∧ da.numStates = g.states.size - 1 ∧ da.kind = kind ∧
        da.mapTable = m.table ∧ da.alphaSize = m.alphabet_size := by
  subst hkind
  obtain ⟨a, q, g1, g2, hm, hal, hfp, hbo, _, hs, houts, hfin⟩ :=
    pipeline_refines_charwise nb cfg.kind cfg P hnfb hch hsz hlen g hadd hl
      ⟨#[], Mapper.build P, cfg.kind, 0, cfg.nfb⟩ rfl rfl rfl
  rewrite [← hal] at hl
  obtain ⟨hst, hda⟩ := buildDA_main (v := .charwise) hnfb hm rfl hl (fun h => by cases h.1)
  refine ⟨_, _, q, g1, g2, addCountAllGen_new nb cfg.kind P g hadd, new_freqs_char P hch, hfp, hbo,
    by rewrite [hst]; exact hfin, fun da h => ?_⟩
  obtain ⟨ho, hn, hk, ht, ha⟩ := hda da h
  exact ⟨by rewrite [ho]; exact houts, by rw [hn, hs, Nat.add_sub_cancel], hk, ht, ha⟩

/-- END TO END as one equation: on `char` patterns within the `u32` scale, the translated char-wise
pipeline and the model's `buildDA .charwise` fail alike (same error, up to panic texts) or both
succeed with the same state table.  `nb` is the label width (`char::len_utf8`) under which `blen` is
the byte length of the key. -/
theorem genBuildC_eq_buildDA (nb : Nat → Nat) (kind : Nat) (cfg : Cfg) (P : List (LPat V))
    (hkind : cfg.kind = kind) (hnfb : 1 ≤ cfg.nfb) (hch : ∀ p ∈ P, ∀ c ∈ p.key, c ≤ 0x10FFFF)
    (hsz : 2 + (P.map (·.key.length)).sum ≤ 4294967295)
    (hlen : ∀ p ∈ P, (p.key.map nb).sum = p.blen ∧ p.blen ≤ 4294967295) :
    norm (genBuildC nb kind cfg.nfb P) = norm ((buildDA .charwise cfg P).map (·.states)) := by
  subst hkind
  unfold genBuildC
  rcases (build_agree nb cfg.kind P hsz hlen).cases with ⟨e, hg, hm⟩ | ⟨g, a, hg, hm, _, _, hga, _⟩
  · rewrite [addCountAllGen_eq, hg, buildDA_addAll_error hnfb hm]
    rfl
  · have hgC := generated_charwise_build_eq_buildDA nb cfg.kind cfg P rfl hnfb hch hsz hlen g hg
    rewrite [addCountAllGen_new nb cfg.kind P g hg] at hgC ⊢
    simp only [new_freqs_char P hch]
    rewrite [hga] at hgC ⊢
    by_cases hl : a.len = 0
    · rewrite [if_pos hl, buildDA_addAll_ok hnfb hm rfl, if_pos hl]
      rfl
    · obtain ⟨_, _, q, g1, g2, hac, hnew, hfp, hbo, hfin, _⟩ := hgC hl
      cases hac
      rewrite [new_freqs_char P hch] at hnew
      cases hnew
      rewrite [if_neg hl, hfp]
      simp only [hbo]
      exact hfin

end Daac.Tie.PC

#print axioms Daac.Tie.PC.addCountAllGen_eq
#print axioms Daac.Tie.PC.pipeline_refines_charwise
#print axioms Daac.Tie.PC.generated_charwise_build_eq_buildDA
#print axioms Daac.Tie.PC.genBuildC_eq_buildDA
