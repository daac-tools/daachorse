/-
The intrusive circular doubly-linked list of vacant indices of `Helper` (Model/Build.lean,
`BuildHelper`): the linked-list invariant `Helper.LL`, its establishment and preservation, and
panic-freedom (`∃ h', op = .ok h'`) of the operations as the layout pass uses them.
-/
import Daac.Proofs.HelperFacts
namespace Daac

/-- Positions `a` and `b` are consecutive on a cycle of length `n`. -/
def CycStep (n a b : Nat) : Prop := a + 1 = b ∨ (a + 1 = n ∧ b = 0)

theorem cycStep_succ {k n : Nat} (hk : k < n) : CycStep n k ((k + 1) % n) := by
  by_cases e : k + 1 = n
  · exact Or.inr ⟨e, by rw [e, Nat.mod_self]⟩
  · exact Or.inl (Nat.mod_eq_of_lt (Nat.lt_of_le_of_ne hk e)).symm

theorem cycStep_pred {k n : Nat} (hk : k < n) : CycStep n ((k + n - 1) % n) k := by
  cases k with
  | zero =>
    rw [Nat.zero_add, Nat.mod_eq_of_lt (Nat.sub_lt hk Nat.one_pos)]
    exact Or.inr ⟨Nat.sub_add_cancel hk, rfl⟩
  | succ j =>
    rw [Nat.add_right_comm, Nat.add_sub_cancel, Nat.add_mod_right,
      Nat.mod_eq_of_lt (Nat.lt_of_succ_lt hk)]
    exact Or.inl rfl

/-- Each position of a cycle has one successor and one predecessor. -/
theorem CycStep.inj {n a a' b b' : Nat} (s : CycStep n a b) (s' : CycStep n a' b') (hb : b < n)
    (hb' : b' < n) : a = a' ↔ b = b' := by
  unfold CycStep at s s'; omega

theorem skip_lt_ne {n a : Nat} (p : Nat) (ha : a + 1 < n) :
    (if a < p then a else a + 1) < n ∧ (if a < p then a else a + 1) ≠ p := by
  by_cases h : a < p
  · rw [if_pos h]; exact ⟨Nat.lt_of_succ_lt ha, Nat.ne_of_lt h⟩
  · rw [if_neg h]; exact ⟨ha, Nat.ne_of_gt (Nat.lt_succ_of_le (Nat.not_lt.1 h))⟩

/-- Erasing position `p` from a cycle of length `n`: consecutive positions of the shorter cycle
come from consecutive positions of the longer one, or from the two neighbours of `p`. -/
theorem CycStep.skip {n p a b : Nat} (hp : p < n) (s : CycStep (n - 1) a b) :
    CycStep n (if a < p then a else a + 1) (if b < p then b else b + 1) ∨
      (CycStep n (if a < p then a else a + 1) p ∧ CycStep n p (if b < p then b else b + 1)) := by
  rcases s with s | ⟨s1, s2⟩
  · subst s
    by_cases h1 : a + 1 < p
    · rw [if_pos (Nat.lt_of_succ_lt h1), if_pos h1]; exact Or.inl (Or.inl rfl)
    · by_cases h2 : a < p
      · -- `a + 1 = p`: the two neighbours of `p`
        have e : a + 1 = p := Nat.le_antisymm h2 (Nat.not_lt.1 h1)
        rw [if_pos h2, if_neg h1]; exact Or.inr ⟨Or.inl e, Or.inl (e ▸ rfl)⟩
      · rw [if_neg h2, if_neg h1]; exact Or.inl (Or.inl rfl)
  · subst s2
    have e : a + 1 + 1 = n := by rw [s1, Nat.sub_add_cancel (Nat.zero_lt_of_lt hp)]
    by_cases h0 : p = 0
    · -- the last position is followed by `p = 0`, then by position 1
      subst h0
      rw [if_neg (Nat.not_lt_zero a), if_neg (Nat.lt_irrefl 0)]
      exact Or.inr ⟨Or.inr ⟨e, rfl⟩, Or.inl rfl⟩
    · rw [if_pos (Nat.pos_of_ne_zero h0)]
      by_cases h2 : a < p
      · -- `p` is the last position
        have hp' : p < a + 1 + 1 := by rw [e]; exact hp
        have e1 : a + 1 = p := Nat.le_antisymm h2 (Nat.le_of_lt_succ hp')
        rw [if_pos h2]; exact Or.inr ⟨Or.inl e1, Or.inr ⟨e1 ▸ e, rfl⟩⟩
      · rw [if_neg h2]; exact Or.inl (Or.inr ⟨e, rfl⟩)

/-- `R` holds between cyclically consecutive elements of `l`. -/
def CycRel (R : Nat → Nat → Prop) (l : List Nat) : Prop :=
  ∀ a b (ha : a < l.length) (hb : b < l.length), CycStep l.length a b → R l[a] l[b]

theorem CycRel.imp {R R' : Nat → Nat → Prop} {l : List Nat} (c : CycRel R l)
    (hc : ∀ x ∈ l, ∀ y ∈ l, R x y → R' x y) : CycRel R' l :=
  fun a b ha hb s => hc _ (List.getElem_mem ha) _ (List.getElem_mem hb) (c a b ha hb s)

/-- The form of the links in `Helper.LL`: `f` the successor, `g` the predecessor. -/
theorem cycRel_iff {f g : Nat → Nat} {l : List Nat} :
    CycRel (fun x y => f x = y ∧ g y = x) l ↔
      (∀ k (hk : k < l.length),
        f l[k] = l[(k + 1) % l.length]'(Nat.mod_lt _ (Nat.zero_lt_of_lt hk))) ∧
      (∀ k (hk : k < l.length),
        g l[k] = l[(k + l.length - 1) % l.length]'(Nat.mod_lt _ (Nat.zero_lt_of_lt hk))) := by
  constructor
  · intro c
    exact ⟨fun k hk => (c k _ hk _ (cycStep_succ hk)).1,
      fun k hk => (c _ k _ hk (cycStep_pred hk)).2⟩
  · intro ⟨cn, cp⟩ a b ha hb s
    constructor
    · obtain rfl := (s.inj (cycStep_succ ha) hb (Nat.mod_lt _ (Nat.zero_lt_of_lt ha))).1 rfl
      exact cn a ha
    · obtain rfl := (s.inj (cycStep_pred hb) hb hb).2 rfl
      exact cp b hb

theorem getElem_eraseIdx_ite {l : List Nat} {p a : Nat} (h : a < (l.eraseIdx p).length)
    (h' : (if a < p then a else a + 1) < l.length) :
    (l.eraseIdx p)[a] = l[if a < p then a else a + 1] := by
  rw [List.getElem_eraseIdx]
  split <;> rfl

theorem CycRel.eraseIdx {R : Nat → Nat → Prop} {l : List Nat} {p : Nat} (hp : p < l.length)
    (hkeep : ∀ a b (ha : a < l.length) (hb : b < l.length), a ≠ p → b ≠ p →
      CycStep l.length a b → R l[a] l[b])
    (hlink : ∀ a b (ha : a < l.length) (hb : b < l.length),
      CycStep l.length a p → CycStep l.length p b → R l[a] l[b]) :
    CycRel R (l.eraseIdx p) := by
  have hlen : (l.eraseIdx p).length = l.length - 1 := by rw [List.length_eraseIdx, if_pos hp]
  intro a b ha hb s
  rw [hlen] at s
  have ha' := skip_lt_ne p (Nat.add_lt_of_lt_sub (hlen ▸ ha))
  have hb' := skip_lt_ne p (Nat.add_lt_of_lt_sub (hlen ▸ hb))
  rw [getElem_eraseIdx_ite ha ha'.1, getElem_eraseIdx_ite hb hb'.1]
  rcases s.skip hp with s' | ⟨s1, s2⟩
  · exact hkeep _ _ _ _ ha'.2 hb'.2 s'
  · exact hlink _ _ _ _ s1 s2

theorem getElem_append_range' {l : List Nat} {o m k : Nat}
    (h : k < (l ++ List.range' o m).length) :
    (l ++ List.range' o m)[k] =
      if h' : k < l.length then l[k] else o + (k - l.length) := by
  rw [List.getElem_append]
  split
  · rfl
  · rw [List.getElem_range', Nat.one_mul]

theorem head?_append_range' {l : List Nat} {o m : Nat} (hm : 0 < m) :
    (l ++ List.range' o m).head? = some (l.head?.getD o) := by
  cases l with
  | nil => rw [List.nil_append, List.head?_range', if_neg (Nat.ne_of_gt hm)]; rfl
  | cons x r => rfl

theorem CycRel.append_range {R : Nat → Nat → Prop} {l : List Nat} {o m : Nat} (hm : 0 < m)
    (hold : ∀ a (h : a + 1 < l.length), R (l[a]'(Nat.lt_of_succ_lt h)) l[a + 1])
    (hseam : ∀ a (h : a + 1 = l.length), R (l[a]'(Nat.lt_of_lt_of_eq (Nat.lt_succ_self a) h)) o)
    (hnew : ∀ j, j + 1 < m → R (o + j) (o + j + 1))
    (hlast : R (o + (m - 1)) (l.head?.getD o)) :
    CycRel R (l ++ List.range' o m) := by
  have hlen : (l ++ List.range' o m).length = l.length + m := by
    rw [List.length_append, List.length_range']
  intro a b ha hb s
  rw [getElem_append_range' ha, getElem_append_range' hb]
  rw [hlen] at s hb
  rcases s with s | ⟨s1, s2⟩
  · subst s
    by_cases h1 : a + 1 < l.length
    · rw [dif_pos (Nat.lt_of_succ_lt h1), dif_pos h1]; exact hold a h1
    · by_cases h2 : a < l.length
      · have e : a + 1 = l.length := Nat.le_antisymm h2 (Nat.not_lt.1 h1)
        rw [dif_pos h2, dif_neg h1, e, Nat.sub_self]
        exact hseam a e
      · have e : a + 1 - l.length = a - l.length + 1 := Nat.succ_sub (Nat.not_lt.1 h2)
        rw [dif_neg h2, dif_neg h1, e]
        exact hnew _ (e ▸ Nat.sub_lt_left_of_lt_add (Nat.le_succ_of_le (Nat.not_lt.1 h2)) hb)
  · subst s2
    have ea : a = l.length + (m - 1) :=
      Nat.succ.inj (s1.trans (congrArg (l.length + ·) (Nat.sub_add_cancel hm)).symm)
    rw [dif_neg (Nat.not_lt.2 (ea ▸ Nat.le_add_right _ _)), ea, Nat.add_sub_cancel_left]
    cases l with
    | nil => exact hlast
    | cons x r => exact hlast

theorem sorted_length_le {l : List Nat} {lo hi : Nat} (s : l.Pairwise (· < ·))
    (hb : ∀ x ∈ l, lo ≤ x ∧ x < hi) : l.length ≤ hi - lo := by
  induction l generalizing lo with
  | nil => exact Nat.zero_le _
  | cons x l ih =>
    rw [List.pairwise_cons] at s
    have hx := hb x (List.mem_cons_self)
    have := ih (lo := x + 1) s.2 (fun y hy => ⟨s.1 y hy, (hb y (List.mem_cons_of_mem _ hy)).2⟩)
    rw [List.length_cons]; omega

/-- `vac` is the ascending list of the vacant active indices and the `next`/`prev` arrays link
them into a circle in that order, starting at `head`. -/
structure Helper.LL (h : Helper) (vac : List Nat) : Prop where
  sorted : vac.Pairwise (· < ·)
  mem : ∀ i, i ∈ vac ↔ (h.Active i ∧ h.usedI i = false)
  head : h.head = vac.head?
  next : ∀ k (hk : k < vac.length),
    h.nextOf vac[k] = vac[(k + 1) % vac.length]'(Nat.mod_lt _ (by omega))
  prev : ∀ k (hk : k < vac.length),
    h.prevOf vac[k] = vac[(k + vac.length - 1) % vac.length]'(Nat.mod_lt _ (by omega))

theorem Helper.LL.active {h : Helper} {vac : List Nat} (ll : h.LL vac) {i : Nat} (hi : i ∈ vac) :
    h.Active i := ((ll.mem i).1 hi).1

section
variable {h h' : Helper} {vac : List Nat}

def Helper.Link (h : Helper) (x y : Nat) : Prop := h.nextOf x = y ∧ h.prevOf y = x

theorem Helper.LL.links (ll : h.LL vac) : CycRel h.Link vac :=
  cycRel_iff.2 ⟨ll.next, ll.prev⟩

theorem Helper.LL.nodup (ll : h.LL vac) : vac.Nodup :=
  ll.sorted.imp (fun h => Nat.ne_of_lt h)

theorem Helper.LL.length_le (wf : h.WF) (ll : h.LL vac) :
    vac.length ≤ h.cap := by
  have len := sorted_length_le ll.sorted (fun x hx => ll.active hx)
  exact Nat.le_trans len (Nat.sub_le_of_le_add (Nat.add_comm _ _ ▸ wf.window_le))

theorem Helper.useIndex_ll {i : Nat} (wf : h.WF)
    (ll : h.LL vac) (hi : i ∈ vac) :
    ∃ h', h.useIndex i = .ok h' ∧ h'.LL (vac.erase i) := by
  obtain ⟨p, hp, rfl⟩ := List.getElem_of_mem hi
  have nd := ll.nodup
  have lk := ll.links
  have act : ∀ k (hk : k < vac.length), h.Active vac[k] := fun k hk =>
    ll.active (List.getElem_mem hk)
  have inj : ∀ {j k : Nat} {hj : j < vac.length} {hk : k < vac.length}, vac[j] = vac[k] → j = k :=
    (List.getElem_inj nd).1
  have hpos := Nat.zero_lt_of_lt hp
  obtain ⟨a, ha, sa⟩ : ∃ a, a < vac.length ∧ CycStep vac.length a p :=
    ⟨_, Nat.mod_lt _ hpos, cycStep_pred hp⟩
  obtain ⟨b, hb, sb⟩ : ∃ b, b < vac.length ∧ CycStep vac.length p b :=
    ⟨_, Nat.mod_lt _ hpos, cycStep_succ hp⟩
  have epv : h.prevOf vac[p] = vac[a] := (lk a p ha hp sa).2
  have enx : h.nextOf vac[p] = vac[b] := (lk p b hp hb sb).1
  have apv : h.Active (h.prevOf vac[p]) := epv ▸ act a ha
  have anx : h.Active (h.nextOf vac[p]) := enx ▸ act b hb
  have ehd : h.head = some vac[0] := by
    rw [ll.head, List.head?_eq_getElem?, List.getElem?_eq_getElem hpos]
  have e := Helper.useIndex_iff.2 ⟨vac[0], ehd, act p hp,
    ((ll.mem _).1 (List.getElem_mem hp)).2, apv, anx, rfl⟩
  have eq := List.erase_eq_eraseIdx_of_idxOf (nd.idxOf_getElem p hp)
  have links : CycRel (h.unlink vac[p] vac[0]).Link (vac.eraseIdx p) := by
    refine CycRel.eraseIdx hp ?_ ?_
    · intro j k hj hk nej nek s
      -- `vac[j]` does not precede `vac[p]` and `vac[k]` does not follow it: not rewritten
      have n1 : vac[j] ≠ h.prevOf vac[p] := fun em =>
        nek ((s.inj sa hk hp).1 (inj (em.trans epv)))
      have n2 : vac[k] ≠ h.nextOf vac[p] := fun em =>
        nej ((s.inj sb hk hb).2 (inj (em.trans enx)))
      have l := lk j k hj hk s
      exact ⟨by rw [(Helper.unlink_links wf apv anx (act j hj)).1, if_neg n1]; exact l.1,
        by rw [(Helper.unlink_links wf apv anx (act k hk)).2, if_neg n2]; exact l.2⟩
    · intro j k hj hk s1 s2
      have l1 := lk j p hj hp s1
      have l2 := lk p k hp hk s2
      exact ⟨by rw [(Helper.unlink_links wf apv anx (act j hj)).1, if_pos l1.2.symm]; exact l2.1,
        by rw [(Helper.unlink_links wf apv anx (act k hk)).2, if_pos l2.1.symm]; exact l1.2⟩
  refine ⟨_, e, ?_, ?_, ?_, ?_, ?_⟩
  · rw [eq]; exact ll.sorted.eraseIdx p
  · intro j
    rw [nd.mem_erase_iff, ll.mem, (h.unlink_same _ _).active]
    constructor
    · rintro ⟨ne, aj, uj⟩
      exact ⟨aj, by rw [Helper.unlink_usedI wf (act p hp) aj, if_neg ne]; exact uj⟩
    · rintro ⟨aj, uj⟩
      rw [Helper.unlink_usedI wf (act p hp) aj] at uj
      by_cases ne : j = vac[p]
      · rw [if_pos ne] at uj; cases uj
      · rw [if_neg ne] at uj; exact ⟨ne, aj, uj⟩
  · rw [Helper.unlink_head, eq, List.head?_eq_getElem?, List.getElem?_eraseIdx, enx]
    by_cases e0 : p = 0
    · subst e0
      rw [if_pos rfl, if_neg (Nat.lt_irrefl 0)]
      -- position 0 is followed by position 1, or by itself in a one-element list
      rcases sb with rfl | ⟨e1, rfl⟩
      · rw [if_pos (fun em => Nat.succ_ne_zero 0 (inj em)), List.getElem?_eq_getElem hb]
      · rw [if_neg (fun ne => ne rfl), List.getElem?_eq_none (Nat.le_of_eq e1.symm)]
    · rw [if_neg (fun em => e0 (inj em).symm), if_pos (Nat.pos_of_ne_zero e0),
        List.getElem?_eq_getElem hpos]
  · rw [eq]; exact (cycRel_iff.1 links).1
  · rw [eq]; exact (cycRel_iff.1 links).2

theorem Helper.closeLoop_ll {fuel endIdx : Nat} (wf : h.WF)
    (ll : h.LL vac) (hf : (vac.filter (fun j => decide (j < endIdx))).length < fuel) :
    ∃ h', h.closeLoop fuel endIdx = .ok h' ∧
      h'.LL (vac.filter (fun j => decide (endIdx ≤ j))) := by
  induction fuel generalizing h vac with
  | zero => exact absurd hf (Nat.not_lt_zero _)
  | succ fuel ih =>
    unfold Helper.closeLoop
    cases vac with
    | nil =>
      have hh : h.head = none := ll.head
      rw [hh]
      exact ⟨h, rfl, ll⟩
    | cons x rest =>
      have hh : h.head = some x := ll.head
      rw [hh]
      by_cases hx : endIdx ≤ x
      · -- the list is ascending: nothing below `endIdx` is left
        have all : (x :: rest).filter (fun j => decide (endIdx ≤ j)) = x :: rest := by
          rw [List.filter_eq_self]
          intro a ha
          rcases List.mem_cons.1 ha with rfl | ha
          · exact decide_eq_true hx
          · have lt := (List.pairwise_cons.1 ll.sorted).1 a ha
            exact decide_eq_true (Nat.le_trans hx (Nat.le_of_lt lt))
        rw [all]
        exact ⟨h, if_pos hx, ll⟩
      · obtain ⟨h1, e1, ll1⟩ := Helper.useIndex_ll wf ll (List.mem_cons_self)
        rw [List.erase_cons_head] at ll1
        have hlt : decide (x < endIdx) = true := decide_eq_true (Nat.not_le.1 hx)
        rw [List.filter_cons, if_pos hlt, List.length_cons] at hf
        obtain ⟨h', e', ll'⟩ := ih ((Helper.useIndex_same e1).wf wf) ll1
          (Nat.lt_of_succ_lt_succ hf)
        refine ⟨h', ?_, ?_⟩
        · simp only [if_neg hx, e1]; exact e'
        · rw [List.filter_cons, if_neg (by rw [decide_eq_true_eq]; exact hx)]; exact ll'

theorem Helper.closedOf_ll (wf : h.WF) (ll : h.LL vac) :
    ∃ h1, h.closedOf = .ok h1 ∧
      h1.LL (vac.filter (fun j => decide ((h.numBlocks + 1 - h.nfb) * h.blockLen ≤ j))) := by
  rw [Helper.closedOf_eq wf]
  split
  · rename_i hf
    apply Helper.closeLoop_ll wf ll
    -- the vacant indices to close are ascending and lie in one block
    have e : h.numBlocks + 1 - h.nfb = h.activeStart + 1 := Nat.sub_add_comm hf
    rw [e]
    have := sorted_length_le (lo := h.activeStart * h.blockLen)
      (ll.sorted.filter (fun j => decide (j < (h.activeStart + 1) * h.blockLen))) (by
        intro x hx
        rw [List.mem_filter, decide_eq_true_eq] at hx
        exact ⟨(ll.active hx.1).1, hx.2⟩)
    have w : (h.activeStart + 1) * h.blockLen - h.activeStart * h.blockLen = h.blockLen := by
      rw [Nat.add_mul, Nat.one_mul, Nat.add_sub_cancel_left]
    rw [w] at this
    exact Nat.lt_succ_of_le this
  · rename_i hf
    have e0 : h.numBlocks + 1 - h.nfb = 0 := Nat.sub_eq_zero_of_le (Nat.not_le.1 hf)
    rw [e0, Nat.zero_mul, List.filter_eq_self.2 (fun a _ => decide_eq_true (Nat.zero_le a))]
    exact ⟨h, rfl, ll⟩

/-- What a successful `splice o e` returns when the list runs from `hd` to `tl`: the links
`tl → o` and `e - 1 → hd` are written. -/
def Helper.spliced (h2 : Helper) (o e hd tl : Nat) : Helper :=
  { h2 with next := (h2.next.setIfInBounds (tl % h2.cap) o).setIfInBounds ((e - 1) % h2.cap) hd,
            prev := (h2.prev.setIfInBounds (o % h2.cap) tl).setIfInBounds (hd % h2.cap) (e - 1),
            head := some hd }

/-- `splice` succeeds when the four indices it touches are active. Its branch for an empty list
is the other branch with the first index of the new block as head and the last as tail. -/
theorem Helper.splice_eq {h2 : Helper} {o e hd tl : Nat}
    (hh : (h2.head = none ∧ hd = o ∧ tl = e - 1) ∨ (h2.head = some hd ∧ tl = h2.prevOf hd))
    (a1 : h2.Active hd) (a2 : h2.Active o) (a3 : h2.Active (e - 1)) (a4 : h2.Active tl) :
    h2.splice o e = .ok (h2.spliced o e hd tl) := by
  unfold Helper.splice Helper.spliced
  rcases hh with ⟨hn, rfl, rfl⟩ | ⟨hs, rfl⟩
  · rw [hn, Array.setIfInBounds_setIfInBounds, Array.setIfInBounds_setIfInBounds]
    simp only [Helper.off_active a2, Helper.off_active a3]
  · have a4' : h2.off (h2.prev.getD (hd % h2.cap) 0) = .ok (h2.prevOf hd % h2.cap) :=
      Helper.off_active a4
    rw [hs]
    simp only [Helper.off_active a1, Helper.off_active a2, Helper.off_active a3, a4']
    rfl

theorem Helper.spliced_cap (h2 : Helper) (o e hd tl : Nat) :
    (h2.spliced o e hd tl).cap = h2.cap := by
  unfold Helper.cap Helper.spliced
  rw [Array.size_setIfInBounds, Array.size_setIfInBounds]

theorem Helper.spliced_links {h2 : Helper} {o e hd tl x : Nat} (wf : h2.WF) (a1 : h2.Active hd)
    (a2 : h2.Active o) (a3 : h2.Active (e - 1)) (a4 : h2.Active tl) (ax : h2.Active x) :
    (h2.spliced o e hd tl).nextOf x =
      (if x = e - 1 then hd else if x = tl then o else h2.nextOf x) ∧
    (h2.spliced o e hd tl).prevOf x =
      (if x = hd then e - 1 else if x = o then tl else h2.prevOf x) := by
  unfold Helper.nextOf Helper.prevOf
  rw [h2.spliced_cap]
  unfold Helper.spliced
  constructor
  · rw [← Helper.getD_set_active wf wf.size_next a4 ax,
      ← Helper.getD_set_active wf (Array.size_setIfInBounds.trans wf.size_next) a3 ax]
  · rw [← Helper.getD_set_active wf wf.size_prev a2 ax,
      ← Helper.getD_set_active wf (Array.size_setIfInBounds.trans wf.size_prev) a1 ax]

theorem Helper.Link.spliced {h2 : Helper} {o e hd tl x y : Nat} (l : h2.Link x y) (wf : h2.WF)
    (a1 : h2.Active hd) (a2 : h2.Active o) (a3 : h2.Active (e - 1)) (a4 : h2.Active tl)
    (ax : h2.Active x) (ay : h2.Active y) (x1 : x ≠ e - 1) (x2 : x ≠ tl) (y1 : y ≠ hd)
    (y2 : y ≠ o) : (h2.spliced o e hd tl).Link x y :=
  ⟨by rw [(Helper.spliced_links wf a1 a2 a3 a4 ax).1, if_neg x1, if_neg x2]; exact l.1,
    by rw [(Helper.spliced_links wf a1 a2 a3 a4 ay).2, if_neg y1, if_neg y2]; exact l.2⟩

theorem Helper.spliced_last {h2 : Helper} {o e hd tl : Nat} (wf : h2.WF) (a1 : h2.Active hd)
    (a2 : h2.Active o) (a3 : h2.Active (e - 1)) (a4 : h2.Active tl) :
    (h2.spliced o e hd tl).Link (e - 1) hd :=
  ⟨by rw [(Helper.spliced_links wf a1 a2 a3 a4 a3).1, if_pos rfl],
    by rw [(Helper.spliced_links wf a1 a2 a3 a4 a1).2, if_pos rfl]⟩

theorem Helper.splice_links {h2 : Helper} {l : List Nat} {o m : Nat} (wf : h2.WF) (hm : 0 < m)
    (hl : ∀ x ∈ l, h2.Active x ∧ x < o)
    (hnewA : ∀ j, j < m → h2.Active (o + j))
    (nd : l.Nodup)
    (hhd : h2.head = l.head?)
    (lk : CycRel h2.Link l)
    (hnew : ∀ j, j + 1 < m → h2.Link (o + j) (o + j + 1)) :
    ∃ h', h2.splice o (o + m) = .ok h' ∧ h'.head = (l ++ List.range' o m).head? ∧
      CycRel h'.Link (l ++ List.range' o m) := by
  have aO : h2.Active o := hnewA 0 hm
  have elast : o + m - 1 = o + (m - 1) := Nat.add_sub_assoc hm o
  have aE : h2.Active (o + m - 1) := elast ▸ hnewA _ (Nat.sub_lt hm Nat.one_pos)
  have below : ∀ {x}, x < o → x ≠ o + m - 1 := fun lt =>
    Nat.ne_of_lt (Nat.lt_of_lt_of_le lt (elast ▸ Nat.le_add_right o (m - 1)))
  -- whatever head and tail are, the links inside the block are not rewritten:
  -- `hd ≤ o ≤ o + j < o + m - 1`, and `tl` lies below `o` or is `o + m - 1`
  have inner : ∀ {hd tl : Nat}, h2.Active hd → h2.Active tl → hd ≤ o → tl < o ∨ tl = o + m - 1 →
      ∀ j, j + 1 < m → (h2.spliced o (o + m) hd tl).Link (o + j) (o + j + 1) := by
    intro hd tl a1 a4 hle htl j hj
    have lo : o ≤ o + j := Nat.le_add_right o j
    have hi : o + j ≠ o + m - 1 :=
      Nat.ne_of_lt (elast ▸ Nat.add_lt_add_left (Nat.lt_sub_of_add_lt hj) o)
    exact (hnew j hj).spliced wf a1 aO aE a4 (hnewA j (Nat.lt_of_succ_lt hj)) (hnewA (j + 1) hj)
      hi (htl.elim (fun lt => Nat.ne_of_gt (Nat.lt_of_lt_of_le lt lo)) (fun e => e ▸ hi))
      (Nat.ne_of_gt (Nat.lt_succ_of_le (Nat.le_trans hle lo))) (Nat.ne_of_gt (Nat.lt_succ_of_le lo))
  rw [head?_append_range' hm]
  by_cases hn0 : l = []
  · -- the block closes on itself
    subst hn0
    exact ⟨_, Helper.splice_eq (Or.inl ⟨hhd, rfl, rfl⟩) aO aO aE aE, rfl,
      CycRel.append_range hm (fun a h => absurd h (Nat.not_lt_zero _)) (fun a h => nomatch h)
        (inner aO aE (Nat.le_refl o) (Or.inr rfl)) (elast ▸ Helper.spliced_last wf aO aO aE aE)⟩
  · have hpos : 0 < l.length := List.length_pos_iff.2 hn0
    obtain ⟨t, et⟩ : ∃ t, t + 1 = l.length := ⟨l.length - 1, Nat.sub_add_cancel hpos⟩
    have ht : t < l.length := Nat.lt_of_lt_of_eq (Nat.lt_succ_self t) et
    have act : ∀ k (hk : k < l.length), h2.Active l[k] ∧ l[k] < o := fun k hk =>
      hl _ (List.getElem_mem hk)
    have inj : ∀ {j k : Nat} {hj : j < l.length} {hk : k < l.length}, l[j] = l[k] → j = k :=
      (List.getElem_inj nd).1
    have ehd0 : l.head? = some l[0] := by
      rw [List.head?_eq_getElem?, List.getElem?_eq_getElem hpos]
    have wrap := lk t 0 ht hpos (Or.inr ⟨et, rfl⟩)
    have a1 := (act 0 hpos).1
    have a4 := (act t ht).1
    have lo0 := (act 0 hpos).2
    have lot := (act t ht).2
    rw [ehd0]
    refine ⟨_, Helper.splice_eq (Or.inr ⟨hhd.trans ehd0, wrap.2.symm⟩) a1 aO aE a4, rfl,
      CycRel.append_range hm ?_ ?_ (inner a1 a4 (Nat.le_of_lt lo0) (Or.inl lot))
        (by rw [ehd0, ← elast]; exact Helper.spliced_last wf a1 aO aE a4)⟩
    · -- a link inside `l` starts before the tail and ends after the head
      intro a ha
      exact (lk a (a + 1) (Nat.lt_of_succ_lt ha) ha (Or.inl rfl)).spliced wf a1 aO aE a4
        (act a _).1 (act (a + 1) ha).1 (below (act a _).2)
        (fun em => Nat.ne_of_lt ha (et ▸ congrArg (· + 1) (inj em)))
        (fun em => Nat.succ_ne_zero a (inj em)) (Nat.ne_of_lt (act (a + 1) ha).2)
    · intro a ha
      obtain rfl : a = t := Nat.succ.inj (ha.trans et.symm)
      exact ⟨by rw [(Helper.spliced_links wf a1 aO aE a4 a4).1, if_neg (below lot), if_pos rfl],
        by rw [(Helper.spliced_links wf a1 aO aE a4 aO).2, if_neg (Nat.ne_of_gt lo0), if_pos rfl]⟩

theorem Helper.pushBlock_ll (wf : h.WF) (ll : h.LL vac)
    (hsz : h.numElements ≤ u32Max - h.blockLen) :
    ∃ h', h.pushBlock = .ok h' ∧
      h'.LL (vac.filter (fun j => decide (h'.activeStart * h.blockLen ≤ j)) ++
        List.range' (h.numBlocks * h.blockLen) h.blockLen) := by
  obtain ⟨hA0, hA⟩ := wf.shift_le
  have top := Nat.succ_mul h.numBlocks h.blockLen
  have hN : h.numBlocks * h.blockLen ≤ (h.numBlocks + 1) * h.blockLen :=
    Nat.mul_le_mul_right _ (Nat.le_succ _)
  obtain ⟨h1, ec, ll1⟩ := Helper.closedOf_ll wf ll
  obtain ⟨s1, _, _⟩ := Helper.closedOf_ok wf ec
  obtain ⟨h2, er, ebl, enfb, enb, wf2, ehd2, spec, _⟩ := Helper.newBlock_spec (s1.wf wf)
  rw [s1.numBlocks, s1.blockLen] at spec
  have act2 : ∀ x, h2.Active x ↔
      (h.numBlocks + 1 - h.nfb) * h.blockLen ≤ x ∧ x < (h.numBlocks + 1) * h.blockLen := by
    intro x
    unfold Helper.Active Helper.activeStart
    rw [enb, enfb, ebl, s1.numBlocks, s1.nfb, s1.blockLen]
  have hv1 : ∀ x ∈ vac.filter (fun j => decide ((h.numBlocks + 1 - h.nfb) * h.blockLen ≤ j)),
      h2.Active x ∧ x < h.numBlocks * h.blockLen := by
    intro x hx
    rw [List.mem_filter, decide_eq_true_eq] at hx
    have lt := (ll.active hx.1).2
    exact ⟨(act2 x).2 ⟨hx.2, Nat.lt_of_lt_of_le lt hN⟩, lt⟩
  have aNew : ∀ j, j < h.blockLen → h2.Active (h.numBlocks * h.blockLen + j) := fun j hj =>
    (act2 _).2 ⟨Nat.le_trans hA (Nat.le_add_right _ _), top ▸ Nat.add_lt_add_left hj _⟩
  have fresh : ∀ j (hj : j < h.blockLen), h2.Fresh (h.numBlocks * h.blockLen + j) := fun j hj =>
    (spec _ (aNew j hj)).1 (Nat.le_add_right _ _)
  -- the links: those of the closed helper survive the reset, the new block is chained
  obtain ⟨h', es, ehd, links⟩ := Helper.splice_links wf2 wf.blockLen_pos hv1 aNew ll1.nodup
    (ehd2.trans ll1.head)
    (ll1.links.imp (fun x hx y hy l =>
      ⟨((spec x (hv1 x hx).1).2 (hv1 x hx).2).nextOf.trans l.1,
        ((spec y (hv1 y hy).1).2 (hv1 y hy).2).prevOf.trans l.2⟩))
    (fun j hj => ⟨(fresh j (Nat.lt_of_succ_lt hj)).nextOf, (fresh (j + 1) hj).prevOf_succ⟩)
  have e : h.pushBlock = .ok h' := Helper.pushBlock_iff.2 ⟨hsz, h1, h2, ec, er, by
    rw [Helper.numElements, s1.numBlocks, s1.blockLen]; exact es⟩
  obtain ⟨enb', ebl', enfb', _, new, old⟩ := Helper.pushBlock_ok wf e
  have act' := fun x => ((Helper.splice_ok es).1.active x).trans (act2 x)
  have eas : h'.activeStart = h.numBlocks + 1 - h.nfb := by
    unfold Helper.activeStart; rw [enb', enfb']
  refine ⟨h', e, ?_⟩
  rw [eas]
  refine ⟨?_, ?_, ehd, (cycRel_iff.1 links).1, (cycRel_iff.1 links).2⟩
  · rw [List.pairwise_append]
    refine ⟨ll.sorted.filter _, List.pairwise_lt_range', fun a ha b hb => ?_⟩
    exact Nat.lt_of_lt_of_le (ll.active (List.mem_filter.1 ha).1).2 (List.mem_range'_1.1 hb).1
  · intro j
    rw [List.mem_append, List.mem_filter, List.mem_range'_1, ll.mem, act', decide_eq_true_eq,
      ← top]
    constructor
    · rintro (⟨⟨aj, uj⟩, lo⟩ | ⟨lo, hi⟩)
      · have hi := Nat.lt_of_lt_of_le aj.2 hN
        exact ⟨⟨lo, hi⟩, (old j ((act' j).2 ⟨lo, hi⟩) aj.2).1.trans uj⟩
      · exact ⟨⟨Nat.le_trans hA lo, hi⟩, (new j lo hi).1⟩
    · rintro ⟨⟨lo, hi⟩, uj⟩
      by_cases hj : j < h.numBlocks * h.blockLen
      · exact Or.inl ⟨⟨⟨Nat.le_trans hA0 lo, hj⟩,
          (old j ((act' j).2 ⟨lo, hi⟩) hj).1.symm.trans uj⟩, lo⟩
      · exact Or.inr ⟨Nat.not_lt.1 hj, hi⟩

theorem Helper.vacantFrom_ll (ll : h.LL vac) (hne : 0 < vac.length) :
    ∀ fuel k (hk : k < vac.length), vac.length - k ≤ fuel →
      h.vacantFrom vac[0] fuel vac[k] = .ok (vac.drop k) := by
  have lk := ll.links
  intro fuel
  induction fuel with
  | zero => exact fun k hk hf => absurd (Nat.sub_pos_of_lt hk) (Nat.not_lt.2 hf)
  | succ fuel ih =>
    intro k hk hf
    unfold Helper.vacantFrom
    rw [Helper.off_active (ll.active (List.getElem_mem hk)), List.drop_eq_getElem_cons hk]
    by_cases e : k + 1 = vac.length
    · have enx : h.next.getD (vac[k] % h.cap) 0 = vac[0] := (lk k 0 hk hne (Or.inr ⟨e, rfl⟩)).1
      simp only [enx, if_pos, List.drop_eq_nil_of_le (Nat.le_of_eq e.symm)]
    · have hk1 : k + 1 < vac.length := Nat.lt_of_le_of_ne hk e
      have enx : h.next.getD (vac[k] % h.cap) 0 = vac[k + 1] := (lk k (k + 1) hk hk1 (Or.inl rfl)).1
      have ne : vac[k + 1] ≠ vac[0] := fun em =>
        Nat.succ_ne_zero k ((List.getElem_inj ll.nodup).1 em)
      simp only [enx, if_neg ne, ih (k + 1) hk1 (Nat.pred_le_pred hf)]

theorem Helper.vacant_ll (wf : h.WF) (ll : h.LL vac) :
    h.vacant = .ok vac := by
  unfold Helper.vacant
  cases vac with
  | nil =>
    have hh : h.head = none := ll.head
    rw [hh]
  | cons x r =>
    have hh : h.head = some x := ll.head
    rw [hh]
    exact Helper.vacantFrom_ll ll (Nat.succ_pos _) (h.cap + 1) 0 (Nat.succ_pos _)
      (Nat.le_succ_of_le (ll.length_le wf))

theorem Helper.new_ll {bl nfb : Nat} (e : Helper.new bl nfb = .ok h) : h.LL [] := by
  obtain ⟨_, n0, _, _, hd, _, _⟩ := Helper.new_ok e
  refine ⟨List.Pairwise.nil, ?_, hd, fun k hk => absurd hk (Nat.not_lt_zero k),
    fun k hk => absurd hk (Nat.not_lt_zero k)⟩
  intro i
  refine ⟨fun m => absurd m List.not_mem_nil, fun ⟨a, _⟩ => ?_⟩
  have := a.2
  rw [n0, Nat.zero_mul] at this
  exact absurd this (Nat.not_lt_zero i)

theorem Helper.init_ll {bl nfb : Nat} (hbl : 2 ≤ bl) (hnfb : 1 ≤ nfb) (hcap : bl * nfb ≤ u32Max) :
    ∃ h0 h1 h2 h3, Helper.new bl nfb = .ok h0 ∧ h0.pushBlock = .ok h1 ∧
      h1.useIndex 0 = .ok h2 ∧ h2.useIndex 1 = .ok h3 ∧ h3.WF ∧
      h3.LL (List.range' 2 (bl - 2)) := by
  obtain ⟨bl, rfl⟩ : ∃ b, bl = b + 2 := ⟨bl - 2, (Nat.sub_add_cancel hbl).symm⟩
  have hpos : 0 < (bl + 2) * nfb := Nat.mul_pos (Nat.succ_pos _) hnfb
  obtain ⟨h0, e0⟩ : ∃ h0, Helper.new (bl + 2) nfb = .ok h0 := by
    unfold Helper.new
    simp only
    rw [if_neg (Nat.not_lt.2 hcap), if_neg (Nat.ne_of_gt hpos)]
    exact ⟨_, rfl⟩
  obtain ⟨wf0, n0, b0, _, _, _, _⟩ := Helper.new_ok e0
  obtain ⟨h1, e1, ll1⟩ := Helper.pushBlock_ll wf0 (Helper.new_ll e0) (by
    unfold Helper.numElements; rw [n0, Nat.zero_mul]; exact Nat.zero_le _)
  rw [n0, b0, Nat.zero_mul, List.filter_nil, List.nil_append] at ll1
  have wf1 := (Helper.pushBlock_ok wf0 e1).2.2.2.1
  obtain ⟨h2, e2, ll2⟩ := Helper.useIndex_ll (i := 0) wf1 ll1
    (List.mem_range'_1.2 ⟨Nat.le_refl _, Nat.lt_add_of_pos_right (Nat.succ_pos _)⟩)
  rw [List.range'_succ, List.erase_cons_head] at ll2
  have wf2 := (Helper.useIndex_same e2).wf wf1
  obtain ⟨h3, e3, ll3⟩ := Helper.useIndex_ll (i := 1) wf2 ll2
    (List.mem_range'_1.2 ⟨Nat.le_refl _, Nat.lt_add_of_pos_right (Nat.succ_pos _)⟩)
  rw [List.range'_succ, List.erase_cons_head] at ll3
  exact ⟨h0, h1, h2, h3, e0, e1, e2, e3, (Helper.useIndex_same e3).wf wf2, ll3⟩

end

/-- The only non-`ok` outcome of `pushBlock` on a linked helper is the (non-panic) scale error. -/
theorem Helper.pushBlock_scale {h : Helper} (hsz : h.numElements > u32Max - h.blockLen) :
    h.pushBlock = .error .automatonScale := by
  rw [Helper.pushBlock_eq, if_pos hsz]

theorem Helper.isUsedIndex_active {h : Helper} {i : Nat} (a : h.Active i) :
    ∃ b, h.isUsedIndex i = .ok b := ⟨_, Helper.isUsedIndex_ok.2 ⟨a, rfl⟩⟩

theorem Helper.isUsedBase_active {h : Helper} {i : Nat} (a : h.Active i) :
    ∃ b, h.isUsedBase i = .ok b := ⟨_, Helper.isUsedBase_ok.2 ⟨a, rfl⟩⟩

section
variable {h h' : Helper} {vac : List Nat}

theorem Helper.useBase_active {i : Nat} (a : h.Active i) :
    ∃ h', h.useBase i = .ok h' := by
  unfold Helper.useBase
  rw [Helper.off_active a]
  exact ⟨_, rfl⟩

theorem Helper.useBase_ll {i : Nat} (ll : h.LL vac)
    (e : h.useBase i = .ok h') : h'.LL vac := by
  unfold Helper.useBase at e
  split at e
  · cases e
  · cases e
    exact ⟨ll.sorted, ll.mem, ll.head, ll.next, ll.prev⟩

theorem Helper.unusedBaseFrom_active {n base : Nat}
    (ha : ∀ j, base ≤ j → j < base + n → h.Active j) : ∃ r, h.unusedBaseFrom n base = .ok r := by
  induction n generalizing base with
  | zero => exact ⟨none, rfl⟩
  | succ n ih =>
    unfold Helper.unusedBaseFrom
    have a := ha base (Nat.le_refl _) (Nat.lt_add_of_pos_right (Nat.succ_pos n))
    rw [Helper.isUsedBase_ok.2 ⟨a, rfl⟩]
    cases h.usedB base with
    | false => exact ⟨_, rfl⟩
    | true =>
      exact ih (fun j lo hi => ha j (Nat.le_of_succ_le lo) (Nat.add_right_comm base 1 n ▸ hi))

theorem Helper.unusedBaseInBlock_active {b : Nat}
    (ha : ∀ j, b * h.blockLen ≤ j → j < (b + 1) * h.blockLen → h.Active j) :
    ∃ r, h.unusedBaseInBlock b = .ok r := by
  unfold Helper.unusedBaseInBlock
  apply Helper.unusedBaseFrom_active
  intro j lo hi
  exact ha j lo (by rw [Nat.add_mul, Nat.one_mul]; exact hi)

end

#print axioms Helper.useIndex_ll
#print axioms Helper.closeLoop_ll
#print axioms Helper.pushBlock_ll
#print axioms Helper.vacant_ll
#print axioms Helper.init_ll
#print axioms Helper.unusedBaseInBlock_active

end Daac
