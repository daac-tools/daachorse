/-
Shared vocabulary of the translation tie (Proofs/TieCollect.lean, TieB.lean, TieC.lean).
-/
import Daac.Gen.Prelude
namespace Daac.Tie
open Daac Daac.Gen

variable {V : Type}

/-- `Option<NonZeroU32>` as the model stores it (0 = `None`). -/
def optNat : Option Nat → Nat
  | none => 0
  | some n => n

/-- Observable part of a `next()` result of a generated iterator, in the model's vocabulary. -/
def obs {σ τ : Type} (abs : σ → τ) (p : Option (Rs.Match V) × σ) : Option (Daac.Match V) × τ :=
  (p.1.map Rs.Match.toModel, abs p.2)

/-- The same for the model's `Step`. -/
def obsM {τ : Type} (st : Step τ V) : Option (Daac.Match V) × τ := (st.result, st.it)

end Daac.Tie
