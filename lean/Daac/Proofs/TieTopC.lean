import Daac.Gen.BuildTopC
import Daac.Proofs.TiePC
import Daac.Proofs.TieTopCFrame
import Daac.Proofs.TieTop
/-!
Translation tie, the top of the char-wise builder: the generated
`CharwiseDoubleArrayAhoCorasickBuilder::{build_original_nfa_and_mapper, build_with_values}`
(tools/top2lean.py, profile `charwise` → Gen/BuildTopC.lean, namespace `Gen.TC`) against the hand-written
sequencing glue `Tie.PC.addCountAllGen` / `Tie.PC.genBuildC` (Proofs/TiePC.lean), and hence — through
`genBuildC_eq_buildDA`, `generated_charwise_build_eq_buildDA`, `pipeline_refines_charwise` — the model
`buildDA .charwise`.  Same plan as Proofs/TieTop.lean; the frame property of the translated char-wise
`build_double_array` (`match_kind`, `mapper`, `num_free_blocks` are never written) is Proofs/TieTopCFrame.lean.
-/
namespace Daac.Tie.TopC
open Daac Daac.Gen Daac.Gen.N Daac.Gen.M Daac.Tie.N Daac.Tie.F Daac.Tie.P Daac.Tie.H Daac.Tie.PC Daac.Tie.Top

variable {V : Type}

/-- The label-level reading of `patvals`: a pattern (list of code points) is its own key; its byte
length is the sum of the UTF-8 widths of its characters. -/
def toLPatsC (pv : List (List Nat × V)) : List (LPat V) :=
  pv.map fun p => ⟨p.1, (p.1.map Rs.lenUtf8).sum, p.2⟩

/-- The content of the scratch vector `chars` after the pattern loop: the last pattern (dropped when the
block ends). -/
def lastChars : List Nat → List (List Nat × V) → List Nat
  | ch, [] => ch
  | _, p :: rest => lastChars p.1 rest

/-- The translated pattern loop of `build_original_nfa_and_mapper`
(`chars.clear(); pattern.as_ref().chars().for_each(|c| chars.push(c)); nfa.add(&chars, value)?;`
then the counting loop) is the hand-written interleaved fold `addCountAllGen` with `nb = Rs.lenUtf8`. -/
theorem loop0_eq (pv : List (List Nat × V)) : ∀ (g : NfaBuilder V) (fr : Array Nat) (ch : List Nat),
    TC.Builder.build_original_nfa_and_mapper.loop0 pv g fr ch =
      match addCountAllGen Rs.lenUtf8 g fr (toLPatsC pv) with
      | .error e => .error e
      | .ok r => .ok (r.1, r.2, lastChars ch pv) := by
  induction pv with
  | nil => intro g fr ch; rfl
  | cons p rest ih =>
    intro g fr ch
    unfold TC.Builder.build_original_nfa_and_mapper.loop0 toLPatsC
    rw [List.map_cons, addCountAllGen, lastChars]
    dsimp only
    -- `pattern.as_ref().chars().for_each(|c| chars.push(c))` appends the pattern to the cleared `chars`
    rw [Tie.D.foldl_push, List.nil_append]
    cases NfaBuilder.add Rs.lenUtf8 g p.1 p.2 with
    | error e => rfl
    | ok r =>
      dsimp only
      cases count_chars fr p.1 with
      | error e => rfl
      | ok fr' => exact ih r.2 fr' p.1

/-- The first part of the glue `Tie.PC.genBuildC`: interleaved pattern loop, `CodeMapper::new`, the
emptiness test, the fail pass selected by the kind, `build_outputs`. -/
def origGlue (kind : Nat) (P : List (LPat V)) : Except BuildErr (NfaBuilder V × CodeMapper) :=
  match addCountAllGen Rs.lenUtf8 (NfaBuilder.new kind) #[] P with
  | .error e => .error e
  | .ok (g, freqs) =>
    match CodeMapper.new freqs with
    | .error e => .error e
    | .ok m =>
      if g.len = 0 then .error .invalidArgument else
      match failPass kind g with
      | .error e => .error e
      | .ok (q, g1) =>
        match NfaBuilder.build_outputs g1 q with
        | .error e => .error e
        | .ok (_, g2) => .ok (g2, m)

theorem genBuildC_eq_origGlue (kind nfb : Nat) (P : List (LPat V)) :
    genBuildC Rs.lenUtf8 kind nfb P = match origGlue kind P with
      | .error e => .error e
      | .ok (g2, m) => (DC.Builder.build_double_array ⟨#[], toMapper m, kind, 0, nfb⟩ g2).map (·.2.states) := by
  unfold genBuildC
  -- along the definition of `origGlue`: in every case both sides take the same exit
  fun_cases origGlue kind P <;> simp only [*, reduceIte]

/-- The conversion generated by tools/top2lean.py is the one of the glue. -/
theorem repr_eq_toMapper (m : CodeMapper) : TC.CodeMapper.repr m = toMapper m := rfl

/-- The translated `build_original_nfa_and_mapper` is the first part of the glue; the builder it returns
is the given one with the new mapper.  `hk`: the kind byte is one of the three `MatchKind` discriminants. -/
theorem build_original_nfa_and_mapper_eq (b : LC.Builder) (pv : List (List Nat × V)) (hk : b.match_kind ≤ 2) :
    TC.Builder.build_original_nfa_and_mapper b pv =
      match origGlue b.match_kind (toLPatsC pv) with
      | .error e => .error e
      | .ok (g2, m) => .ok (g2, { b with mapper := toMapper m }) := by
  unfold TC.Builder.build_original_nfa_and_mapper origGlue failPass
  dsimp only
  rw [loop0_eq]
  cases addCountAllGen Rs.lenUtf8 (NfaBuilder.new b.match_kind : NfaBuilder V) #[] (toLPatsC pv) with
  | error e => rfl
  | ok r =>
    obtain ⟨g, fr⟩ := r
    dsimp only
    cases CodeMapper.new fr with
    | error e => rfl
    | ok m =>
      dsimp only
      rw [kind_dispatch hk]
      by_cases hl : g.len = 0
      · rw [if_pos hl, if_pos (beq_iff_eq.mpr hl)]
      · rw [if_neg hl, if_neg (mt beq_iff_eq.mp hl)]
        by_cases h0 : b.match_kind = 0
        · rw [if_pos h0, if_pos h0]
          cases NfaBuilder.build_fails g with
          | error e => rfl
          | ok r =>
            obtain ⟨q, g1⟩ := r
            dsimp only
            cases NfaBuilder.build_outputs g1 q <;> rfl
        · rw [if_neg h0, if_neg h0]
          cases NfaBuilder.build_fails_leftmost g with
          | error e => rfl
          | ok r =>
            obtain ⟨q, g1⟩ := r
            dsimp only
            cases NfaBuilder.build_outputs g1 q <;> rfl

theorem addAllGen_of_addCount (nb : Nat → Nat) (P : List (LPat V)) (g0 g : NfaBuilder V) (fr0 fr : Array Nat)
    (h : addCountAllGen nb g0 fr0 P = .ok (g, fr)) : addAllGen nb g0 P = .ok g := by
  rw [addCountAllGen_eq] at h
  cases ha : addAllGen nb g0 P with
  | error e => rw [ha] at h; cases h
  | ok g' =>
    rw [ha] at h
    dsimp only at h
    split at h
    · cases h
    · rw [(Prod.mk.inj (Except.ok.inj h)).1]

/-- What a successful `origGlue` gives under the hypotheses of the end-to-end theorem: the state count
converts to `u32`, and a successful model build has the same outputs, state count, kind and code mapper. -/
theorem origGlue_facts (kind : Nat) (cfg : Cfg) (P : List (LPat V))
    (hkind : cfg.kind = kind) (hnfb : 1 ≤ cfg.nfb) (hch : ∀ p ∈ P, ∀ c ∈ p.key, c ≤ 0x10FFFF)
    (hsz : 2 + (P.map (·.key.length)).sum ≤ 4294967295)
    (hlen : ∀ p ∈ P, (p.key.map Rs.lenUtf8).sum = p.blen ∧ p.blen ≤ 4294967295)
    (g2 : NfaBuilder V) (m : CodeMapper) (h : origGlue kind P = .ok (g2, m)) :
    1 ≤ g2.states.size ∧ g2.states.size - 1 ≤ Rs.u32Max ∧
      ∀ da, buildDA .charwise cfg P = .ok da →
        OutsRel g2.outputs da.outputs ∧ da.numStates = g2.states.size - 1 ∧ da.kind = kind ∧
        da.mapTable = m.table ∧ da.alphaSize = m.alphabet_size := by
  revert h
  fun_cases origGlue kind P <;> intro h
  case case6 g fr hac m' hnew hl q g1 hfp _ g2' hbo =>
    -- the leaf that returns; the two lower ties below speak of the same `fr`, `m'`, `q`, `g1`, `g2'`
    have hadd := addAllGen_of_addCount _ _ _ _ _ _ hac
    obtain ⟨a, _, _, _, _, _, hfp', hbo', hs2, hsg, _, _⟩ :=
      pipeline_refines_charwise Rs.lenUtf8 kind cfg P hnfb hch hsz hlen g hadd hl
        ⟨#[], Mapper.build P, kind, 0, cfg.nfb⟩ rfl rfl rfl
    cases hfp.symm.trans hfp'
    cases hbo.symm.trans hbo'
    obtain ⟨_, _, _, _, _, hac', hnew', hfp', hbo', _, hfacts⟩ :=
      generated_charwise_build_eq_buildDA Rs.lenUtf8 kind cfg P hkind hnfb hch hsz hlen g hadd hl
    cases hac.symm.trans hac'
    cases hnew.symm.trans hnew'
    cases hfp.symm.trans hfp'
    cases hbo.symm.trans hbo'
    cases h
    have hfr := (addAllGen_fresh Rs.lenUtf8 P (NfaBuilder.new kind) g hadd (new_fresh kind)).2.1
    rw [show (NfaBuilder.new kind : NfaBuilder V).states.size = 2 from rfl] at hfr
    have hgs : g2.states.size = g.states.size := hs2.trans hsg.symm
    refine ⟨hs2 ▸ Nat.le_add_left 1 _, Nat.le_trans (Nat.sub_le _ _) (hgs ▸ Nat.le_trans hfr hsz),
      fun da hda => ?_⟩
    rw [hgs]
    exact hfacts da hda
  all_goals cases h

/-- The translated char-wise `build_with_values` (on the builder `new()` leaves: `states` empty, any mapper
`m0`, `block_len` 0), the glue `genBuildC` and the model `buildDA .charwise` on patterns within the `u32`
scale: all three fail, the first two with the same error and the model with the same error kind, or all
three succeed with the same state table, and then `num_states`, the mapper, `match_kind` (the last two never
written by `build_double_array`: Proofs/TieTopCFrame.lean) and the output records agree as well. -/
theorem build_with_values_casesC (kind : Nat) (cfg : Cfg) (m0 : Mapper) (pv : List (List Nat × V))
    (hk : kind ≤ 2) (hkind : cfg.kind = kind) (hnfb : 1 ≤ cfg.nfb)
    (hch : ∀ p ∈ pv, ∀ c ∈ p.1, c ≤ 0x10FFFF)
    (hsz : 2 + (pv.map (·.1.length)).sum ≤ 4294967295)
    (hbl : ∀ p ∈ pv, (p.1.map Rs.lenUtf8).sum ≤ 4294967295) :
    (∃ e e', TC.Builder.build_with_values ⟨#[], m0, kind, 0, cfg.nfb⟩ pv = .error e ∧
        genBuildC Rs.lenUtf8 kind cfg.nfb (toLPatsC pv) = .error e ∧
        buildDA .charwise cfg (toLPatsC pv) = .error e' ∧
        norm (.error e : Except BuildErr Unit) = norm (.error e')) ∨
    (∃ a da, TC.Builder.build_with_values ⟨#[], m0, kind, 0, cfg.nfb⟩ pv = .ok a ∧
        genBuildC Rs.lenUtf8 kind cfg.nfb (toLPatsC pv) = .ok a.states ∧
        buildDA .charwise cfg (toLPatsC pv) = .ok da ∧
        a.states = da.states ∧ a.num_states = da.numStates ∧
        a.mapper.table = da.mapTable ∧ a.mapper.alphaSize = da.alphaSize ∧
        a.match_kind = kind ∧ da.kind = kind ∧ OutsRel a.outputs da.outputs) := by
  have hlen : ∀ p ∈ toLPatsC pv, (p.key.map Rs.lenUtf8).sum = p.blen ∧ p.blen ≤ 4294967295 := by
    intro p hp
    obtain ⟨x, hx, rfl⟩ := List.mem_map.mp hp
    exact ⟨rfl, hbl x hx⟩
  have hsz' : 2 + ((toLPatsC pv).map (·.key.length)).sum ≤ 4294967295 := by
    unfold toLPatsC
    rw [List.map_map]
    exact hsz
  have hch' : ∀ p ∈ toLPatsC pv, ∀ c ∈ p.key, c ≤ 0x10FFFF := by
    intro p hp
    obtain ⟨x, hx, rfl⟩ := List.mem_map.mp hp
    exact hch x hx
  have hE := genBuildC_eq_buildDA Rs.lenUtf8 kind cfg (toLPatsC pv) hkind hnfb hch' hsz' hlen
  have hfacts := origGlue_facts kind cfg (toLPatsC pv) hkind hnfb hch' hsz' hlen
  rw [genBuildC_eq_origGlue] at hE ⊢
  unfold TC.Builder.build_with_values
  rw [build_original_nfa_and_mapper_eq ⟨#[], m0, kind, 0, cfg.nfb⟩ pv hk]
  dsimp only
  cases hs : origGlue kind (toLPatsC pv) with
  | error e =>
    rw [hs] at hE
    obtain ⟨e', hy, hn⟩ := norm_error_cases hE
    exact .inl ⟨e, e', rfl, rfl, hy, hn⟩
  | ok s =>
    obtain ⟨g2, m⟩ := s
    rw [hs] at hE
    obtain ⟨h1, hu, hda⟩ := hfacts g2 m hs
    dsimp only at hE ⊢
    cases hd : DC.Builder.build_double_array ⟨#[], toMapper m, kind, 0, cfg.nfb⟩ g2 with
    | error e =>
      rw [hd] at hE
      obtain ⟨e', hy, hn⟩ := norm_error_cases hE
      exact .inl ⟨e, e', rfl, rfl, hy, hn⟩
    | ok r =>
      rw [hd] at hE
      obtain ⟨da, hy, hst⟩ := norm_ok_cases hE
      obtain ⟨houts, hnum, hkd, htab, hal⟩ := hda da hy
      have hframe := build_double_array_frameC _ _ _ _ hd
      refine .inr ⟨⟨r.2.states, r.2.mapper, g2.outputs, r.2.match_kind, g2.states.size - 1⟩, da, ?_, rfl, hy,
        hst, hnum.symm, ?_, ?_, hframe.1, hkd, houts⟩
      · dsimp only
        rw [if_pos (decide_eq_true h1), u32TryFrom_ok hu]
      · rw [htab]; exact congrArg Mapper.table hframe.2.1
      · rw [hal]; exact congrArg Mapper.alphaSize hframe.2.1

/-- For every collection of patterns (lists
of Unicode scalar values) within the `u32` scale, `kind` one of the three `MatchKind` bytes,
`cfg.kind = kind`, `1 ≤ cfg.nfb`: the translated `build_with_values`, run on the builder `new()` leaves
(`states` empty, any mapper `m0`, `block_len` 0) with that kind and `cfg.nfb` free blocks, and the model
`buildDA .charwise cfg` fail with the same error kind (up to panic texts), or both succeed with equal
`states`, equal `num_states`, the same mapper table and alphabet size, `match_kind = kind` = the
model's kind, and related `outputs`. -/
theorem generated_build_with_values_eq_buildDA_charwise (kind : Nat) (cfg : Cfg) (m0 : Mapper)
    (pv : List (List Nat × V))
    (hk : kind ≤ 2) (hkind : cfg.kind = kind) (hnfb : 1 ≤ cfg.nfb)
    (hch : ∀ p ∈ pv, ∀ c ∈ p.1, c ≤ 0x10FFFF)
    (hsz : 2 + (pv.map (·.1.length)).sum ≤ 4294967295)
    (hbl : ∀ p ∈ pv, (p.1.map Rs.lenUtf8).sum ≤ 4294967295) :
    match TC.Builder.build_with_values ⟨#[], m0, kind, 0, cfg.nfb⟩ pv, buildDA .charwise cfg (toLPatsC pv) with
    | .error e, .error e' => norm (.error e : Except BuildErr Unit) = norm (.error e')
    | .ok a, .ok da => a.states = da.states ∧ a.num_states = da.numStates ∧
        a.mapper.table = da.mapTable ∧ a.mapper.alphaSize = da.alphaSize ∧
        a.match_kind = kind ∧ a.match_kind = da.kind ∧ OutsRel a.outputs da.outputs
    | _, _ => False := by
  rcases build_with_values_casesC kind cfg m0 pv hk hkind hnfb hch hsz hbl with
    ⟨e, e', hx, _, hy, hn⟩ | ⟨a, da, hx, _, hy, hst, hnum, htab, hal, hka, hkd, houts⟩
  · rw [hx, hy]
    exact hn
  · rw [hx, hy]
    exact ⟨hst, hnum, htab, hal, hka, hka.trans hkd.symm, houts⟩

theorem build_with_values_states_eqC (kind : Nat) (cfg : Cfg) (m0 : Mapper) (pv : List (List Nat × V))
    (hk : kind ≤ 2) (hkind : cfg.kind = kind) (hnfb : 1 ≤ cfg.nfb)
    (hch : ∀ p ∈ pv, ∀ c ∈ p.1, c ≤ 0x10FFFF)
    (hsz : 2 + (pv.map (·.1.length)).sum ≤ 4294967295)
    (hbl : ∀ p ∈ pv, (p.1.map Rs.lenUtf8).sum ≤ 4294967295) :
    match TC.Builder.build_with_values ⟨#[], m0, kind, 0, cfg.nfb⟩ pv,
          genBuildC Rs.lenUtf8 kind cfg.nfb (toLPatsC pv) with
    | .error e, .error e' => norm (.error e : Except BuildErr Unit) = norm (.error e')
    | .ok a, .ok s => a.states = s
    | _, _ => False := by
  rcases build_with_values_casesC kind cfg m0 pv hk hkind hnfb hch hsz hbl with
    ⟨e, e', hx, hg, _⟩ | ⟨a, da, hx, hg, _⟩
  · rw [hx, hg]
  · rw [hx, hg]

end Daac.Tie.TopC

#print axioms Daac.Tie.TopC.loop0_eq
#print axioms Daac.Tie.TopC.build_original_nfa_and_mapper_eq
#print axioms Daac.Tie.TopC.build_with_values_states_eqC
#print axioms Daac.Tie.TopC.generated_build_with_values_eq_buildDA_charwise
