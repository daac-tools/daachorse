/-
Every automaton returned by the construction pipeline `buildDA` is well formed for serialisation
(`DA.WF`, Proofs/SerialRT.lean), hence the round trip `deserialize (serialize da ++ rest)` applies
to every BUILT automaton.

The element array is covered by `LayoutBounds` and the output table by `OutOk` (values / lengths
come from trie nodes, at most one record per queue entry; both Proofs/Bounds2.lean); what remains
is the mapper table.
-/
import Daac.Proofs.Bounds2
import Daac.Proofs.SerialRT
namespace Daac
variable {V : Type}

/-- The queue holds every node except the root. -/
theorem queue_length (t : Trie V) (hs : t.Sorted) : t.queue.length + 1 = t.size := by
  have := Trie.size_eq_of_nodes t hs ([] :: t.queue)
    (List.nodup_cons.mpr ⟨fun h => ((Trie.mem_queue t []).1 h).2 rfl, Trie.nodup_queue t hs⟩)
    (fun u => by
      rw [List.mem_cons, Trie.mem_queue]
      show _ ↔ t.hasNode u = true
      by_cases h0 : u = []
      · subst h0; simp
      · simp [h0])
  rw [this]; rfl

theorem mapperFor_wf (variant : Variant) (P : List (LPat V)) {B : Nat} (hinv : invalidCode < B)
    (htab : variant = .charwise → tableLen P < B) :
    (mapperFor variant P).table.size < B ∧ (∀ c ∈ (mapperFor variant P).table.toList, c < B) ∧
      (mapperFor variant P).alphaSize < B ∧
      (variant = .bytewise → (mapperFor variant P).table = #[] ∧
        (mapperFor variant P).alphaSize = 0) := by
  cases variant with
  | bytewise =>
    have h0 : 0 < B := Nat.zero_lt_of_lt hinv
    exact ⟨h0, fun c hc => (nomatch hc), h0, fun _ => ⟨rfl, rfl⟩⟩
  | charwise =>
    obtain ⟨ha, hs⟩ := mapper_alpha_le P
    have hα : (Mapper.build P).alphaSize < B := Nat.lt_of_le_of_lt ha (htab rfl)
    refine ⟨hs ▸ htab rfl, fun c hc => ?_, hα, fun h => (nomatch h)⟩
    rcases mapper_entry P c (Array.mem_toList_iff.1 hc) with h | h
    · exact h ▸ hinv
    · exact Nat.lt_trans h hα

theorem stWF_of_slot {v : Variant} {N M : Nat} {s : St} (hN : N ≤ u32Max) (hM : M < 2 ^ 32)
    (hb : s.base < N) (h : SlotOk v N M s) : s.WF v := by
  have hN' : N < 2 ^ 32 := Nat.lt_succ_of_le hN
  refine ⟨Nat.lt_trans hb hN', Nat.lt_of_lt_of_le h.check ?_, Nat.lt_trans h.fail hN',
    Nat.lt_of_le_of_lt h.opos hM, fun hv => ?_, fun hv => Nat.lt_succ_of_le (h.opos24 hv)⟩
  · cases v <;> decide
  · subst hv; exact h.check

theorem wf_of_build (S : Ser V) (D : V → Prop) (variant : Variant) (cfg : Cfg)
    (P : List (LPat V)) (da : DA V)
    (hb : buildDA variant cfg P = .ok da) (hk : keysOk P)
    (hbytes : variant = .bytewise → ∀ p ∈ P, ∀ c ∈ p.key, c < 256)
    (hkind : cfg.kind ∈ [0, 1, 2]) (hvals : ∀ p ∈ P, D p.value) (hlen : ∀ p ∈ P, p.blen < 2 ^ 32)
    (_hcount : P.length < 2 ^ 32) (htab : variant = .charwise → tableLen P < 2 ^ 32)
    (hnodes : ∀ t, buildTrie cfg.kind P = .ok t → t.size < 2 ^ 32) :
    da.WF S D := by
  obtain ⟨t, states, ht, hst, rfl⟩ := buildDA_ok_stages variant cfg P da hb
  have hsort := buildTrie_sorted _ _ _ ht
  have hn := hnodes _ ht
  have L := layoutBounds variant cfg P t _ states hst hsort
    (fun hv => node_labels_lt cfg.kind P hk t ht (hbytes hv))
  obtain ⟨hO, hosz⟩ := buildOutAcc_ok t (buildFailMap t (cfg.kind != 0))
    (fun v len => D v ∧ len < 2 ^ 32) (fun s v len h => by
      obtain ⟨p, hp, _, he⟩ := buildTrie_outAt cfg.kind P hk t ht s _ h
      cases he
      exact ⟨hvals p hp, hlen p hp⟩)
  -- at most one record per non-root node
  have hout : (buildNfa t (cfg.kind != 0)).out.outs.size < 2 ^ 32 :=
    Nat.lt_trans (Nat.lt_succ_of_le hosz) (queue_length t hsort ▸ hn : t.queue.length + 1 < 2 ^ 32)
  obtain ⟨m1, m2, m3, m4⟩ := mapperFor_wf variant P (by decide) htab
  refine ⟨fun s hs => ?_, fun o ho => ?_, Nat.lt_succ_of_le L.cap, hout, m1, m2, m3, hn, hkind,
    m4⟩
  · obtain ⟨i, hi, rfl⟩ := Array.mem_iff_getElem.1 (Array.mem_toList_iff.1 hs)
    exact stWF_of_slot L.cap hout (L.base i hi) (L.slots i hi)
  · obtain ⟨j, hj, rfl⟩ := Array.mem_iff_getElem.1 (Array.mem_toList_iff.1 ho)
    obtain ⟨hpar, hv, hl⟩ := hO.2 j hj
    exact ⟨hv, hl, Nat.lt_of_le_of_lt hpar (Nat.lt_trans hj hout)⟩

theorem roundtrip_of_build (S : Ser V) (D : V → Prop) (variant : Variant) (cfg : Cfg)
    (P : List (LPat V)) (da : DA V)
    (hb : buildDA variant cfg P = .ok da) (hk : keysOk P)
    (hbytes : variant = .bytewise → ∀ p ∈ P, ∀ c ∈ p.key, c < 256)
    (hkind : cfg.kind ∈ [0, 1, 2]) (hvals : ∀ p ∈ P, D p.value) (hlen : ∀ p ∈ P, p.blen < 2 ^ 32)
    (hcount : P.length < 2 ^ 32) (htab : variant = .charwise → tableLen P < 2 ^ 32)
    (hnodes : ∀ t, buildTrie cfg.kind P = .ok t → t.size < 2 ^ 32)
    (hS : S.LawfulOn D) (rest : List Nat) :
    deserialize S da.variant (serialize S da ++ rest) = some (da, rest) :=
  deserialize_serialize S D hS da
    (wf_of_build S D variant cfg P da hb hk hbytes hkind hvals hlen hcount htab hnodes) rest

#print axioms wf_of_build
#print axioms roundtrip_of_build

end Daac
