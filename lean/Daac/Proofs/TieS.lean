/-
Translation tie, serialisation side: the definitions GENERATED from /repo's Rust source by
tools/ser2lean.py (Daac/Gen/Serial.lean: every `serialize_to_vec` / `deserialize_from_slice` /
`serialized_bytes`, the two `serialize` / `deserialize_unchecked` entry points) are equal to the
hand-written model `Daac/Model/Serial.lean` that the C09 theorems are about.

The generated code works on the Rust representation (`Option<NonZeroU32>` fields, the byte-wise
`State` with its packed `opos_ch` word, `Vec`s as lists); `toDAB` / `toDAC` map a model automaton to
that representation.
-/
import Daac.Gen.Serial
import Daac.Proofs.SerialRT
namespace Daac.Tie.S
open Daac Daac.Gen
variable {V : Type}

/-- `NonZeroU32::new`: the model keeps `0` for `None`. -/
def optNZ (x : Nat) : Option Nat := if x = 0 then none else some x

def toStB (s : St) : Gen.S.B.State := ⟨optNZ s.base, s.fail, (s.opos <<< 8) ||| s.check⟩
def toStC (s : St) : Gen.S.C.State := ⟨optNZ s.base, s.check, s.fail, optNZ s.opos⟩
def toOut (o : Out V) : Gen.S.Output V := ⟨o.value, o.length, optNZ o.parent⟩
def toDAB (da : DA V) : Gen.S.B.DA V :=
  ⟨da.states.toList.map toStB, da.outputs.toList.map toOut, da.kind, da.numStates⟩
def toDAC (da : DA V) : Gen.S.C.DA V :=
  ⟨da.states.toList.map toStC, ⟨da.mapTable.toList, da.alphaSize⟩, da.outputs.toList.map toOut, da.kind, da.numStates⟩

theorem u32_ser (x : Nat) (dst : List Nat) :
    Gen.S.u32.serialize_to_vec x dst = some (dst ++ serU32 x) := rfl

theorem mapOr_optNZ (x : Nat) : Gen.Rs.map_or_0_get (optNZ x) = x := by
  by_cases h : x = 0
  · rw [optNZ, if_pos h, h]
    rfl
  · rw [optNZ, if_neg h]
    rfl

theorem optNZ_ser (x : Nat) (dst : List Nat) :
    Gen.S.OptionNonZeroU32.serialize_to_vec (optNZ x) dst = some (dst ++ serU32 x) := by
  simp only [Gen.S.OptionNonZeroU32.serialize_to_vec, mapOr_optNZ, u32_ser]

theorem u24n8_ser (x : Nat) (dst : List Nat) :
    Gen.S.U24nU8.serialize_to_vec x dst = some (dst ++ serU32 x) := rfl

theorem kind_ser (k : Nat) (dst : List Nat) :
    Gen.S.MatchKind.serialize_to_vec k dst = some (dst ++ [k]) := rfl

theorem stB_ser (s : St) (dst : List Nat) :
    Gen.S.B.State.serialize_to_vec (toStB s) dst = some (dst ++ serSt .bytewise s) := by
  simp only [Gen.S.B.State.serialize_to_vec, toStB, optNZ_ser, u32_ser, u24n8_ser, serSt,
    List.append_assoc]

theorem stC_ser (s : St) (dst : List Nat) :
    Gen.S.C.State.serialize_to_vec (toStC s) dst = some (dst ++ serSt .charwise s) := by
  simp only [Gen.S.C.State.serialize_to_vec, toStC, optNZ_ser, u32_ser, serSt, List.append_assoc]

theorem out_ser (S : Ser V) (o : Out V) (dst : List Nat) :
    Gen.S.Output.serialize_to_vec S (toOut o) dst = some (dst ++ serOut S o) := by
  simp only [Gen.S.Output.serialize_to_vec, toOut, Gen.Rs.userSer, optNZ_ser, u32_ser, serOut,
    List.append_assoc]

theorem each_ser {α β : Type} {f : β → List Nat → Option (List Nat)} {g : α → β}
    {h : α → List Nat} (hf : ∀ x dst, f (g x) dst = some (dst ++ h x)) (xs : List α)
    (dst : List Nat) :
    Gen.S.Vec.serialize_to_vec.each f (xs.map g) dst = some (dst ++ xs.flatMap h) := by
  induction xs generalizing dst with
  | nil => simp only [List.map_nil, Gen.S.Vec.serialize_to_vec.each, List.flatMap_nil,
      List.append_nil]
  | cons x xs ih =>
    simp only [List.map_cons, Gen.S.Vec.serialize_to_vec.each, hf, ih, List.flatMap_cons,
      List.append_assoc]

theorem vec_ser {α β : Type} {f : β → List Nat → Option (List Nat)} {g : α → β}
    {h : α → List Nat} (hf : ∀ x dst, f (g x) dst = some (dst ++ h x)) {xs : List α}
    (hl : xs.length ≤ 4294967295) (dst : List Nat) :
    Gen.S.Vec.serialize_to_vec f (xs.map g) dst = some (dst ++ serVec h xs) := by
  simp only [Gen.S.Vec.serialize_to_vec, List.length_map, Gen.Rs.u32_try_from_usize, hl, if_true,
    u32_ser, each_ser hf, serVec, List.append_assoc]

theorem vec_ser_id {α : Type} {f : α → List Nat → Option (List Nat)} {h : α → List Nat}
    (hf : ∀ x dst, f x dst = some (dst ++ h x)) {xs : List α} (hl : xs.length ≤ 4294967295)
    (dst : List Nat) : Gen.S.Vec.serialize_to_vec f xs dst = some (dst ++ serVec h xs) := by
  rw [← vec_ser (g := id) hf hl, List.map_id]

/-! A generated decoder is a chain `match p src with | none => none | some (x, src) => …`; once its
primitive decoders are rewritten to the model's, both sides branch on the same scrutinees: case on
each in turn (`none` ends both chains, `dsimp only` exposes the next scrutinee). -/

def mapDec {α β : Type} (g : α → β) (f : List Nat → Option (α × List Nat)) (bs : List Nat) :
    Option (β × List Nat) :=
  (f bs).map (fun p => (g p.1, p.2))

theorem u32_de : Gen.S.u32.deserialize_from_slice = deU32 :=
  funext fun bs => match bs with
    | [] | [_] | [_, _] | [_, _, _] | _ :: _ :: _ :: _ :: _ => rfl

theorem nz_eq (x : Nat) : Gen.Rs.NonZeroU32_new x = optNZ x := rfl

theorem optNZ_de : Gen.S.OptionNonZeroU32.deserialize_from_slice = mapDec optNZ deU32 := by
  funext bs
  rw [Gen.S.OptionNonZeroU32.deserialize_from_slice, u32_de, mapDec]
  cases deU32 bs <;> rfl

theorem u24n8_de : Gen.S.U24nU8.deserialize_from_slice = deU32 := by
  funext bs
  rw [Gen.S.U24nU8.deserialize_from_slice, u32_de]
  cases deU32 bs <;> rfl

theorem stB_de : Gen.S.B.State.deserialize_from_slice = mapDec toStB (deSt .bytewise) := by
  funext bs
  delta Gen.S.B.State.deserialize_from_slice deSt
  rw [optNZ_de, u32_de, u24n8_de]
  dsimp only [mapDec]
  rcases deU32 bs with _ | ⟨base, r1⟩
  · rfl
  dsimp only [Option.map_some]
  rcases deU32 r1 with _ | ⟨fail, r2⟩
  · rfl
  dsimp only
  rcases deU32 r2 with _ | ⟨oc, r3⟩
  · rfl
  -- the model splits the packed word and `toStB` packs it again
  exact congrArg (fun w => some ((⟨optNZ base, fail, w⟩ : Gen.S.B.State), r3))
    (U24nU8.pack_a_b oc).symm

theorem stC_de : Gen.S.C.State.deserialize_from_slice = mapDec toStC (deSt .charwise) := by
  funext bs
  delta Gen.S.C.State.deserialize_from_slice deSt
  rw [optNZ_de, u32_de]
  dsimp only [mapDec]
  rcases deU32 bs with _ | ⟨base, r1⟩
  · rfl
  dsimp only [Option.map_some]
  rcases deU32 r1 with _ | ⟨check, r2⟩
  · rfl
  dsimp only
  rcases deU32 r2 with _ | ⟨fail, r3⟩
  · rfl
  dsimp only
  rcases deU32 r3 with _ | ⟨opos, r4⟩ <;> rfl

theorem length_take_lt (w : Nat) (bs : List Nat) : (bs.take w).length < w ↔ bs.length < w := by
  rw [List.length_take]
  exact ⟨fun h => Nat.lt_of_not_le fun hw => Nat.not_lt.2 (Nat.le_min.2 ⟨Nat.le_refl w, hw⟩) h,
    Nat.lt_of_le_of_lt (Nat.min_le_right ..)⟩

theorem out_de (S : Ser V) : Gen.S.Output.deserialize_from_slice S = mapDec toOut (deOut S) := by
  funext bs
  delta Gen.S.Output.deserialize_from_slice deOut Gen.Rs.userDe
  rw [optNZ_de, u32_de]
  simp only [mapDec, length_take_lt]
  by_cases hl : bs.length < S.width
  · rw [if_pos hl, if_pos hl]
    rfl
  rw [if_neg hl, if_neg hl]
  dsimp only
  rcases deU32 (bs.drop S.width) with _ | ⟨len, r1⟩
  · rfl
  dsimp only
  rcases deU32 r1 with _ | ⟨parent, r2⟩ <;> rfl

theorem kind_de :
    Gen.S.MatchKind.deserialize_from_slice
      = fun bs => match bs with
        | [] => none
        | k :: r => some (decodeKind k, r) :=
  funext fun bs => by cases bs <;> rfl

theorem loop_de {α β : Type} (f : List Nat → Option (α × List Nat)) (g : α → β) (n : Nat)
    (acc : List β) (src : List Nat) :
    Gen.S.Vec.deserialize_from_slice.loop0 (mapDec g f) n acc src
      = (deMany f n src).map (fun p => (acc ++ p.1.map g, p.2)) := by
  fun_induction deMany f n src generalizing acc with
  | case1 bs =>
    simp only [Gen.S.Vec.deserialize_from_slice.loop0, Option.map_some, List.map_nil,
      List.append_nil]
  | case2 n bs h =>
    simp only [Gen.S.Vec.deserialize_from_slice.loop0, mapDec, h, Option.map_none]
  | case3 n bs x r h h' ih =>
    simp only [Gen.S.Vec.deserialize_from_slice.loop0, mapDec, h, Option.map_some, ih, h',
      Option.map_none]
  | case4 n bs x r h xs r' h' ih =>
    simp only [Gen.S.Vec.deserialize_from_slice.loop0, mapDec, h, Option.map_some, ih, h',
      List.map_cons, List.append_assoc, List.cons_append, List.nil_append]

theorem vec_de {α β : Type} (f : List Nat → Option (α × List Nat)) (g : α → β) :
    Gen.S.Vec.deserialize_from_slice (mapDec g f) = mapDec (List.map g) (deVec f) := by
  funext bs
  rw [mapDec]
  fun_cases deVec f bs with
  | case1 h => simp only [Gen.S.Vec.deserialize_from_slice, u32_de, h, Option.map_none]
  | case2 n r h =>
    simp only [Gen.S.Vec.deserialize_from_slice, u32_de, h, loop_de, List.nil_append]
    cases deMany f n r <;> rfl

theorem mapDec_id {α : Type} (f : List Nat → Option (α × List Nat)) : mapDec id f = f := by
  funext bs
  rw [mapDec]
  cases f bs <;> rfl

theorem vec_de_id {α : Type} (f : List Nat → Option (α × List Nat)) :
    Gen.S.Vec.deserialize_from_slice f = deVec f := by
  rw [← mapDec_id f, vec_de, List.map_id_fun, mapDec_id, mapDec_id]

/-- the translated byte-wise `serialize` = the model's, whenever the two `u32::try_from(len).unwrap()` do not panic -/
theorem serialize_eq_B (S : Ser V) (da : DA V) (hv : da.variant = .bytewise)
    (hs : da.states.size ≤ 4294967295) (ho : da.outputs.size ≤ 4294967295) :
    Gen.S.B.DA.serialize S (toDAB da) = some (Daac.serialize S da) := by
  simp only [Gen.S.B.DA.serialize, toDAB, Daac.serialize, hv, vec_ser stB_ser hs,
    vec_ser (out_ser S) ho, kind_ser, u32_ser, List.nil_append, List.append_assoc]

theorem serialize_eq_C (S : Ser V) (da : DA V) (hv : da.variant = .charwise)
    (hs : da.states.size ≤ 4294967295) (hm : da.mapTable.size ≤ 4294967295) (ho : da.outputs.size ≤ 4294967295) :
    Gen.S.C.DA.serialize S (toDAC da) = some (Daac.serialize S da) := by
  simp only [Gen.S.C.DA.serialize, Gen.S.CodeMapper.serialize_to_vec, toDAC, Daac.serialize, hv,
    vec_ser stC_ser hs, vec_ser_id u32_ser hm, vec_ser (out_ser S) ho, kind_ser, u32_ser,
    List.nil_append, List.append_assoc]

/-- the translated `deserialize_unchecked` = the model's `deserialize`, on EVERY byte string (`none` = panic on both sides) -/
theorem deserialize_eq_B (S : Ser V) (bs : List Nat) :
    Gen.S.B.DA.deserialize_unchecked S bs = (Daac.deserialize S .bytewise bs).map (fun p => (toDAB p.1, p.2)) := by
  delta Gen.S.B.DA.deserialize_unchecked Daac.deserialize
  rw [stB_de, out_de, vec_de, vec_de, kind_de, u32_de]
  dsimp only [mapDec]
  rcases deVec (deSt .bytewise) bs with _ | ⟨states, r1⟩
  · rfl
  dsimp only [Option.map_some]
  rcases deVec (deOut S) r1 with _ | ⟨outs, r3⟩
  · rfl
  dsimp only [Option.map_some]
  rcases r3 with _ | ⟨k, r4⟩
  · rfl
  dsimp only
  rcases deU32 r4 with _ | ⟨ns, r5⟩ <;> rfl

theorem deserialize_eq_C (S : Ser V) (bs : List Nat) :
    Gen.S.C.DA.deserialize_unchecked S bs = (Daac.deserialize S .charwise bs).map (fun p => (toDAC p.1, p.2)) := by
  delta Gen.S.C.DA.deserialize_unchecked Gen.S.CodeMapper.deserialize_from_slice Daac.deserialize
  rw [stC_de, out_de, vec_de, vec_de, u32_de, vec_de_id, kind_de]
  dsimp only [mapDec]
  rcases deVec (deSt .charwise) bs with _ | ⟨states, r1⟩
  · rfl
  dsimp only [Option.map_some]
  rcases deVec deU32 r1 with _ | ⟨table, rm⟩
  · rfl
  dsimp only
  rcases deU32 rm with _ | ⟨alpha, r2⟩
  · rfl
  dsimp only
  rcases deVec (deOut S) r2 with _ | ⟨outs, r3⟩
  · rfl
  dsimp only [Option.map_some]
  rcases r3 with _ | ⟨k, r4⟩
  · rfl
  dsimp only
  rcases deU32 r4 with _ | ⟨ns, r5⟩ <;> rfl

/-- `Vec::with_capacity(...)` in `serialize` reserves exactly the number of bytes written -/
theorem capacity_exact_B (S : Ser V) (D : V → Prop) (hS : S.LawfulOn D) (da : DA V) (hv : da.variant = .bytewise)
    (hD : ∀ o ∈ da.outputs.toList, D o.value) :
    Gen.S.B.DA.serialize.capacity S (toDAB da) = (Daac.serialize S da).length := by
  rw [serialize_length_of_width S da (fun o ho => hS.len _ (hD o ho)), hv]
  simp only [Gen.S.B.DA.serialize.capacity, Gen.S.Vec.serialized_bytes, toDAB, List.length_map,
    Array.length_toList]
  rfl

theorem capacity_exact_C (S : Ser V) (D : V → Prop) (hS : S.LawfulOn D) (da : DA V) (hv : da.variant = .charwise)
    (hD : ∀ o ∈ da.outputs.toList, D o.value) :
    Gen.S.C.DA.serialize.capacity S (toDAC da) = (Daac.serialize S da).length := by
  rw [serialize_length_of_width S da (fun o ho => hS.len _ (hD o ho)), hv]
  simp only [Gen.S.C.DA.serialize.capacity, Gen.S.CodeMapper.serialized_bytes,
    Gen.S.Vec.serialized_bytes, toDAC, List.length_map, Array.length_toList]
  rfl

/-- every invocation of `define_serializable_primitive!` passes the type's own width (otherwise
`try_into().unwrap()` would panic on every call) and the table equals the one gen_consts.py extracts -/
theorem prim_invocations_ok :
    (∀ r ∈ Gen.S.primInvocations, r.2.1 = r.2.2) ∧
    Gen.S.primInvocations.map (fun r => (r.1, r.2.2)) = Gen.primWidths.map (fun r => (r.1, r.2.1)) :=
  ⟨by decide, rfl⟩

/-! ### Non-vacuity: the hypotheses of `serialize_eq_B` hold of a non-trivial byte-wise automaton value -/

/-- A small byte-wise leftmost-first automaton value (one `None` base, packed `opos`/`check`, a
non-`None` output parent). -/
def exampleDAB : DA Int where
  variant := .bytewise
  states := #[⟨3, 0, 0, 0⟩, ⟨0, 97, 1, 0⟩, ⟨2, 98, 0, 1⟩, ⟨0, 255, 2, 16777215⟩]
  outputs := #[⟨7, 1, 0⟩, ⟨4294967295, 2, 1⟩]
  mapTable := #[]
  alphaSize := 0
  kind := 2
  numStates := 4

example : Gen.S.B.DA.serialize (serUnsigned 4) (toDAB exampleDAB)
    = some (Daac.serialize (serUnsigned 4) exampleDAB) :=
  serialize_eq_B (serUnsigned 4) exampleDAB rfl (by decide) (by decide)

example : Gen.S.B.DA.serialize.capacity (serUnsigned 4) (toDAB exampleDAB) = 85 := by decide

example : (Daac.serialize (serUnsigned 4) exampleDAB).length = 85 :=
  (serialize_length_of_width _ _ fun _ _ => leBytes_length ..).trans rfl

end Daac.Tie.S
