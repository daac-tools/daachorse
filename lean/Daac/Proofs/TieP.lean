/-
Translation tie, the byte-wise builder END TO END: the GENERATED pipeline

  `NfaBuilder::new` → `add` (fold) → `build_fails` / `build_fails_leftmost` → `build_outputs`
    → `DoubleArrayAhoCorasickBuilder::build_double_array`

(Daac/Gen/Nfa.lean from `src/nfa_builder.rs`, Daac/Gen/BuildB.lean from `src/bytewise/builder.rs`)
computes the state table of the hand-written model `buildDA .bytewise` (Daac/Model/Build.lean), up to
panic texts.  This file first supplies the two hypotheses of `Tie.D.build_double_array_refines`:

 (a) `nfaRep_of_sparse`: the conclusion of `Tie.F.sparse_nfa_refines` (path-labelled representation
     `Tie.N.Rep` + `FailRel` / `OposRel`) gives the flat `Tie.D.NfaRep` the layout tie consumes, with
     `ido u := (idAt g.states 0 u).getD 0`.  The missing fact "every state but the dead one represents
     a node" is the invariant `Reach` of the translated insertion code (Proofs/TiePReach.lean); the
     exact size `states.size = t.size + 1` follows by counting.
 (b) `failNodes_buildNfa`: the fail targets of the model NFA are trie nodes.

Then it composes.  `SparseTie` / `sparseTie` collect what insertion fold, fail pass and output pass
establish for any label width (Proofs/TiePC starts from the same record); `buildDA_addAll_error` /
`buildDA_addAll_ok` say what the model builder returns given the outcome of its insertion fold, so
that the stage-by-stage comparison with `genBuildB` does not unfold `buildDA`.
-/
import Daac.Proofs.TieFAll
import Daac.Proofs.TieD
import Daac.Proofs.TiePReach
import Daac.Proofs.NfaLm
namespace Daac.Tie.P
open Daac Daac.Gen Daac.Gen.N Daac.Tie.N Daac.Tie.F Daac.Tie.D Daac.Tie.H

variable {V : Type}

def idoOf (st : Tie.N.St V) (u : List Nat) : Nat := (idAt st 0 u).getD 0

theorem idoOf_eq {st : Tie.N.St V} {u : List Nat} {i : Nat} (h : idAt st 0 u = some i) : idoOf st u = i :=
  congrArg (·.getD 0) h

section rep
variable {st : Tie.N.St V} {pth : Pth} {t : Trie V}

theorem idAt_of_node (hrep : Rep st pth t 0 []) {u : List Nat} (hu : t.hasNode u = true) :
    ∃ n, idAt st 0 u = some (idoOf st u) ∧ t.walk u = some n ∧ Rep st pth n (idoOf st u) u := by
  unfold Trie.hasNode at hu
  obtain ⟨n, hw⟩ := Option.isSome_iff_exists.mp hu
  obtain ⟨i, hi, hr⟩ := idAt_some_of_walk hrep hw
  rewrite [idoOf_eq hi]
  exact ⟨n, hi, hw, hr⟩

/-- Exact state count: the dead state plus one state per node. -/
theorem size_eq (hrep : Rep st pth t 0 []) (hdead : pth 1 = none) (hr : Reach st) :
    st.size = t.size + 1 := by
  have hs : t.Sorted := rep_sorted t 0 [] hrep
  have hmem : ∀ u, u ∈ t.paths [] ↔ t.hasNode u = true := fun u => Trie.mem_paths_nil t hs u
  rewrite [Trie.size_eq_length_paths t []]
  apply Nat.le_antisymm
  · -- every id is the dead one or the id of a node
    have hsub : List.range st.size ⊆ 1 :: (t.paths []).map (idoOf st) := by
      intro i hi
      have hi := List.mem_range.mp hi
      by_cases h1 : i = 1
      · subst h1; exact List.mem_cons_self
      · obtain ⟨u, hu⟩ := hr.2 i hi h1
        have hn : t.hasNode u = true := (hasNode_eq_idAt hrep u).trans (congrArg Option.isSome hu)
        exact List.mem_cons_of_mem _ (List.mem_map.mpr ⟨u, (hmem u).mpr hn, idoOf_eq hu⟩)
    have := List.Nodup.length_le_of_subset List.nodup_range hsub
    simp only [List.length_range, List.length_cons, List.length_map] at this
    exact this
  · -- the nodes are injectively numbered, off the dead id
    obtain ⟨ids, h1, h2, h3⟩ := paths_ids hrep (t.paths []) (Trie.nodup_paths t hs [])
      (fun u hu => (hmem u).mp hu)
    have hnd : (1 :: ids).Nodup := by
      rewrite [List.nodup_cons]
      refine ⟨fun hm => ?_, h2⟩
      obtain ⟨_, u, _, hu⟩ := h3 1 hm
      exact id_ne_dead hrep hdead hu rfl
    have hsub : (1 :: ids) ⊆ List.range st.size := by
      intro i hi
      rcases List.mem_cons.mp hi with rfl | hi
      · exact List.mem_range.mpr hr.1
      · exact List.mem_range.mpr (h3 i hi).1
    have := List.Nodup.length_le_of_subset hnd hsub
    simp only [List.length_cons, List.length_range, h1] at this
    exact this

theorem edges_eq {u : List Nat} {i : Nat} {n : Trie V}
    (hi : idAt st 0 u = some i) (hw : t.walk u = some n) {s : NfaBuilderState V} (hs : st[i]? = some s)
    (hk : RepK st pth n.kids u 0 s.edges) :
    s.edges = (LayB.edgesB t u).map (fun e => (e.1, idoOf st e.2)) := by
  -- the children of `u` are `u ++ [l]` for the labels `l` of `s.edges`, in that order
  unfold LayB.edgesB
  rewrite [childPaths_eq hw, ← RepK.labels n.kids u 0 s.edges hk, List.map_map, List.map_map, List.map_map]
  refine (List.map_id' s.edges).symm.trans (List.map_congr_left ?_)
  rintro ⟨l, cid⟩ hm
  have hc : idAt st 0 (u ++ [l]) = some cid := by
    rewrite [idAt_snoc u l i s hi hs]
    exact (RepK.get_mem n.kids u 0 s.edges hk l cid hm).1
  simp only [Function.comp_apply, List.getLastD_concat, idoOf_eq hc]

end rep

/-- (a) The flat representation consumed by the layout tie, from the path-labelled one: `g` is the
builder after the insertion fold (`Rep`, dead state unlabelled, `Reach`), `g2` the builder after the
fail and output passes (same shape; `fail` / `output_pos` related to the model NFA `nfa`). -/
theorem nfaRep_of_sparse (g g2 : NfaBuilder V) (t : Trie V) (nfa : Nfa V) (pth : Pth)
    (hrep : Rep g.states pth t 0 []) (hdead : pth 1 = none) (hr : Reach g.states)
    (hsh : SameShape g.states g2.states)
    (hnode : ∀ u i, idAt g.states 0 u = some i → ∃ s : NfaBuilderState V, g2.states[i]? = some s ∧
      FailRel g.states (nfa.fail.get u) s.fail ∧ OposRel s.output_pos (nfa.out.opos.getD u 0)) :
    NfaRep g2 t nfa (idoOf g.states) where
  root := rfl
  inj := by
    intro u w hu hw he
    obtain ⟨_, hi, _⟩ := idAt_of_node hrep hu
    obtain ⟨_, hj, _⟩ := idAt_of_node hrep hw
    rewrite [he] at hi
    exact idAt_inj hrep hi hj
  neDead := by
    intro u hu
    obtain ⟨_, hi, _⟩ := idAt_of_node hrep hu
    exact id_ne_dead hrep hdead hi
  size := by rewrite [hsh.1]; exact size_eq hrep hdead hr
  onto := by
    intro i hi h1
    rewrite [hsh.1] at hi
    obtain ⟨u, hu⟩ := hr.2 i hi h1
    exact ⟨u, (hasNode_eq_idAt hrep u).trans (congrArg Option.isSome hu), idoOf_eq hu⟩
  node := by
    intro u hu
    obtain ⟨n, hi, hw, hrn⟩ := idAt_of_node hrep hu
    obtain ⟨s, hs, _, hk⟩ := rep_get hrn
    obtain ⟨s2, hs2, hf, ho⟩ := hnode u _ hi
    obtain ⟨s', hs', he, _⟩ := hsh.2 _ s hs
    rewrite [hs2] at hs'
    cases hs'
    refine ⟨s2, hs2, ?_, ?_, ?_⟩
    · rewrite [he]; exact edges_eq hi hw hs hk
    · cases hfu : nfa.fail.get u with
      | dead => rewrite [hfu] at hf; exact hf
      | node w => rewrite [hfu] at hf; exact (idoOf_eq hf).symm
    · rewrite [show s2.output_pos = _ from ho]
      split
      · next h0 => rewrite [h0]; rfl
      · rfl

theorem trieSem_exists (kind : Nat) (P : List (LPat V)) (hk : keysOk P) (t : Trie V)
    (ht : buildTrie kind P = .ok t) : ∃ P', List.Sublist P' P ∧ TrieSem t P' := by
  by_cases h2 : kind = 2
  · subst h2
    exact ⟨retainedL P, retainedL_sublist P, buildTrie_trieSem_lf P t ht hk⟩
  · exact ⟨P, List.Sublist.refl P, buildTrie_trieSem kind h2 P t ht hk⟩

theorem failNodes_buildNfa (kind : Nat) (P : List (LPat V)) (hk : keysOk P) (t : Trie V)
    (ht : buildTrie kind P = .ok t) (leftmost : Bool) : FailNodes t (buildNfa t leftmost) := by
  obtain ⟨P', _, hS⟩ := trieSem_exists kind P hk t ht
  intro u w hu hf
  change (buildFailMap t leftmost).get u = .node w at hf
  have hu' := (hS.nodes u).mp hu
  -- the only node a fail link can point to is the longest proper suffix that is a node
  have hw : t.hasNode (lps (nodeList P') u) = true := (hS.nodes _).mpr (lps_spec P' u).2.1
  cases leftmost with
  | false =>
    rewrite [failStd_eq_lps' hS u hu'] at hf
    cases hf
    exact hw
  | true =>
    by_cases hu0 : u = []
    · subst hu0
      rewrite [(buildFailMap_lm_inv hS).root] at hf
      cases hf
      exact Trie.hasNode_nil t
    · rewrite [failLm_char hS u hu' hu0] at hf
      rcases lmF_cases_best P' u with ⟨hd, _⟩ | ⟨hn, _⟩
      · rewrite [hd] at hf
        cases hf
      · rewrite [hn] at hf
        cases hf
        exact hw

theorem addAll_blen_ne (lf : Bool) (P : List (LPat V)) (a a' : NfaAcc V) (h : a.addAll lf P = .ok a') :
    ∀ p ∈ P, p.blen ≠ 0 := by
  induction P generalizing a with
  | nil => intro p hp; cases hp
  | cons p ps ih =>
    simp only [NfaAcc.addAll] at h
    cases hp : a.add lf p with
    | error e => rewrite [hp] at h; cases h
    | ok a1 =>
      rewrite [hp] at h
      intro x hx
      rcases List.mem_cons.mp hx with rfl | hx
      · intro h0
        simp only [NfaAcc.add, h0, if_true] at hp
        cases hp
      · exact ih a1 h x hx

/-- On a successful insertion phase, `blen` (the sum of the label widths) vanishes exactly on the empty
key — for any width function: a zero `blen` is rejected by `add`. -/
theorem keysOk_of_addAll (nb : Nat → Nat) (lf : Bool) (P : List (LPat V)) (a : NfaAcc V)
    (hlen : ∀ p ∈ P, (p.key.map nb).sum = p.blen ∧ p.blen ≤ 4294967295)
    (h : (NfaAcc.init : NfaAcc V).addAll lf P = .ok a) : keysOk P := by
  intro p hp
  refine ⟨fun h0 => (addAll_blen_ne lf P _ a h p hp h0).elim, fun hk => ?_⟩
  have := (hlen p hp).1
  rewrite [hk] at this
  exact this.symm

theorem labels_of_buildTrie (kind : Nat) (P : List (LPat V)) (hk : keysOk P) (t : Trie V)
    (ht : buildTrie kind P = .ok t) :
    ∀ u, t.hasNode u = true → ∀ c ∈ u, ∃ p ∈ P, c ∈ p.key := by
  obtain ⟨P', hsub, hS⟩ := trieSem_exists kind P hk t ht
  intro u hu c hc
  rcases mem_nodeList.mp ((hS.nodes u).mp hu) with rfl | ⟨p, hp, hpre⟩
  · cases hc
  · exact ⟨p, hsub.subset hp, hpre.subset hc⟩

structure SparseTie (kind : Nat) (P : List (LPat V)) (g : NfaBuilder V) (a : NfaAcc V)
    (q : Array Nat) (g1 g2 : NfaBuilder V) : Prop where
  addAll : (NfaAcc.init : NfaAcc V).addAll (kind == 2) P = .ok a
  len : a.len = g.len
  failPass : failPass kind g = .ok (q, g1)
  outputs : NfaBuilder.build_outputs g1 q = .ok ((), g2)
  size : g.states.size = a.trie.size + 1
  rep : NfaRep g2 a.trie (buildNfa a.trie (kind != 0)) (idoOf g.states)
  outs : OutsRel g2.outputs (buildNfa a.trie (kind != 0)).out.outs
  failNodes : FailNodes a.trie (buildNfa a.trie (kind != 0))
  sorted : a.trie.Sorted
  labels : ∀ u, a.trie.hasNode u = true → ∀ c ∈ u, ∃ p ∈ P, c ∈ p.key

theorem sparseTie (nb : Nat → Nat) (kind : Nat) (P : List (LPat V))
    (hsz : 2 + (P.map (·.key.length)).sum ≤ 4294967295)
    (hlen : ∀ p ∈ P, (p.key.map nb).sum = p.blen ∧ p.blen ≤ 4294967295)
    (g : NfaBuilder V) (hadd : addAllGen nb (NfaBuilder.new kind) P = .ok g) (hl : g.len ≠ 0) :
    ∃ a q g1 g2, SparseTie kind P g a q g1 g2 := by
  obtain ⟨a, pth, q, g1, g2, hm, hlen', hrep, hdead, hfp, hbo, hsh, _, hnode, houts⟩ :=
    sparse_nfa_refines' nb kind P g hsz hlen hadd hl
  have hta := buildTrie_of_addAll hm (fun h => hl (hlen'.trans h))
  have hk := keysOk_of_addAll nb (kind == 2) P a hlen hm
  have hr : Reach g.states := addAllGen_reach nb P _ g hadd (new_reach kind)
  have R := nfaRep_of_sparse g g2 a.trie (buildNfa a.trie (kind != 0)) pth hrep hdead hr hsh hnode
  exact ⟨a, q, g1, g2, hm, hlen'.symm, hfp, hbo, by rewrite [← hsh.1]; exact R.size, R, houts,
    failNodes_buildNfa kind P hk a.trie hta _, buildTrie_sorted kind P a.trie hta,
    labels_of_buildTrie kind P hk a.trie hta⟩

theorem buildDA_addAll_error {v : Variant} {cfg : Cfg} {P : List (LPat V)} {e : BuildErr}
    (hnfb : 1 ≤ cfg.nfb) (hm : (NfaAcc.init : NfaAcc V).addAll (cfg.kind == 2) P = .error e) :
    buildDA v cfg P = .error e := by
  simp only [buildDA, Nat.ne_of_gt hnfb, if_false, hm]

theorem buildDA_addAll_ok {v : Variant} {cfg : Cfg} {P : List (LPat V)} {a : NfaAcc V} {m : Mapper}
    (hnfb : 1 ≤ cfg.nfb) (hm : (NfaAcc.init : NfaAcc V).addAll (cfg.kind == 2) P = .ok a)
    (hmp : m = match v with | .bytewise => (⟨#[], 0⟩ : Mapper) | .charwise => Mapper.build P) :
    buildDA v cfg P =
      if a.len = 0 then .error .invalidArgument else
      if v = .bytewise ∧ a.len > u24Max then .error .automatonScale else
      (buildLayout v cfg m a.trie (buildNfa a.trie (cfg.kind != 0))).map fun states =>
        { variant := v, states := states, outputs := (buildNfa a.trie (cfg.kind != 0)).out.outs,
          mapTable := m.table, alphaSize := m.alphaSize, kind := cfg.kind, numStates := a.trie.size } := by
  subst hmp
  simp only [buildDA, Nat.ne_of_gt hnfb, if_false, hm]
  -- same tests on both sides; the last branch is `Except.map` written out
  refine ite_congr rfl (fun _ => rfl) fun _ => ite_congr rfl (fun _ => rfl) fun _ => ?_
  cases buildLayout v cfg _ a.trie (buildNfa a.trie (cfg.kind != 0)) <;> rfl

theorem buildDA_main {v : Variant} {cfg : Cfg} {P : List (LPat V)} {a : NfaAcc V} {m : Mapper}
    (hnfb : 1 ≤ cfg.nfb) (hm : (NfaAcc.init : NfaAcc V).addAll (cfg.kind == 2) P = .ok a)
    (hmp : m = match v with | .bytewise => (⟨#[], 0⟩ : Mapper) | .charwise => Mapper.build P)
    (hl : a.len ≠ 0) (h24 : ¬ (v = .bytewise ∧ a.len > u24Max)) :
    (buildDA v cfg P).map (·.states) = buildLayout v cfg m a.trie (buildNfa a.trie (cfg.kind != 0)) ∧
    ∀ da, buildDA v cfg P = .ok da →
      da.outputs = (buildNfa a.trie (cfg.kind != 0)).out.outs ∧ da.numStates = a.trie.size ∧
      da.kind = cfg.kind ∧ da.mapTable = m.table ∧ da.alphaSize = m.alphaSize := by
  rewrite [buildDA_addAll_ok hnfb hm hmp, if_neg hl, if_neg h24]
  cases buildLayout v cfg m a.trie (buildNfa a.trie (cfg.kind != 0)) with
  | error e => exact ⟨rfl, fun da h => by cases h⟩
  | ok states => exact ⟨rfl, fun da h => by cases h; exact ⟨rfl, rfl, rfl, rfl, rfl⟩⟩

theorem pipeline_refines (kind : Nat) (cfg : Cfg) (mapper : Mapper) (P : List (LPat V))
    (hnfb : 1 ≤ cfg.nfb) (hbytes : ∀ p ∈ P, ∀ c ∈ p.key, c < 256)
    (hsz : 2 + (P.map (·.key.length)).sum ≤ 4294967295)
    (hlen : ∀ p ∈ P, (p.key.map (fun _ => 1)).sum = p.blen ∧ p.blen ≤ 4294967295)
    (g : NfaBuilder V) (hadd : addAllGen (fun _ => 1) (NfaBuilder.new kind) P = .ok g) (hl : g.len ≠ 0) :
    ∃ a q g1 g2, (NfaAcc.init : NfaAcc V).addAll (kind == 2) P = .ok a ∧ a.len = g.len ∧
      failPass kind g = .ok (q, g1) ∧ NfaBuilder.build_outputs g1 q = .ok ((), g2) ∧
      g2.states.size = a.trie.size + 1 ∧ g.states.size = a.trie.size + 1 ∧
      OutsRel g2.outputs (buildNfa a.trie (kind != 0)).out.outs ∧
      norm ((DB.Builder.build_double_array ⟨#[], kind, cfg.nfb⟩ g2).map (·.2.states))
        = norm (buildLayout .bytewise cfg mapper a.trie (buildNfa a.trie (kind != 0))) := by
  obtain ⟨a, q, g1, g2, S⟩ := sparseTie (fun _ => 1) kind P hsz hlen g hadd hl
  have hb : ∀ u, a.trie.hasNode u = true → ∀ c ∈ u, c < 256 := fun u hu c hc =>
    let ⟨p, hp, hcp⟩ := S.labels u hu c hc
    hbytes p hp c hcp
  exact ⟨a, q, g1, g2, S.addAll, S.len, S.failPass, S.outputs, S.rep.size, S.size, S.outs,
    build_double_array_refines cfg mapper a.trie _ g2 _ S.rep S.failNodes S.sorted hb hnfb
      ⟨#[], kind, cfg.nfb⟩ rfl rfl⟩

/-- END TO END, against the model passes.  For every collection of byte patterns within the `u32`
scale: if the translated insertion fold (`NfaBuilder::new`, then `add` per pattern) succeeds and
registered a pattern, then the model's `buildTrie` succeeds with some trie `t`, the translated fail
pass and `build_outputs` succeed, and the translated byte-wise `build_double_array`, started from the
empty builder with `cfg.nfb` free blocks, yields the state table of the model's `buildLayout .bytewise`
on `t` and `buildNfa t (kind != 0)` (for any mapper: the byte-wise layout ignores it), up to panic
texts; the output records agree (`OutsRel`) and there is one state per node plus the dead state. -/
theorem generated_bytewise_build_eq_model (kind : Nat) (cfg : Cfg) (mapper : Mapper) (P : List (LPat V))
    (hnfb : 1 ≤ cfg.nfb) (hbytes : ∀ p ∈ P, ∀ c ∈ p.key, c < 256)
    (hsz : 2 + (P.map (·.key.length)).sum ≤ 4294967295)
    (hlen : ∀ p ∈ P, (p.key.map (fun _ => 1)).sum = p.blen ∧ p.blen ≤ 4294967295)
    (g : NfaBuilder V) (hadd : addAllGen (fun _ => 1) (NfaBuilder.new kind) P = .ok g) (hl : g.len ≠ 0) :
    ∃ t q g1 g2, buildTrie kind P = .ok t ∧
      failPass kind g = .ok (q, g1) ∧ NfaBuilder.build_outputs g1 q = .ok ((), g2) ∧
      g2.states.size = t.size + 1 ∧
      OutsRel g2.outputs (buildNfa t (kind != 0)).out.outs ∧
      norm ((DB.Builder.build_double_array ⟨#[], kind, cfg.nfb⟩ g2).map (·.2.states))
        = norm (buildLayout .bytewise cfg mapper t (buildNfa t (kind != 0))) := by
  obtain ⟨a, q, g1, g2, hm, hal, hfp, hbo, hs2, _, houts, hfin⟩ :=
    pipeline_refines kind cfg mapper P hnfb hbytes hsz hlen g hadd hl
  exact ⟨a.trie, q, g1, g2, buildTrie_of_addAll hm (fun h => hl (hal.symm.trans h)), hfp, hbo, hs2,
    houts, hfin⟩

/-- END TO END, against `buildDA .bytewise` itself (`cfg.kind = kind`; `g.len ≤ u24Max` is the pattern
count test of `build_with_values`, which sits between the sparse NFA and `build_double_array` and is
not part of the units translated in Gen/Nfa.lean and Gen/BuildB.lean): the translated pipeline's
state table is the `states` field of the model automaton up to panic texts, and on success the model
automaton's `outputs` are the translated builder's output records, `numStates = g.states.size - 1`,
`kind = kind`; the fail pass and `build_outputs` keep the (positive) number of states. -/
theorem generated_bytewise_build_eq_buildDA (kind : Nat) (cfg : Cfg) (P : List (LPat V))
    (hkind : cfg.kind = kind) (hnfb : 1 ≤ cfg.nfb) (hbytes : ∀ p ∈ P, ∀ c ∈ p.key, c < 256)
    (hsz : 2 + (P.map (·.key.length)).sum ≤ 4294967295)
    (hlen : ∀ p ∈ P, (p.key.map (fun _ => 1)).sum = p.blen ∧ p.blen ≤ 4294967295)
    (g : NfaBuilder V) (hadd : addAllGen (fun _ => 1) (NfaBuilder.new kind) P = .ok g) (hl : g.len ≠ 0)
    (h24 : g.len ≤ u24Max) :
    ∃ q g1 g2, failPass kind g = .ok (q, g1) ∧ NfaBuilder.build_outputs g1 q = .ok ((), g2) ∧
      g2.states.size = g.states.size ∧ 1 ≤ g2.states.size ∧
      norm ((DB.Builder.build_double_array ⟨#[], kind, cfg.nfb⟩ g2).map (·.2.states))
        = norm ((buildDA .bytewise cfg P).map (·.states)) ∧
      ∀ da, buildDA .bytewise cfg P = .ok da →
        OutsRel g2.outputs da.outputs ∧ da.numStates = g.states.size - 1 ∧ da.kind = kind := by
  subst hkind
  obtain ⟨a, q, g1, g2, hm, hal, hfp, hbo, hs2, hs, houts, hfin⟩ :=
    pipeline_refines cfg.kind cfg (⟨#[], 0⟩ : Mapper) P hnfb hbytes hsz hlen g hadd hl
  rewrite [← hal] at hl h24
  obtain ⟨hst, hda⟩ := buildDA_main (v := .bytewise) hnfb hm rfl hl (fun h => Nat.not_lt.mpr h24 h.2)
  refine ⟨q, g1, g2, hfp, hbo, hs2.trans hs.symm, hs2 ▸ Nat.le_add_left 1 _, by rewrite [hst]; exact hfin,
    fun da h => ?_⟩
  obtain ⟨ho, hn, hk, _⟩ := hda da h
  exact ⟨by rewrite [ho]; exact houts, by rw [hn, hs, Nat.add_sub_cancel], hk⟩

/-- The byte-wise `build_with_values` over the translated units: `build_sparse_nfa` (insertion fold,
the two pattern-count tests, the fail pass selected by the match kind, `build_outputs`) followed by
`build_double_array` from the empty builder.  The sequencing is hand-written glue (as `addAllGen` and
`failPass` are); every unit it calls is generated from the Rust text. -/
def genBuildB (kind nfb : Nat) (P : List (LPat V)) : Except BuildErr (Array St) :=
  match addAllGen (fun _ => 1) (NfaBuilder.new kind) P with
  | .error e => .error e
  | .ok g =>
    if g.len = 0 then .error .invalidArgument else
    if g.len > u24Max then .error .automatonScale else
    match failPass kind g with
    | .error e => .error e
    | .ok (q, g1) =>
      match NfaBuilder.build_outputs g1 q with
      | .error e => .error e
      | .ok (_, g2) => (DB.Builder.build_double_array ⟨#[], kind, nfb⟩ g2).map (·.2.states)

/-- END TO END as one equation: on byte patterns within the `u32` scale, the translated byte-wise
pipeline and the model's `buildDA .bytewise` fail alike (same error, up to panic texts) or both
succeed with the same state table. -/
theorem genBuildB_eq_buildDA (kind : Nat) (cfg : Cfg) (P : List (LPat V))
    (hkind : cfg.kind = kind) (hnfb : 1 ≤ cfg.nfb) (hbytes : ∀ p ∈ P, ∀ c ∈ p.key, c < 256)
    (hsz : 2 + (P.map (·.key.length)).sum ≤ 4294967295)
    (hlen : ∀ p ∈ P, (p.key.map (fun _ => 1)).sum = p.blen ∧ p.blen ≤ 4294967295) :
    norm (genBuildB kind cfg.nfb P) = norm ((buildDA .bytewise cfg P).map (·.states)) := by
  subst hkind
  unfold genBuildB
  rcases (build_agree (fun _ => 1) cfg.kind P hsz hlen).cases with ⟨e, hg, hm⟩ | ⟨g, a, hg, hm, _, _, hga, _⟩
  · rewrite [hg, buildDA_addAll_error hnfb hm]
    rfl
  · rewrite [hg]
    simp only
    have hg24 := generated_bytewise_build_eq_buildDA cfg.kind cfg P rfl hnfb hbytes hsz hlen g hg
    rewrite [hga] at hg24 ⊢
    by_cases hl : a.len = 0
    · rewrite [if_pos hl, buildDA_addAll_ok hnfb hm rfl, if_pos hl]
      rfl
    · by_cases h24 : a.len > u24Max
      · rewrite [if_neg hl, if_pos h24, buildDA_addAll_ok hnfb hm rfl, if_neg hl, if_pos ⟨rfl, h24⟩]
        rfl
      · obtain ⟨q, g1, g2, hfp, hbo, _, _, hfin, _⟩ := hg24 hl (Nat.not_lt.mp h24)
        rewrite [if_neg hl, if_neg h24, hfp]
        simp only [hbo]
        exact hfin

end Daac.Tie.P

#print axioms Daac.Tie.P.nfaRep_of_sparse
#print axioms Daac.Tie.P.failNodes_buildNfa
#print axioms Daac.Tie.P.generated_bytewise_build_eq_model
#print axioms Daac.Tie.P.generated_bytewise_build_eq_buildDA
#print axioms Daac.Tie.P.genBuildB_eq_buildDA
