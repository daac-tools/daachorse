/-
Rung-1 proof for the leftmost kinds, iterator half: given the table semantics `LmSem da P`
(Daac/Proofs/LmIface.lean) and the abstract-scan theorem (`absLm … = bestIn …`, proved in
Daac/Proofs/LmAbs.lean and taken here as a hypothesis), the model iterator `LmIt.next` /
`lmAll` returns exactly the item-level specification `specLLItems`.
Core Lean only.
-/
import Daac.Proofs.LmAbs
import Daac.Proofs.Utf8
namespace Daac
namespace LmIter
variable {V : Type}

/-- Stop offset of item number `i` (0 if there is none), as in `specLLItems`. -/
def stopAt (l : List WItem) (i : Nat) : Nat := ((l[i]?).map (·.stop)).getD 0

theorem stopAt_append_cons (pre : List WItem) (it : WItem) (rest : List WItem) :
    stopAt (pre ++ it :: rest) pre.length = it.stop := by
  simp [stopAt]

theorem stopAt_cons_succ (it : WItem) (r : List WItem) (i : Nat) :
    stopAt (it :: r) (i + 1) = stopAt r i := by
  simp [stopAt]

/-- What the loop of `LmIt.next` returns for the abstract answer `best` (start in items,
pattern): the match ending at the stop offset of item number `s + |p| - 1`, and the new
resume offset. -/
def lmResult (items : List WItem) (pos : Nat) : Option (Nat × LPat V) → Option (Match V) × Nat
  | none => (none, pos)
  | some (s, p) =>
    (some ⟨stopAt items (s + p.key.length - 1) - p.blen, stopAt items (s + p.key.length - 1),
        p.value⟩, stopAt items (s + p.key.length - 1))

/-- The concrete candidate (`last_output_pos`, `self.pos`) represents the abstract one (start in
items, pattern): `self.pos` is the stop offset of the last item of the occurrence. -/
def CandRel (da : DA V) (all : List WItem) (cand pos : Nat) : Option (Nat × LPat V) → Prop
  | none => cand = 0
  | some (s, p) => cand ≠ 0 ∧ stopAt all (s + p.key.length - 1) = pos ∧
      ∃ o, da.out cand = .ok o ∧ o.value = p.value ∧ o.length = p.blen

theorem report {da : DA V} {all : List WItem} {cand pos : Nat} {r : Nat × LPat V}
    (h : CandRel da all cand pos (some r)) (pos' : Nat) :
    (match da.out cand with
     | .error e => .error e
     | .ok o => .ok (some (mkMatch o pos), pos) : Except Fault (Option (Match V) × Nat))
      = .ok (lmResult all pos' (some r)) := by
  obtain ⟨_, rfl, o, ho, hv, hl⟩ := h
  rw [ho]
  simp only [mkMatch, hv, hl, lmResult]

/-- Once there is a candidate the scan returns one, so the result no longer depends on the
offset the call started from. -/
theorem lmResult_absLm_some (all : List WItem) (pos pos' : Nat) (P : List (LPat V)) (x : List Nat) :
    ∀ (u : List Nat) (r : Nat × LPat V) (n : Nat),
      lmResult all pos (absLm P x u (some r) n) = lmResult all pos' (absLm P x u (some r) n) := by
  induction x with
  | nil => intro u r n; rfl
  | cons c x ih =>
    intro u r n
    rw [absLm]
    split
    · rfl
    · split
      · exact ih _ _ _
      · exact ih _ _ _

theorem deltaL_length_le (P : List (LPat V)) (u : List Nat) (c : Nat) :
    (deltaL P u c).length ≤ u.length + 1 := by
  rcases deltaL_eq_nil_or P u c with h | h <;> rw [h]
  · exact Nat.zero_le _
  · exact Nat.le_trans (lsuf_spec (nodeList_prefClosed P).nil_mem (u ++ [c])).1.length_le
      (by rw [List.length_append]; exact Nat.le_refl _)

theorem oposL_length_le {P : List (LPat V)} {u : List Nat} {p : LPat V} (h : oposL P u = some p) :
    p.key.length ≤ u.length := by
  unfold oposL at h
  split at h
  · split at h
    · next he => cases h; exact he ▸ Nat.le_add_left _ _
    · cases h
  · cases h

/-- The loop, started at node `u` after the items `pre`, returns what the abstract scan returns
from `u` with labels counted from `|pre|`: an abstract candidate `(s, p)` stands for the output
position of `p` together with `self.pos` = stop offset of item number `s + |p| - 1`. -/
theorem lmLoop_sim {da : DA V} {P : List (LPat V)} (hS : LmSem da P) (items : List WItem) :
    ∀ (pre : List WItem) (u : List Nat) (cand : Nat) (acand : Option (Nat × LPat V))
      (pos skips : Nat),
      u ∈ nodeList P → u.length ≤ pre.length → Consecutive (pos + skips) items →
      (∀ it ∈ items, LabelOk da it.label) → CandRel da (pre ++ items) cand pos acand →
      lmLoop da items (da.idx u) cand pos skips = .ok (lmResult (pre ++ items) pos
        (absLm P (items.map (·.label)) u acand pre.length)) := by
  induction items with
  | nil =>
    intro pre u cand acand pos skips _ _ _ _ hrel
    rw [lmLoop]
    cases acand with
    | none => rw [if_pos (show cand = 0 from hrel)]; rfl
    | some r => rw [if_neg hrel.1]; exact report hrel pos
  | cons it rest ih =>
    intro pre u cand acand pos skips hu hlen hcons hlab hrel
    have hlab' : ∀ x ∈ rest, LabelOk da x.label := fun x hx => hlab x (List.mem_cons_of_mem _ hx)
    obtain ⟨hstop, -, hcons'⟩ := hcons
    have hd := hS.delta_node u hu it.label
    have hlen1 : (deltaL P u it.label).length ≤ pre.length + 1 :=
      Nat.le_trans (deltaL_length_le P u it.label) (Nat.add_le_add_right hlen 1)
    have hlen' : (deltaL P u it.label).length ≤ (pre ++ [it]).length := by
      rw [List.length_append]; exact hlen1
    rw [List.append_cons] at hrel ⊢
    -- going on with the candidate unchanged (at the root without one, or at a silent node)
    have skip := ih (pre ++ [it]) (deltaL P u it.label) cand acand pos (skips + it.width) hd hlen'
      (by rw [← Nat.add_assoc, ← hstop]; exact hcons') hlab' hrel
    rw [List.length_append, List.length_singleton] at skip
    rw [lmLoop, hS.next_ok u hu it.label (hlab it List.mem_cons_self), List.map_cons, absLm]
    simp only
    by_cases hnil : deltaL P u it.label = []
    · rw [if_pos ((hS.idx_root_iff _ hd).2 hnil), if_pos hnil]
      cases acand with
      | none => rw [if_neg fun h => h hrel, skip, hnil]; rfl
      | some r => rw [if_pos hrel.1]; exact report hrel pos
    · rw [if_neg fun h => hnil ((hS.idx_root_iff _ hd).1 h), if_neg hnil]
      obtain ⟨st, hst, hop⟩ := hS.out_ok _ hd
      rw [hst]
      simp only
      cases ho : oposL P (deltaL P u it.label) with
      | none =>
        rw [ho] at hop
        rw [if_neg fun h => h hop, skip]
      | some p =>
        rw [ho] at hop
        obtain ⟨h0, hout⟩ := hop
        rw [if_pos h0]
        have hkl : p.key.length ≤ pre.length + 1 := Nat.le_trans (oposL_length_le ho) hlen1
        -- `self.pos` becomes the stop offset of this item, the last one of the occurrence
        refine (congrArg (fun q => lmLoop da rest (da.idx (deltaL P u it.label)) st.opos q 0)
          (?_ : _ = it.stop)).trans ?_
        · split
          · rfl
          · exact (hstop.trans (Nat.add_assoc _ _ _)).symm
        · rw [ih (pre ++ [it]) _ st.opos (some (pre.length + 1 - p.key.length, p)) it.stop 0 hd hlen'
            hcons' hlab' ⟨h0, by rw [Nat.sub_add_cancel hkl, Nat.add_sub_cancel, ← List.append_cons,
              stopAt_append_cons], hout⟩,
            List.length_append, List.length_singleton, lmResult_absLm_some _ it.stop pos]

end LmIter

open LmIter in
theorem lmLoop_spec {V : Type} {da : DA V} {P : List (LPat V)} (hS : LmSem da P)
    (habs : ∀ x, absLm P x [] none 0 = bestIn P x 0)
    (items : List WItem) (pos : Nat) (hcons : Consecutive pos items)
    (hlab : ∀ it ∈ items, LabelOk da it.label) :
    lmLoop da items rootIdx 0 pos 0
      = .ok (lmResult items pos (bestIn P (items.map (·.label)) 0)) := by
  have h := lmLoop_sim hS items [] [] 0 none pos 0 (nodeList_prefClosed P).nil_mem (Nat.le_refl _)
    hcons hlab rfl
  rw [hS.root] at h
  rw [h, ← habs]
  rfl

open LmIter in
theorem lmLoop_spec' {V : Type} {da : DA V} {P : List (LPat V)} (hS : LmSem da P)
    (habs : ∀ x, absLm P x [] none 0 = bestIn P x 0)
    (items : List WItem) (pos : Nat) (hcons : Consecutive pos items)
    (hlab : ∀ it ∈ items, LabelOk da it.label) :
    ∃ r pos', lmLoop da items rootIdx 0 pos 0 = .ok (r, pos') ∧
      (bestIn P (items.map (·.label)) 0 = none → r = none ∧ pos' = pos) ∧
      (∀ s p, bestIn P (items.map (·.label)) 0 = some (s, p) →
        r = some ⟨stopAt items (s + p.key.length - 1) - p.blen,
              stopAt items (s + p.key.length - 1), p.value⟩ ∧
        pos' = stopAt items (s + p.key.length - 1)) := by
  refine ⟨_, _, lmLoop_spec hS habs items pos hcons hlab, ?_, ?_⟩
  · intro h; rw [h]; exact ⟨rfl, rfl⟩
  · intro s p h; rw [h]; exact ⟨rfl, rfl⟩

namespace LmIter
variable {V : Type}

theorem longestLPat_eq_none {l : List (LPat V)} (h : longestLPat l = none) : l = [] :=
  Daac.longestLPat_eq_none.1 h

theorem specLLItems_nil (P : List (LPat V)) (k : Nat) : specLLItems P [] k = [] := by
  unfold specLLItems; rfl

theorem specLLItems_cons_none {P : List (LPat V)} {it : WItem} {r : List WItem}
    (hq : longestLPat (prefLPats P (it.label :: r.map (·.label))) = none) :
    specLLItems P (it :: r) 0 = specLLItems P r 0 := by
  rw [specLLItems, List.map_cons, hq]

theorem specLLItems_cons_some {P : List (LPat V)} {it : WItem} {r : List WItem} {p : LPat V}
    (hq : longestLPat (prefLPats P (it.label :: r.map (·.label))) = some p) :
    specLLItems P (it :: r) 0 =
      ⟨stopAt (it :: r) (p.key.length - 1) - p.blen, stopAt (it :: r) (p.key.length - 1),
        p.value⟩ :: specLLItems P r (p.key.length - 1) := by
  rw [specLLItems, List.map_cons, hq]
  rfl

theorem specLLItems_skip (P : List (LPat V)) (l : List WItem) :
    ∀ k, specLLItems P l k = specLLItems P (l.drop k) 0 := by
  induction l with
  | nil => intro k; rw [List.drop_nil, specLLItems_nil, specLLItems_nil]
  | cons a l ih =>
    intro k
    cases k with
    | zero => rfl
    | succ k => rw [specLLItems, List.drop_succ_cons, ih k]

theorem specLLItems_none (P : List (LPat V)) (items : List WItem) :
    ∀ n, bestIn P (items.map (·.label)) n = none → specLLItems P items 0 = [] := by
  induction items with
  | nil => intro _ _; exact specLLItems_nil P 0
  | cons it r ih =>
    intro n h
    rw [List.map_cons, bestIn] at h
    split at h
    · cases h
    · next hq => exact (specLLItems_cons_none hq).trans (ih _ h)

theorem specLLItems_best (P : List (LPat V)) (items : List WItem) :
    ∀ (n j : Nat) (p : LPat V), bestIn P (items.map (·.label)) n = some (n + j, p) →
      specLLItems P items 0
        = ⟨stopAt items (j + p.key.length - 1) - p.blen, stopAt items (j + p.key.length - 1),
            p.value⟩ :: specLLItems P (items.drop (j + p.key.length)) 0 := by
  induction items with
  | nil => intro n j p h; cases h
  | cons it r ih =>
    intro n j p h
    obtain ⟨_, -, hb⟩ := bestIn_some_spec h
    obtain ⟨k, hk⟩ : ∃ k, p.key.length = k + 1 :=
      ⟨_, (Nat.sub_add_cancel (List.length_pos_iff.2 hb.occ.2.1)).symm⟩
    rw [List.map_cons, bestIn] at h
    split at h
    · next q hq =>
      obtain ⟨hn, rfl⟩ := Prod.mk.inj (Option.some.inj h)
      obtain rfl : 0 = j := Nat.add_left_cancel hn
      rw [specLLItems_cons_some hq, hk, Nat.zero_add, Nat.add_sub_cancel, List.drop_succ_cons, specLLItems_skip P r]
    · next hq =>
      obtain ⟨i, hi, -⟩ := bestIn_some_spec h
      obtain rfl : j = 1 + i := Nat.add_left_cancel (hi.trans (Nat.add_assoc n 1 i))
      rw [specLLItems_cons_none hq, ih (n + 1) i p (by rw [h, Nat.add_assoc]), hk, Nat.add_succ_sub_one,
        Nat.add_succ_sub_one, Nat.add_comm 1 i, Nat.add_right_comm i 1 k, stopAt_cons_succ,
        Nat.add_right_comm i 1 (k + 1), List.drop_succ_cons]

theorem Consecutive.drop_append {pre : List WItem} :
    ∀ {q : Nat} {it : WItem} {rest : List WItem},
      Consecutive q (pre ++ it :: rest) → Consecutive it.stop rest := by
  induction pre with
  | nil => intro q it rest h; exact h.2.2
  | cons a pre ih => intro q it rest h; exact ih h.2.2

structure DecFrom (v : Variant) (h : List Nat) (q : Nat) (rest : List WItem) : Prop where
  here : lmItems v h q = .ok rest
  consec : Consecutive q rest
  resume : ∀ pre it rest', rest = pre ++ it :: rest' → lmItems v h it.stop = .ok rest'

theorem DecFrom.dropAt {v : Variant} {h : List Nat} {q : Nat} {rest : List WItem}
    (hd : DecFrom v h q rest) {k : Nat} (hk : k < rest.length) :
    DecFrom v h (stopAt rest k) (rest.drop (k + 1)) := by
  have e : rest = rest.take k ++ rest[k] :: rest.drop (k + 1) := by
    rw [← List.drop_eq_getElem_cons hk, List.take_append_drop]
  have hs : stopAt rest k = rest[k].stop := by
    rw [stopAt, List.getElem?_eq_getElem hk]; rfl
  rw [hs]
  exact ⟨hd.resume _ _ _ e, Consecutive.drop_append (e ▸ hd.consec), fun pre it rest' e' =>
    hd.resume (rest.take k ++ rest[k] :: pre) it rest'
      (by rw [List.append_assoc, List.cons_append, ← e']; exact e)⟩

end LmIter

/-- Holds of every byte string in the byte-wise variant (`decodes_bytewise`) and of valid UTF-8 in
the char-wise variant (`decodes_charwise`). -/
structure Decodes (v : Variant) (h : List Nat) (all : List WItem) : Prop where
  zero : lmItems v h 0 = .ok all
  consec : Consecutive 0 all
  resume : ∀ pre it rest, all = pre ++ it :: rest → lmItems v h it.stop = .ok rest
  length_le : all.length ≤ h.length

namespace LmIter
variable {V : Type}

theorem next_spec {da : DA V} {P : List (LPat V)} (hS : LmSem da P)
    (habs : ∀ x, absLm P x [] none 0 = bestIn P x 0)
    {h : List Nat} {q : Nat} {rest : List WItem} (hd : DecFrom da.variant h q rest)
    (hlab : ∀ it ∈ rest, LabelOk da it.label) :
    LmIt.next da ⟨h, q⟩
      = .ok ⟨(lmResult rest q (bestIn P (rest.map (·.label)) 0)).1,
          ⟨h, (lmResult rest q (bestIn P (rest.map (·.label)) 0)).2⟩⟩ := by
  unfold LmIt.next
  simp only [hd.here, lmLoop_spec hS habs rest q hd.consec hlab]

theorem collect_spec {da : DA V} {P : List (LPat V)} (hS : LmSem da P)
    (habs : ∀ x, absLm P x [] none 0 = bestIn P x 0) {h : List Nat} (fuel : Nat) :
    ∀ (q : Nat) (rest : List WItem), DecFrom da.variant h q rest →
      (∀ it ∈ rest, LabelOk da it.label) → rest.length + 1 ≤ fuel →
      ∃ l, collectWith (LmIt.next da) (fun _ => 0) fuel ⟨h, q⟩ = .ok (l, 0) ∧
        l.map (·.1) = specLLItems P rest 0 := by
  induction fuel with
  | zero => intro q rest _ _ hf; exact absurd hf (Nat.not_succ_le_zero _)
  | succ fuel ih =>
    intro q rest hd hlab hf
    unfold collectWith
    rw [next_spec hS habs hd hlab]
    cases hbest : bestIn P (rest.map (·.label)) 0 with
    | none => exact ⟨[], rfl, (specLLItems_none P rest 0 hbest).symm⟩
    | some sp =>
      obtain ⟨s, p⟩ := sp
      have hb := isBest_of_bestIn hbest
      -- the occurrence ends at item number `s + |p| - 1`; the next call resumes after it
      have hle := occ_length hb.occ
      rw [List.length_map] at hle
      have hk : 0 < s + p.key.length :=
        Nat.lt_of_lt_of_le (List.length_pos_iff.2 hb.occ.2.1) (Nat.le_add_left _ _)
      have hd' := hd.dropAt (Nat.lt_of_lt_of_le (Nat.sub_lt hk Nat.one_pos) hle)
      rw [Nat.sub_add_cancel hk] at hd'
      obtain ⟨l', hl', hspec'⟩ := ih _ _ hd' (fun it hit => hlab it (List.mem_of_mem_drop hit))
        (by rw [List.length_drop]
            exact Nat.le_trans (Nat.sub_lt (Nat.lt_of_lt_of_le hk hle) hk) (Nat.le_of_succ_le_succ hf))
      refine ⟨(⟨stopAt rest (s + p.key.length - 1) - p.blen, stopAt rest (s + p.key.length - 1),
        p.value⟩, 0) :: l', ?_, ?_⟩
      · simp only [lmResult, hl']
      · rw [specLLItems_best P rest 0 s p (by rw [hbest, Nat.zero_add]), List.map_cons, hspec']

theorem collectFuel_ge (da : DA V) (h : List Nat) : h.length + 2 ≤ collectFuel da h :=
  Nat.succ_le_succ (Nat.le_mul_of_pos_right (h.length + 1) (Nat.succ_pos da.outputs.size))

end LmIter

open LmIter in
theorem lmAll_spec {V : Type} {da : DA V} {P : List (LPat V)} (hS : LmSem da P)
    (habs : ∀ x, absLm P x [] none 0 = bestIn P x 0)
    {h : List Nat} {all : List WItem} (hd : Decodes da.variant h all)
    (hlab : ∀ it ∈ all, LabelOk da it.label) :
    ∃ l, lmAll da h = .ok (l, 0) ∧ l.map (·.1) = specLLItems P all 0 :=
  collect_spec hS habs (collectFuel da h) 0 all ⟨hd.zero, hd.consec, hd.resume⟩ hlab
    (Nat.le_trans (Nat.add_le_add_right hd.length_le 1)
      (Nat.le_of_succ_le (collectFuel_ge da h)))

theorem lmAll_spec' {V : Type} {da : DA V} {P : List (LPat V)} (hS : LmSem da P)
    (habs : ∀ x, absLm P x [] none 0 = bestIn P x 0)
    {h : List Nat} {all : List WItem} (hd : Decodes da.variant h all)
    (hlab : ∀ it ∈ all, LabelOk da it.label) :
    ∃ l fin, lmAll da h = .ok (l, fin) ∧ l.map (·.1) = specLLItems P all 0 := by
  obtain ⟨l, h1, h2⟩ := lmAll_spec hS habs hd hlab
  exact ⟨l, 0, h1, h2⟩

namespace LmIter
variable {V : Type}

theorem byteItems_nil (p : Nat) : byteItems [] p = [] := rfl

theorem byteItems_cons (b : Nat) (bs : List Nat) (p : Nat) :
    byteItems (b :: bs) p = ⟨b, 1, p + 1⟩ :: byteItems bs (p + 1) := by
  rw [byteItems, List.zipIdx_cons, List.map_cons]; rfl

theorem byteItems_length (bs : List Nat) (p : Nat) : (byteItems bs p).length = bs.length := by
  rw [byteItems, List.length_map, List.length_zipIdx]

theorem byteItems_labels (bs : List Nat) : ∀ p, (byteItems bs p).map (·.label) = bs := by
  induction bs with
  | nil => intro p; rfl
  | cons b bs ih => intro p; rw [byteItems_cons, List.map_cons, ih]

theorem byteItems_consecutive (bs : List Nat) : ∀ p, Consecutive p (byteItems bs p) := by
  induction bs with
  | nil => intro p; exact trivial
  | cons b bs ih =>
    intro p
    rw [byteItems_cons]
    exact ⟨rfl, Nat.one_pos, ih (p + 1)⟩

theorem byteItems_split (pre : List WItem) :
    ∀ (bs : List Nat) (p : Nat) (it : WItem) (rest : List WItem),
      byteItems bs p = pre ++ it :: rest →
      it.stop = p + pre.length + 1 ∧
        rest = byteItems (bs.drop (pre.length + 1)) (p + pre.length + 1) := by
  induction pre with
  | nil =>
    intro bs p it rest h
    cases bs with
    | nil => cases h
    | cons b bs =>
      rw [byteItems_cons] at h
      obtain ⟨rfl, rfl⟩ := List.cons.inj h
      exact ⟨rfl, rfl⟩
  | cons a pre ih =>
    intro bs p it rest h
    cases bs with
    | nil => cases h
    | cons b bs =>
      rw [byteItems_cons] at h
      obtain ⟨h1, h2⟩ := ih bs (p + 1) it rest (List.cons.inj h).2
      rw [List.length_cons, List.drop_succ_cons, ← Nat.add_assoc, Nat.add_right_comm p _ 1]
      exact ⟨h1, h2⟩

theorem lmItems_bytewise (h : List Nat) (q : Nat) :
    lmItems .bytewise h q = .ok (byteItems (h.drop q) q) :=
  allItems_bytewise _ _ _ (Nat.le_refl _)

end LmIter

open LmIter in
theorem decodes_bytewise (h : List Nat) : Decodes .bytewise h (byteItems h 0) where
  zero := lmItems_bytewise h 0
  consec := byteItems_consecutive h 0
  resume := by
    intro pre it rest e
    obtain ⟨h1, h2⟩ := byteItems_split pre h 0 it rest e
    rw [Nat.zero_add] at h1 h2
    rw [lmItems_bytewise, h1, h2]
  length_le := Nat.le_of_eq (byteItems_length h 0)

namespace LmIter

theorem itemsOf_consecutive (cs : List Nat) : ∀ p, Consecutive p (itemsOf cs p) := by
  induction cs with
  | nil => intro p; exact trivial
  | cons c cs ih => intro p; exact ⟨rfl, utf8Width_pos c, ih _⟩

theorem length_le_encAll (cs : List Nat) : cs.length ≤ (encAll cs).length := by
  induction cs with
  | nil => exact Nat.le_refl _
  | cons c cs ih =>
    rw [encAll_length_cons, List.length_cons, Nat.add_comm]
    exact Nat.add_le_add (utf8Width_pos c) ih

theorem itemsOf_split (pre : List WItem) :
    ∀ (cs : List Nat) (p : Nat) (it : WItem) (rest : List WItem),
      itemsOf cs p = pre ++ it :: rest →
      ∃ t1 t2, cs = t1 ++ t2 ∧ it.stop = p + (encAll t1).length ∧ rest = itemsOf t2 it.stop := by
  induction pre with
  | nil =>
    intro cs p it rest h
    cases cs with
    | nil => cases h
    | cons c cs =>
      obtain ⟨rfl, rfl⟩ := List.cons.inj h
      exact ⟨[c], cs, rfl, by rw [encAll_length_cons]; rfl, rfl⟩
  | cons a pre ih =>
    intro cs p it rest h
    cases cs with
    | nil => cases h
    | cons c cs =>
      obtain ⟨t1, t2, e, h1, h2⟩ := ih cs _ it rest (List.cons.inj h).2
      exact ⟨c :: t1, t2, by rw [e]; rfl, by rw [h1, encAll_length_cons, Nat.add_assoc], h2⟩

end LmIter

open LmIter in
theorem decodes_charwise (cs : List Nat) (hcs : ∀ c ∈ cs, isScalar c = true) :
    Decodes .charwise (encAll cs) (itemsOf cs 0) where
  zero := (lmItems_at_zero cs hcs).2
  consec := itemsOf_consecutive cs 0
  resume := by
    intro pre it rest e
    obtain ⟨t1, t2, e1, h1, h2⟩ := itemsOf_split pre cs 0 it rest e
    rw [Nat.zero_add] at h1
    rw [h2, h1, e1]
    exact lmItems_encAll t1 t2 (fun c hc => hcs c (e1 ▸ List.mem_append_right _ hc))
  length_le := by rw [itemsOf_length]; exact length_le_encAll cs

/-- A byte-level pattern as a label-level pattern of the byte-wise automaton. -/
def lpOf {V : Type} (p : Pat V) : LPat V := ⟨p.key, p.key.length, p.value⟩

namespace LmIter
variable {V : Type}

theorem longestLPat_map (l : List (Pat V)) :
    longestLPat (l.map lpOf) = (longestPat l).map lpOf := by
  induction l with
  | nil => rfl
  | cons a l ih =>
    rw [List.map_cons, longestLPat, longestPat, ih]
    cases longestPat l with
    | none => rfl
    | some q =>
      exact (apply_ite (Option.map lpOf) (q.key.length > a.key.length) (some q) (some a)).symm

theorem prefLPats_map (Ps : List (Pat V)) (x : List Nat) :
    prefLPats (Ps.map lpOf) x = (prefPats Ps x).map lpOf := by
  unfold prefLPats prefPats
  rw [List.filter_map]
  rfl

theorem stopAt_byteItems (bs : List Nat) :
    ∀ (p i : Nat), i < bs.length → stopAt (byteItems bs p) i = p + i + 1 := by
  induction bs with
  | nil => intro p i h; exact absurd h (Nat.not_lt_zero _)
  | cons b bs ih =>
    intro p i h
    rw [byteItems_cons]
    cases i with
    | zero => rfl
    | succ i =>
      rw [stopAt_cons_succ, ih (p + 1) i (Nat.lt_of_succ_lt_succ h), Nat.add_right_comm p 1 i,
        Nat.add_assoc p i 1]

theorem specLLItems_bytes_go (Ps : List (Pat V)) (h : List Nat) (s skip : Nat) :
    specLLItems (Ps.map lpOf) (byteItems h s) skip = specLeftmostGo longestPat Ps h s skip := by
  fun_induction specLeftmostGo longestPat Ps h s skip with
  | case1 => rw [byteItems_nil, specLLItems_nil]
  | case2 c r s k ih => rw [byteItems_cons, specLLItems, ih]
  | case3 c r s hq ih =>
    have hL : longestLPat (prefLPats (Ps.map lpOf) (c :: (byteItems r (s + 1)).map (·.label)))
        = none := by
      rw [byteItems_labels, prefLPats_map, longestLPat_map, hq]; rfl
    rw [byteItems_cons, specLLItems_cons_none (it := ⟨c, 1, s + 1⟩) hL, ih]
  | case4 c r s p hq ih =>
    have hL : longestLPat (prefLPats (Ps.map lpOf) (c :: (byteItems r (s + 1)).map (·.label)))
        = some (lpOf p) := by
      rw [byteItems_labels, prefLPats_map, longestLPat_map, hq]; rfl
    -- `p` occurs at the head of `c :: r`, so its last byte is item number `|p| - 1`
    have ho := mem_prefLPats.1 (longestLPat_some hL).1
    rw [byteItems_labels] at ho
    have hk : 0 < p.key.length := List.length_pos_iff.2 ho.2.1
    have hle : p.key.length ≤ (c :: r).length := Nat.zero_add p.key.length ▸ occ_length ho
    have hst : stopAt (byteItems (c :: r) s) (p.key.length - 1) = s + p.key.length := by
      rw [stopAt_byteItems _ _ _ (Nat.lt_of_lt_of_le (Nat.sub_lt hk Nat.one_pos) hle),
        Nat.add_assoc, Nat.sub_add_cancel hk]
    rw [byteItems_cons, specLLItems_cons_some (it := ⟨c, 1, s + 1⟩) hL, ← byteItems_cons]
    show (⟨stopAt (byteItems (c :: r) s) (p.key.length - 1) - p.key.length,
        stopAt (byteItems (c :: r) s) (p.key.length - 1), p.value⟩ : Match V) ::
        specLLItems (Ps.map lpOf) (byteItems r (s + 1)) (p.key.length - 1) = _
    rw [hst, ih, Nat.add_sub_cancel]
end LmIter

open LmIter in
theorem specLLItems_bytes {V : Type} (Ps : List (Pat V)) (h : List Nat) :
    specLLItems (Ps.map lpOf) (byteItems h 0) 0 = specLL Ps h :=
  specLLItems_bytes_go Ps h 0 0

open LmIter in
theorem lmAll_bytewise_spec {V : Type} {da : DA V} (Ps : List (Pat V))
    (hS : LmSem da (Ps.map lpOf))
    (habs : ∀ x, absLm (Ps.map lpOf) x [] none 0 = bestIn (Ps.map lpOf) x 0)
    (hv : da.variant = .bytewise) (h : List Nat) (hlab : ∀ b ∈ h, LabelOk da b) :
    ∃ l, lmAll da h = .ok (l, 0) ∧ l.map (·.1) = specLL Ps h := by
  have hl : ∀ it ∈ byteItems h 0, LabelOk da it.label := fun it hit =>
    hlab _ (byteItems_labels h 0 ▸ List.mem_map_of_mem hit)
  obtain ⟨l, h1, h2⟩ := lmAll_spec hS habs (hv ▸ decodes_bytewise h) hl
  exact ⟨l, h1, h2.trans (specLLItems_bytes Ps h)⟩

end Daac
