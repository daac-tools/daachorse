/-
Translation tie, whole searches: the GENERATED entry point (`find_iter`, … — `none` = the
documented panic on a match-kind mismatch) followed by GENERATED `next()` calls until `None`
gives exactly the model's `findAll` / `ovAll` / `noSufAll` / `lmAll`, which the property theorems
are about.
-/
import Daac.Proofs.TieB
import Daac.Proofs.TieC
import Daac.Proofs.TieCollect
namespace Daac.Tie
open Daac Daac.Gen

variable {V : Type}

/-- Entry point (may panic = `none`), then `next()` until `None`, recording matches and the
number of bytes pulled when each was returned. -/
def runGen {σ : Type} (next : σ → Except Fault (Option (Rs.Match V) × σ)) (pulled : σ → Nat)
    (fuel : Nat) (start : Option σ) : Option (Except Fault (List (Daac.Match V × Nat) × Nat)) :=
  start.map (fun it => collectWith (asStep next) pulled fuel it)

theorem runGen_eq {σ τ : Type}
    {nextG : σ → Except Fault (Option (Rs.Match V) × σ)} {nextM : τ → Except Fault (Step τ V)}
    (conc : τ → σ) (Inv : σ → Prop) {pulledG : σ → Nat} {pulledM : τ → Nat}
    (hp : ∀ t, pulledG (conc t) = pulledM t)
    (hstep : ∀ t, Inv (conc t) → Sim (Shows conc Inv) (nextG (conc t)) (nextM t))
    (fuel : Nat) (t : τ) (ht : Inv (conc t)) {b : Bool} {c : Prop} [Decidable c]
    (hbc : b = true ↔ c) :
    runGen nextG pulledG fuel (if b = true then some (conc t) else none)
      = if c then some (collectWith nextM pulledM fuel t) else none := by
  by_cases h : c
  · rw [if_pos h, if_pos (hbc.2 h)]
    exact congrArg some (collect_sim conc Inv hp hstep fuel t ht)
  · rw [if_neg h, if_neg (mt hbc.1 h)]
    rfl

theorem is_leftmost_iff (k : Nat) : (decide (k = 2) || decide (k = 1)) = true ↔ k = 1 ∨ k = 2 := by
  rw [Bool.or_eq_true, decide_eq_true_iff, decide_eq_true_iff, or_comm]

namespace B
def findAll (da : DA V) (h : List Nat) :=
  runGen Gen.B.FindIterator.next (·.haystack.pulled) (collectFuel da h) (Gen.B.DA.find_iter da h)
def findAllFromIter (da : DA V) (h : List Nat) :=
  runGen Gen.B.FindIterator.next (·.haystack.pulled) (collectFuel da h) (Gen.B.DA.find_iter_from_iter da h)
def ovAll (da : DA V) (h : List Nat) :=
  runGen Gen.B.FindOverlappingIterator.next (·.haystack.pulled) (collectFuel da h) (Gen.B.DA.find_overlapping_iter da h)
def ovAllFromIter (da : DA V) (h : List Nat) :=
  runGen Gen.B.FindOverlappingIterator.next (·.haystack.pulled) (collectFuel da h) (Gen.B.DA.find_overlapping_iter_from_iter da h)
def noSufAll (da : DA V) (h : List Nat) :=
  runGen Gen.B.FindOverlappingNoSuffixIterator.next (·.haystack.pulled) (collectFuel da h) (Gen.B.DA.find_overlapping_no_suffix_iter da h)
def noSufAllFromIter (da : DA V) (h : List Nat) :=
  runGen Gen.B.FindOverlappingNoSuffixIterator.next (·.haystack.pulled) (collectFuel da h) (Gen.B.DA.find_overlapping_no_suffix_iter_from_iter da h)
def lmAll (da : DA V) (h : List Nat) :=
  runGen Gen.B.LestmostFindIterator.next (fun _ => 0) (collectFuel da h) (Gen.B.DA.leftmost_find_iter da h)

theorem findAll_eq (da : DA V) (hv : da.variant = .bytewise) (h : List Nat) :
    findAll da h = if da.kind = 0 then some (Daac.findAll da h) else none :=
  runGen_eq (concFind da) (fun _ => True) (fun _ => rfl) (fun t _ => find_next_eq da hv t) _
    ⟨startSrc h⟩ trivial decide_eq_true_iff

theorem findAllFromIter_eq (da : DA V) (hv : da.variant = .bytewise) (h : List Nat) :
    findAllFromIter da h = if da.kind = 0 then some (Daac.findAll da h) else none :=
  runGen_eq (concFind da) (fun _ => True) (fun _ => rfl) (fun t _ => find_next_eq da hv t) _
    ⟨startSrc h⟩ trivial decide_eq_true_iff

theorem ovAll_eq (da : DA V) (hv : da.variant = .bytewise) (h : List Nat) :
    ovAll da h = if da.kind = 0 then some (Daac.ovAll da h) else none :=
  runGen_eq (concOv da) (fun _ => True) (fun _ => rfl) (fun t _ => ov_next_eq da hv t) _
    ⟨startSrc h, rootIdx, 0, 0⟩ trivial decide_eq_true_iff

theorem ovAllFromIter_eq (da : DA V) (hv : da.variant = .bytewise) (h : List Nat) :
    ovAllFromIter da h = if da.kind = 0 then some (Daac.ovAll da h) else none :=
  runGen_eq (concOv da) (fun _ => True) (fun _ => rfl) (fun t _ => ov_next_eq da hv t) _
    ⟨startSrc h, rootIdx, 0, 0⟩ trivial decide_eq_true_iff

theorem noSufAll_eq (da : DA V) (hv : da.variant = .bytewise) (h : List Nat) :
    noSufAll da h = if da.kind = 0 then some (Daac.noSufAll da h) else none :=
  runGen_eq (concNoSuf da) (fun _ => True) (fun _ => rfl) (fun t _ => nosuf_next_eq da hv t) _
    ⟨startSrc h, rootIdx⟩ trivial decide_eq_true_iff

theorem noSufAllFromIter_eq (da : DA V) (hv : da.variant = .bytewise) (h : List Nat) :
    noSufAllFromIter da h = if da.kind = 0 then some (Daac.noSufAll da h) else none :=
  runGen_eq (concNoSuf da) (fun _ => True) (fun _ => rfl) (fun t _ => nosuf_next_eq da hv t) _
    ⟨startSrc h, rootIdx⟩ trivial decide_eq_true_iff

theorem lmAll_eq (da : DA V) (hv : da.variant = .bytewise) (h : List Nat) :
    lmAll da h = if da.kind = 1 ∨ da.kind = 2 then some (Daac.lmAll da h) else none :=
  runGen_eq (concLm da) (fun _ => True) (fun _ => rfl) (fun t _ => lm_next_eq da hv t) _
    ⟨h, 0⟩ trivial (is_leftmost_iff da.kind)
end B

namespace C
def findAll (da : DA V) (h : List Nat) :=
  runGen Gen.C.FindIterator.next (·.haystack.inner.pulled) (collectFuel da h) (Gen.C.DA.find_iter da h)
def findAllFromIter (da : DA V) (h : List Nat) :=
  runGen Gen.C.FindIterator.next (·.haystack.inner.pulled) (collectFuel da h) (Gen.C.DA.find_iter_from_iter da h)
def ovAll (da : DA V) (h : List Nat) :=
  runGen Gen.C.FindOverlappingIterator.next (·.haystack.inner.pulled) (collectFuel da h) (Gen.C.DA.find_overlapping_iter da h)
def ovAllFromIter (da : DA V) (h : List Nat) :=
  runGen Gen.C.FindOverlappingIterator.next (·.haystack.inner.pulled) (collectFuel da h) (Gen.C.DA.find_overlapping_iter_from_iter da h)
def noSufAll (da : DA V) (h : List Nat) :=
  runGen Gen.C.FindOverlappingNoSuffixIterator.next (·.haystack.inner.pulled) (collectFuel da h) (Gen.C.DA.find_overlapping_no_suffix_iter da h)
def noSufAllFromIter (da : DA V) (h : List Nat) :=
  runGen Gen.C.FindOverlappingNoSuffixIterator.next (·.haystack.inner.pulled) (collectFuel da h) (Gen.C.DA.find_overlapping_no_suffix_iter_from_iter da h)
def lmAll (da : DA V) (h : List Nat) :=
  runGen Gen.C.LestmostFindIterator.next (fun _ => 0) (collectFuel da h) (Gen.C.DA.leftmost_find_iter da h)


theorem findAll_eq (da : DA V) (hv : da.variant = .charwise) (h : List Nat) :
    findAll da h = if da.kind = 0 then some (Daac.findAll da h) else none :=
  runGen_eq (concFind da) (fun _ => True) (fun _ => rfl) (fun t _ => find_next_eq da hv t) _
    ⟨startSrc h⟩ trivial decide_eq_true_iff

theorem findAllFromIter_eq (da : DA V) (hv : da.variant = .charwise) (h : List Nat) :
    findAllFromIter da h = if da.kind = 0 then some (Daac.findAll da h) else none :=
  runGen_eq (concFind da) (fun _ => True) (fun _ => rfl) (fun t _ => find_next_eq da hv t) _
    ⟨startSrc h⟩ trivial decide_eq_true_iff

theorem ovAll_eq (da : DA V) (hv : da.variant = .charwise) (h : List Nat) :
    ovAll da h = if da.kind = 0 then some (Daac.ovAll da h) else none :=
  runGen_eq (concOv da) (fun _ => True) (fun _ => rfl) (fun t _ => ov_next_eq da hv t) _
    ⟨startSrc h, rootIdx, 0, 0⟩ trivial decide_eq_true_iff

theorem ovAllFromIter_eq (da : DA V) (hv : da.variant = .charwise) (h : List Nat) :
    ovAllFromIter da h = if da.kind = 0 then some (Daac.ovAll da h) else none :=
  runGen_eq (concOv da) (fun _ => True) (fun _ => rfl) (fun t _ => ov_next_eq da hv t) _
    ⟨startSrc h, rootIdx, 0, 0⟩ trivial decide_eq_true_iff

theorem noSufAll_eq (da : DA V) (hv : da.variant = .charwise) (h : List Nat) :
    noSufAll da h = if da.kind = 0 then some (Daac.noSufAll da h) else none :=
  runGen_eq (concNoSuf da) (fun _ => True) (fun _ => rfl) (fun t _ => nosuf_next_eq da hv t) _
    ⟨startSrc h, rootIdx⟩ trivial decide_eq_true_iff

theorem noSufAllFromIter_eq (da : DA V) (hv : da.variant = .charwise) (h : List Nat) :
    noSufAllFromIter da h = if da.kind = 0 then some (Daac.noSufAll da h) else none :=
  runGen_eq (concNoSuf da) (fun _ => True) (fun _ => rfl) (fun t _ => nosuf_next_eq da hv t) _
    ⟨startSrc h, rootIdx⟩ trivial decide_eq_true_iff

/-- Char-wise leftmost search of a `str` (valid UTF-8 text with scalar values `t`). -/
theorem lmAll_eq (da : DA V) (hv : da.variant = .charwise) (t : List Nat)
    (ht : ∀ c ∈ t, isScalar c = true) :
    lmAll da (encAll t)
      = if da.kind = 1 ∨ da.kind = 2 then some (Daac.lmAll da (encAll t)) else none :=
  runGen_eq (concLm da) LmInv (fun _ => rfl) (lm_next_eq da hv) _ ⟨encAll t, 0⟩
    ⟨t, [], ht, rfl, rfl⟩ (is_leftmost_iff da.kind)
end C

end Daac.Tie
