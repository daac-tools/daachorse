/-
Translation tie, shared part: how a generated function is compared with the model function it was
translated from (`Sim` and its step lemmas), and how the per-call simulation of a model iterator
by a generated iterator lifts to whole searches (`collect_sim`): same matches, same pulled counts,
same faults.
-/
import Daac.Proofs.TieBase
namespace Daac.Tie
open Daac Daac.Gen

variable {V α β α' β' : Type}

theorem getSt (da : DA V) (i : Nat) : Rs.getUnchecked da.states i .oobStates = da.st i := by
  unfold Rs.getUnchecked DA.st; cases da.states[i]? <;> rfl

theorem getOut (da : DA V) (p : Nat) (hp : p ≠ 0) :
    Rs.getUnchecked da.outputs (p - 1) .oobOutputs = da.out p := by
  unfold Rs.getUnchecked DA.out; rw [if_neg hp]; cases da.outputs[p - 1]? <;> rfl

theorem nonZero_of_ne {n : Nat} (h : n ≠ 0) : Rs.nonZero n = some n := if_neg h

def Sim (R : α → β → Prop) : Except Fault α → Except Fault β → Prop
  | .error e, .error e' => e = e'
  | .ok a, .ok b => R a b
  | _, _ => False

variable {R : α → β → Prop} {Φ : α' → Except Fault α}

/- The step lemmas compare a piece of a generated loop, followed by what `next()` does with the
loop's result (`Φ`; `x.map k` is `x.bind fun a => .ok (k a)` by definition), with a piece of the
model's loop. They are used with `apply`: unifying their conclusion with the goal evaluates the
generated function and the model function just far enough to expose their next `match`, so the
generated body is never rewritten as a whole. The unifier identifies two `match`es only if they
were compiled to the same auxiliary definition, which is the case for equal patterns on equal
types: hence `bindNat` and `bindSt`, with the same proof, and not one polymorphic lemma. -/

theorem Sim.bindNat {x' x : Except Fault Nat} (hx : x' = x) {f : Nat → Except Fault α'}
    {g : Nat → Except Fault β} (h : ∀ n, Sim R ((f n).bind Φ) (g n)) :
    Sim R (Except.bind (match (generalizing := false) x' with | .error e => .error e | .ok n => f n) Φ)
      (match (generalizing := false) x with | .error e => .error e | .ok n => g n) := by
  subst hx
  cases x' with
  | error e => exact rfl
  | ok n => exact h n

theorem Sim.bindSt {x' x : Except Fault St} (hx : x' = x) {f : St → Except Fault α'}
    {g : St → Except Fault β} (h : ∀ st, Sim R ((f st).bind Φ) (g st)) :
    Sim R (Except.bind (match (generalizing := false) x' with | .error e => .error e | .ok st => f st) Φ)
      (match (generalizing := false) x with | .error e => .error e | .ok st => g st) := by
  subst hx
  cases x' with
  | error e => exact rfl
  | ok st => exact h st

/-- Looking up the child of a state (`child_index_unchecked`). -/
theorem Sim.child {x' x : Except Fault (Option Nat)} (hx : x' = x) {f : Nat → Except Fault α'}
    {k : Except Fault α'} {g : Nat → Except Fault β} {k' : Except Fault β}
    (hs : ∀ t, Sim R ((f t).bind Φ) (g t)) (hn : Sim R (k.bind Φ) k') :
    Sim R
      (Except.bind
        (match (generalizing := false) x' with
        | .error e => .error e
        | .ok r => match r with | some t => f t | none => k) Φ)
      (match (generalizing := false) x with
        | .error e => .error e
        | .ok (some t) => g t
        | .ok none => k') := by
  subst hx
  rcases x' with e | _ | t
  · exact rfl
  · exact hn
  · exact hs t

theorem Sim.iteDecide {c : Prop} [Decidable c] {a b : Except Fault α'} {a' b' : Except Fault β}
    (ht : c → Sim R (a.bind Φ) a') (hf : ¬c → Sim R (b.bind Φ) b') :
    Sim R ((if decide c = true then a else b).bind Φ) (if c then a' else b') := by
  by_cases h : c
  · rw [if_pos (decide_eq_true h), if_pos h]; exact ht h
  · rw [if_neg (mt of_decide_eq_true h), if_neg h]; exact hf h

/-- Emitting the output record stored under the `NonZeroU32` position `n` (0 = `None`), if any. -/
theorem Sim.output (da : DA V) (n : Nat) {f : Out V → Except Fault α'}
    {g : Out V → Except Fault β} {k : Except Fault α'} {k' : Except Fault β}
    (hf : ∀ o, Sim R ((f o).bind Φ) (g o)) (hk : Sim R (k.bind Φ) k') :
    Sim R
      (Except.bind
        (match Rs.nonZero n with
        | some p =>
          match Rs.getUnchecked da.outputs (p - 1) .oobOutputs with
          | .error e => .error e
          | .ok o => f o
        | none => k) Φ)
      (if n ≠ 0 then
        match da.out n with
        | .error e => .error e
        | .ok o => g o
       else k') := by
  by_cases h : n = 0
  · rw [if_neg (not_not_intro h), h]; exact hk
  · rw [if_pos h, nonZero_of_ne h]
    dsimp only
    rw [getOut da n h]
    cases da.out n with
    | error e => exact rfl
    | ok o => exact hf o

/-- Remembering the output position `n` of a state as the new candidate, if it has one. -/
theorem Sim.newCand (n : Nat) {f : Nat → Except Fault α'} {k : Except Fault α'}
    {g k' : Except Fault β} (hs : n ≠ 0 → Sim R ((f n).bind Φ) g) (hk : Sim R (k.bind Φ) k') :
    Sim R ((match Rs.nonZero n with | some p => f p | none => k).bind Φ)
      (if n ≠ 0 then g else k') := by
  by_cases h : n = 0
  · rw [if_neg (not_not_intro h), h]; exact hk
  · rw [if_pos h, nonZero_of_ne h]; exact hs h

/-- For a piece of generated code that is not followed by anything. -/
theorem Sim.bind_ok_iff {x : Except Fault α} {y : Except Fault β} :
    Sim R (x.bind .ok) y ↔ Sim R x y := by
  cases x <;> exact Iff.rfl

theorem Sim.eq_map {ψ : β → α} {x : Except Fault α} {y : Except Fault β}
    (h : Sim (fun a b => a = ψ b) x y) : x = y.map ψ := by
  cases x <;> cases y <;> first | exact congrArg _ h | exact h.elim

/-- The model's `next()` finishes the result of its loop by a total function. -/
theorem Sim.map_right {m : β' → β} {x : Except Fault α} {y : Except Fault β'}
    (h : Sim (fun a b => R a (m b)) x y) : Sim R x (y.map m) := by
  cases x <;> cases y <;> exact h

/-- How a `next()` leaves its loop: `return r` from inside it, or `None` with the iterator
`self s` among the loop-carried variables `s`. -/
def Ctl.out {ρ σ σ' : Type} (self : σ' → σ) : Ctl (Option ρ × σ) σ' → Option ρ × σ
  | .ret r => r
  | .done s => (none, self s)

theorem FindIt.next_eq (da : DA V) (it : FindIt) :
    FindIt.next da it
      = (scanFirst da (it.src.rest.length + 1) rootIdx it.src).map fun x => ⟨x.1, ⟨x.2.2⟩⟩ := by
  unfold FindIt.next
  cases scanFirst da (it.src.rest.length + 1) rootIdx it.src <;> rfl

theorem NoSufIt.next_eq (da : DA V) (it : NoSufIt) :
    NoSufIt.next da it
      = (scanFirst da (it.src.rest.length + 1) it.state it.src).map
          fun x => ⟨x.1, ⟨x.2.2, x.2.1⟩⟩ := by
  unfold NoSufIt.next
  cases scanFirst da (it.src.rest.length + 1) it.state it.src <;> rfl

theorem LmIt.next_eq (da : DA V) (it : LmIt) (items : List WItem)
    (h : lmItems da.variant it.hay it.pos = .ok items) :
    LmIt.next da it = (lmLoop da items rootIdx 0 it.pos 0).map fun x => ⟨x.1, ⟨it.hay, x.2⟩⟩ := by
  unfold LmIt.next
  rw [h]
  dsimp only
  cases lmLoop da items rootIdx 0 it.pos 0 <;> rfl

def asStep {σ : Type} (next : σ → Except Fault (Option (Rs.Match V) × σ)) (s : σ) :
    Except Fault (Step σ V) :=
  match next s with
  | .error e => .error e
  | .ok (r, s') => .ok ⟨r.map Rs.Match.toModel, s'⟩

/-- A `next()` result of a generated iterator shows the model's: the same match, and the
generated iterator `conc t'` that stands for the model's new iterator `t'`, again with `Inv`. -/
def Shows {σ τ : Type} (conc : τ → σ) (Inv : σ → Prop) (p : Option (Rs.Match V) × σ)
    (st : Step τ V) : Prop :=
  obs id p = (st.result, conc st.it) ∧ Inv p.2

theorem collect_sim {σ τ : Type}
    {nextG : σ → Except Fault (Option (Rs.Match V) × σ)} {nextM : τ → Except Fault (Step τ V)}
    (conc : τ → σ) (Inv : σ → Prop) {pulledG : σ → Nat} {pulledM : τ → Nat}
    (hp : ∀ t, pulledG (conc t) = pulledM t)
    (hstep : ∀ t, Inv (conc t) → Sim (Shows conc Inv) (nextG (conc t)) (nextM t))
    (fuel : Nat) (t : τ) (ht : Inv (conc t)) :
    collectWith (asStep nextG) pulledG fuel (conc t) = collectWith nextM pulledM fuel t := by
  induction fuel generalizing t with
  | zero => rfl
  | succ fuel ih =>
    have h := hstep t ht
    rw [collectWith, collectWith, asStep]
    revert h
    rcases nextG (conc t) with e | ⟨r, s'⟩ <;> rcases nextM t with e' | ⟨res, t'⟩ <;> intro h
    · cases (h : e = e'); rfl
    · exact h.elim
    · exact h.elim
    · obtain ⟨h1, h2⟩ := h
      obtain ⟨hr, hs⟩ := Prod.mk.inj h1
      have hr : r.map Rs.Match.toModel = res := hr
      have hs : s' = conc t' := hs
      subst hr hs
      have h3 := ih t' h2
      cases r with
      | none => simp only [Option.map_none, hp]
      | some m => simp only [Option.map_some, h3, hp]

end Daac.Tie
