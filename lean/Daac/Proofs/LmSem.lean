/-
From the evaluated invariant `DA.leftmostInv` to the semantic interface `LmSem` (LmIface.lean).
The walk through the trie is that of `StdSem2.lean` (`TrieMirror`). Core Lean only.
-/
import Daac.Proofs.LmAbs
import Daac.Proofs.StdSem2
namespace Daac
set_option linter.unusedSectionVars false
variable {V : Type} [DecidableEq V]

/-- The probe labels of `DA.leftmostInv`. -/
def DA.probeLm (da : DA V) : List Nat :=
  match da.variant with
  | .bytewise => da.sigma
  | .charwise => da.mapTable.size :: da.sigma

def GoodLm (da : DA V) (P : List (LPat V)) (sig probe : List Nat) (u : List Nat) (i : Nat)
    (R : List (LPat V)) : Prop :=
  ∃ f, da.checkNodeLm P sig probe f i u R = true

theorem GoodLm.unfold {da : DA V} {P : List (LPat V)} {sig probe u i} {R : List (LPat V)}
    (h : GoodLm da P sig probe u i R) :
    ∃ st, da.st i = .ok st ∧
      (∀ p ∈ R, ∀ k ks, p.key = k :: ks → k ∈ sig) ∧
      da.g1Ok (bestIn P u 0) st u = true ∧
      (∀ c ∈ probe, da.nextLm i c = .ok (da.deltaLIdx (bestIn P u 0) u c)) ∧
      (∀ c ∈ sig, (stepRes R c = [] ∧ da.childL i c = .ok none) ∨
        (stepRes R c ≠ [] ∧ ∃ j, da.childL i c = .ok (some j) ∧ j ≠ rootIdx ∧ j ≠ deadIdx ∧
          GoodLm da P sig probe (u ++ [c]) j (stepRes R c))) := by
  obtain ⟨f, hf⟩ := h
  revert hf
  fun_cases DA.checkNodeLm da P sig probe f i u R <;> intro hf
  case case3 f st hst best =>
      simp only [Bool.and_eq_true, List.all_eq_true] at hf
      obtain ⟨⟨⟨hheads, hg1⟩, hprobe⟩, hch⟩ := hf
      refine ⟨st, hst, ?_, hg1, ?_, ?_⟩
      · intro p hp k ks hk
        have := hheads p hp
        rw [hk] at this
        exact List.contains_iff_mem.1 this
      · intro c hc
        have := hprobe c hc
        split at this
        · next j hj => rw [hj, eq_of_beq this]
        · cases this
      · intro c hc
        have := hch c hc
        split at this
        · cases this
        · next hcl => exact Or.inl ⟨List.isEmpty_iff.1 this, hcl⟩
        · next j hcl =>
          simp only [Bool.and_eq_true, Bool.not_eq_true', bne_iff_ne, ne_eq] at this
          obtain ⟨⟨⟨hne, hjr⟩, hjd⟩, hg⟩ := this
          exact Or.inr ⟨fun h0 => (by rw [h0] at hne; cases hne), j, hcl, hjr, hjd, f, hg⟩
  all_goals cases hf

theorem GoodLm.mirror {da : DA V} {P : List (LPat V)} {sig probe : List Nat} :
    TrieMirror da sig (GoodLm da P sig probe) := by
  intro u i R h
  obtain ⟨_, _, hh, _, _, hch⟩ := h.unfold
  exact ⟨hh, hch⟩

theorem deltaLIdx_eq_of_walks {da : DA V} {P : List (LPat V)}
    (hW : ∀ s, (∀ c ∈ s, LabelOk da c) → ((da.walk s).isSome ↔ s ∈ nodeList P))
    {u : List Nat} {c : Nat} (hl : ∀ d ∈ u ++ [c], LabelOk da d) :
    da.deltaLIdx (bestIn P u 0) u c = da.idx (deltaL P u c) := by
  unfold DA.deltaLIdx deltaL
  rw [lsufIdx_eq_of_walks hW hl]
  cases bestIn P u 0 with
  | none => rfl
  | some sp =>
    show (if _ then rootIdx else _) = da.idx (if _ then [] else _)
    split
    · rfl
    · rfl

theorem mem_probeLm_of_mem_sigma {da : DA V} {c : Nat} (h : c ∈ da.sigma) : c ∈ da.probeLm := by
  unfold DA.probeLm
  split
  · exact h
  · exact List.mem_cons_of_mem _ h

theorem delta_node_of_nodeList (P : List (LPat V)) (u : List Nat) (c : Nat) :
    deltaL P u c ∈ nodeList P := by
  rcases deltaL_eq_nil_or P u c with h | h <;> rw [h]
  · exact (nodeList_prefClosed P).nil_mem
  · exact lsuf_mem_nodeList P (u ++ [c])

section
variable {da : DA V} {P : List (LPat V)} (hT : da.leftmostInv P = true)
include hT

/-- `hT` is the check at the root, with the fuel `maxKeyLen P + 1`. -/
theorem goodLm_root : GoodLm da P da.sigma da.probeLm [] rootIdx P := ⟨_, hT⟩

theorem node_goodLm {u : List Nat} (hu : u ∈ nodeList P) :
    ∃ j, da.walk u = some j ∧ GoodLm da P da.sigma da.probeLm u j (resid P u) ∧
      (u ≠ [] → j ≠ rootIdx) ∧ (∀ c ∈ u, c ∈ da.sigma) :=
  GoodLm.mirror.node (goodLm_root hT) hu

theorem idx_root_iff_of_leftmostInv :
    ∀ u ∈ nodeList P, da.idx u = rootIdx ↔ u = [] := by
  intro u hu
  obtain ⟨j, hj, _, hjr, _⟩ := node_goodLm hT hu
  rw [idx_of_walk hj]
  exact ⟨fun h => Classical.byContradiction fun hne => hjr hne h,
    fun h0 => by subst h0; cases hj; rfl⟩

theorem next_ok_of_leftmostInv :
    ∀ u ∈ nodeList P, ∀ c, LabelOk da c →
      da.nextLm (da.idx u) c = .ok (da.idx (deltaL P u c)) := by
  intro u hu c hc
  rcases hc with hcs | hcc
  · obtain ⟨j, hj, hg, _, hsig⟩ := node_goodLm hT hu
    obtain ⟨st, _, _, _, hprobe, _⟩ := hg.unfold
    rw [idx_of_walk hj, hprobe c (mem_probeLm_of_mem_sigma hcs)]
    exact congrArg _ (deltaLIdx_eq_of_walks
      (fun _ => GoodLm.mirror.walk_isSome_iff (goodLm_root hT)) fun d hd =>
        (List.mem_append.1 hd).elim (fun h => Or.inl (hsig d h))
          fun h => List.mem_singleton.1 h ▸ Or.inl hcs)
  · have hd : deltaL P u c = [] :=
      (deltaL_eq_nil_or P u c).elim id fun h => h.trans (lsuf_snoc_unmapped (GoodLm.mirror.child (goodLm_root hT)) u hcc)
    rw [hd, DA.nextLm, DA.nextLmS, hcc]
    rfl

theorem out_ok_of_leftmostInv :
    ∀ u ∈ nodeList P, ∃ st, da.st (da.idx u) = .ok st ∧
      (match oposL P u with
       | some p => st.opos ≠ 0 ∧ ∃ o, da.out st.opos = .ok o ∧ o.value = p.value ∧ o.length = p.blen
       | none => st.opos = 0) := by
  intro u hu
  obtain ⟨j, hj, hg, _, _⟩ := node_goodLm hT hu
  obtain ⟨st, hst, _, hg1, _⟩ := hg.unfold
  refine ⟨st, by rw [idx_of_walk hj]; exact hst, ?_⟩
  unfold DA.g1Ok at hg1
  unfold oposL
  cases hb : bestIn P u 0 with
  | none =>
    rw [hb] at hg1
    exact eq_of_beq hg1
  | some sp =>
    obtain ⟨s, p⟩ := sp
    rw [hb] at hg1
    by_cases hlen : s + p.key.length = u.length
    · simp only [hlen, if_true] at hg1 ⊢
      split at hg1
      · cases hg1
      · next o ho =>
        simp only [Bool.and_eq_true, decide_eq_true_eq, beq_iff_eq] at hg1
        refine ⟨fun h0 => ?_, o, ho, hg1.1, hg1.2⟩
        rw [h0, DA.out, if_pos rfl] at ho
        cases ho
    · simp only [hlen, if_false] at hg1 ⊢
      exact eq_of_beq hg1

end

/-- `_hkeys` and `_hne` are not used by the proof. -/
theorem lmSem_of_leftmostInv (da : DA V) (P : List (LPat V))
    (_hkeys : (P.map (·.key)).Nodup) (_hne : ∀ p ∈ P, p.key ≠ [])
    (hT : da.leftmostInv P = true) : LmSem da P where
  root := idx_nil da
  idx_root_iff := idx_root_iff_of_leftmostInv hT
  next_ok := next_ok_of_leftmostInv hT
  delta_node := fun u _ c => delta_node_of_nodeList P u c
  out_ok := out_ok_of_leftmostInv hT

#print axioms lmSem_of_leftmostInv

end Daac
