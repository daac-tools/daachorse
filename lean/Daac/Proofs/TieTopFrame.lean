import Daac.Gen.BuildB
import Daac.Proofs.TieL
/-!
The frame property of the translated byte-wise `build_double_array` (Gen/BuildB.lean): none of
`init_array`, `extend_array`, `remove_invalid_checks` (Proofs/TieL.lean), `loop0` .. `loop3` writes the
`match_kind` or the `num_free_blocks` field of the builder: every assignment to `self` is `{ self with states := .. }` or the
result of a callee with the same property.  Each lemma goes by cases along the definition of its function
(`fun_induction` / `fun_cases`; `caseN` is the N-th leaf in the order of the definition's text): the leaves
that return a builder are treated by name, all other leaves are error exits.
-/
namespace Daac.Tie.Top
open Daac Daac.Gen Daac.Gen.N

variable {V : Type}

/-- The two fields of the builder that the layout pass never writes. -/
def SameCfg (b' b : LB.Builder) : Prop :=
  b'.match_kind = b.match_kind ∧ b'.num_free_blocks = b.num_free_blocks

theorem SameCfg.rfl' (b : LB.Builder) : SameCfg b b := ⟨rfl, rfl⟩

theorem SameCfg.trans {a b c : LB.Builder} (h1 : SameCfg a b) (h2 : SameCfg b c) : SameCfg a c :=
  ⟨h1.1.trans h2.1, h1.2.trans h2.2⟩

def KindFrame (V : Type) : Prop := ∀ (b b' : LB.Builder) (g : NfaBuilder V) (u : Unit),
  DB.Builder.build_double_array b g = .ok (u, b') → b'.match_kind = b.match_kind

theorem init_array_frame (b b' : LB.Builder) (h : H.BuildHelper)
    (hh : LB.Builder.init_array b = .ok (h, b')) : SameCfg b' b := by
  revert hh
  fun_cases LB.Builder.init_array b <;> intro hh
  case case5 => rw [← (Prod.mk.inj (Except.ok.inj hh)).2]; exact ⟨rfl, rfl⟩
  all_goals cases hh

theorem extend_array_frame (b b' : LB.Builder) (h h' : H.BuildHelper) (u : Unit)
    (hh : LB.Builder.extend_array b h = .ok (u, b', h')) : SameCfg b' b := by
  revert hh
  fun_cases LB.Builder.extend_array b h <;> intro hh
  case case4 b1 hdrop _ _ _ _ _ =>
    -- `hdrop`: the block dropped from the active range, if any, was cleaned by `remove_invalid_checks`
    have h1 : SameCfg b1 b := by
      split at hdrop
      · cases hdrop
      · split at hdrop
        · split at hdrop
          · cases hdrop
          · rename_i hr
            rw [← Except.ok.inj hdrop]
            exact Tie.L.B.remove_invalid_checks_frame _ _ _ _ _ hr
        · rw [← Except.ok.inj hdrop]; exact ⟨rfl, rfl⟩
    rw [← (Prod.mk.inj (Prod.mk.inj (Except.ok.inj hh)).2).1]
    exact SameCfg.trans ⟨rfl, rfl⟩ h1
  all_goals cases hh

theorem loop1_frame (base : Nat) (l : List (Nat × Nat)) (b : LB.Builder) (h : H.BuildHelper)
    (m : Array Nat) (st : List Nat) (r : LB.Builder × H.BuildHelper × Array Nat × List Nat)
    (hh : DB.Builder.build_double_array.loop1 base l b h m st = .ok r) : SameCfg r.1 b := by
  revert hh
  fun_induction DB.Builder.build_double_array.loop1 base l b h m st <;> intro hh
  case case1 => rw [← Except.ok.inj hh]; exact ⟨rfl, rfl⟩
  case case5 ih => exact (ih hh).trans ⟨rfl, rfl⟩
  all_goals cases hh

theorem loop0_frame (nfa : NfaBuilder V) (fuel : Nat) (b : LB.Builder) (h : H.BuildHelper)
    (m : Array Nat) (st lb : List Nat)
    (r : LB.Builder × H.BuildHelper × Array Nat × List Nat × List Nat)
    (hh : DB.Builder.build_double_array.loop0 nfa fuel b h m st lb = .ok r) : SameCfg r.1 b := by
  revert hh
  fun_induction DB.Builder.build_double_array.loop0 nfa fuel b h m st lb <;> intro hh
  case case2 => rw [← Except.ok.inj hh]; exact ⟨rfl, rfl⟩
  case case5 ih => exact ih hh
  case case11 b1 _ hext _ _ _ _ hl1 _ _ _ _ _ _ ih =>
    -- `hext`: the conditional `extend_array` returned `(b1, _)`; `hl1`: the run of `loop1` on it
    refine ((ih hh).trans ⟨rfl, rfl⟩).trans ((loop1_frame _ _ _ _ _ _ _ hl1).trans ?_)
    split at hext
    · split at hext
      · cases hext
      · rename_i hx
        rw [← (Prod.mk.inj (Except.ok.inj hext)).1]
        exact extend_array_frame _ _ _ _ _ hx
    · rw [← (Prod.mk.inj (Except.ok.inj hext)).1]; exact ⟨rfl, rfl⟩
  all_goals cases hh

theorem loop2_frame (m : Array Nat) (l : List (Nat × NfaBuilderState V)) (b b' : LB.Builder)
    (hh : DB.Builder.build_double_array.loop2 m l b = .ok b') : SameCfg b' b := by
  revert hh
  fun_induction DB.Builder.build_double_array.loop2 m l b <;> intro hh
  case case1 => rw [← Except.ok.inj hh]; exact ⟨rfl, rfl⟩
  case case2 ih => exact ih hh
  case case7 hfail ih =>
    -- `hfail`: the fail link was written, on either branch by a `states` update
    refine (ih hh).trans ?_
    split at hfail
    · split at hfail
      · cases hfail
      · rw [← Except.ok.inj hfail]; exact ⟨rfl, rfl⟩
    · split at hfail
      · cases hfail
      · split at hfail
        · cases hfail
        · rw [← Except.ok.inj hfail]; exact ⟨rfl, rfl⟩
  all_goals cases hh

theorem loop3_frame (h : H.BuildHelper) (l : List Nat) (b b' : LB.Builder)
    (hh : DB.Builder.build_double_array.loop3 h l b = .ok b') : SameCfg b' b := by
  revert hh
  fun_induction DB.Builder.build_double_array.loop3 h l b <;> intro hh
  case case1 => rw [← Except.ok.inj hh]; exact ⟨rfl, rfl⟩
  case case3 hr ih =>
    exact (ih hh).trans (Tie.L.B.remove_invalid_checks_frame _ _ _ _ _ hr)
  all_goals cases hh

theorem build_double_array_frame (b b' : LB.Builder) (g : NfaBuilder V) (u : Unit)
    (hh : DB.Builder.build_double_array b g = .ok (u, b')) : SameCfg b' b := by
  revert hh
  fun_cases DB.Builder.build_double_array b g <;> intro hh
  case case6 =>
    -- the four hypotheses of this case: `init_array`, `loop0`, `loop2`, `loop3` returned the successive builders
    rw [← (Prod.mk.inj (Except.ok.inj hh)).2]
    exact (loop3_frame _ _ _ _ (by assumption)).trans ((loop2_frame _ _ _ _ (by assumption)).trans
      ((loop0_frame _ _ _ _ _ _ _ (_, _) (by assumption)).trans (init_array_frame _ _ _ (by assumption))))
  all_goals cases hh

theorem kindFrame : KindFrame V := fun b b' g u h => (build_double_array_frame b b' g u h).1

end Daac.Tie.Top

#print axioms Daac.Tie.Top.kindFrame
