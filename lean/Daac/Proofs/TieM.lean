/-
Tie of the construction of the char-wise code mapper: the definitions generated by tools/map2lean.py
from the Rust text (`Daac/Gen/MapperNew.lean`: `CodeMapper::new` of src/charwise/mapper.rs and the
frequency-counting loop of `build_original_nfa_and_mapper`, src/charwise/builder.rs) compute the
hand-written model `Mapper.build` (Daac/Model/Build.lean).
-/
import Daac.Gen.MapperNew
import Daac.Proofs.MapperFacts
namespace Daac.Tie.M
open Daac Daac.Gen Daac.Gen.M
variable {V : Type}

def step (fr : Array Nat) (c : Nat) : Array Nat :=
  bump (if fr.size ≤ c then Rs.resize fr (c + 1) 0 else fr) c

theorem resize_of_le (a : Array Nat) {n : Nat} (h : a.size ≤ n) :
    Rs.resize a n 0 = a ++ Array.replicate (n - a.size) 0 := if_pos h

theorem getElem!_append_zeros (a : Array Nat) (k d : Nat) : (a ++ Array.replicate k 0)[d]! = a[d]! := by
  simp only [Array.getElem!_eq_getD, Array.getD_eq_getD_getElem?, Array.getElem?_append]
  split
  · rfl
  · next h =>
    rewrite [Array.getElem?_eq_none (Nat.not_lt.mp h), Array.getElem?_replicate]
    split <;> rfl

theorem grow_size (fr : Array Nat) (c : Nat) :
    (if fr.size ≤ c then Rs.resize fr (c + 1) 0 else fr).size = max fr.size (c + 1) := by
  split
  · next h =>
    have h' := Nat.le_succ_of_le h
    rw [resize_of_le fr h', Array.size_append, Array.size_replicate, Nat.add_sub_cancel' h',
      Nat.max_eq_right h']
  · next h => exact (Nat.max_eq_left (Nat.not_le.mp h)).symm

theorem grow_get (fr : Array Nat) (c d : Nat) :
    (if fr.size ≤ c then Rs.resize fr (c + 1) 0 else fr)[d]! = fr[d]! := by
  split
  · next h => rewrite [resize_of_le fr (Nat.le_succ_of_le h)]; exact getElem!_append_zeros ..
  · rfl

theorem lt_grow_size (fr : Array Nat) (c : Nat) :
    c < (if fr.size ≤ c then Rs.resize fr (c + 1) 0 else fr).size := by
  rewrite [grow_size]
  exact Nat.le_max_right ..

theorem set_succ_eq_bump (a : Array Nat) (c : Nat) (h : c < a.size) :
    a.setIfInBounds c (a[c] + 1) = bump a c := by
  unfold bump
  apply Array.ext
  · rw [Array.size_setIfInBounds, Array.size_modify]
  · intro i h1 h2
    rewrite [Array.getElem_modify, Array.getElem_setIfInBounds]
    split
    · next hc => subst hc; rfl
    · rfl

theorem loop0_eq (chars : List Nat) (fr : Array Nat) :
    count_chars.loop0 chars fr = .ok (chars.foldl step fr) := by
  induction chars generalizing fr with
  | nil => rfl
  | cons c rest ih =>
    have hlt := lt_grow_size fr c
    simp only [count_chars.loop0, decide_eq_true_eq, List.foldl_cons]
    simp only [Rs.index, Rs.indexSet, Array.getElem?_eq_getElem hlt, hlt, if_true]
    rewrite [ih, set_succ_eq_bump _ _ hlt]
    rfl

theorem count_chars_eq (fr : Array Nat) (chars : List Nat) :
    count_chars fr chars = .ok (chars.foldl step fr) := by
  unfold count_chars; rw [loop0_eq]


/-- The generated `count_chars` run over the keys of the patterns in order (the pattern loop of
`build_original_nfa_and_mapper`, with the interleaved `nfa.add` calls — which do not touch `freqs` —
left out). -/
def countAll (fr : Array Nat) : List (List Nat) → Except BuildErr (Array Nat)
  | [] => .ok fr
  | k :: ks =>
    match count_chars fr k with
    | .error e => .error e
    | .ok fr' => countAll fr' ks

theorem countAll_eq (ks : List (List Nat)) (fr : Array Nat) :
    countAll fr ks = .ok (ks.flatten.foldl step fr) := by
  induction ks generalizing fr with
  | nil => rfl
  | cons k ks ih => simp only [countAll, count_chars_eq, ih, List.flatten_cons, List.foldl_append]

theorem step_size (fr : Array Nat) (c : Nat) : (step fr c).size = max fr.size (c + 1) := by
  rw [step, bump_size, grow_size]

theorem step_get (fr : Array Nat) (c d : Nat) :
    (step fr c)[d]! = if c = d then fr[d]! + 1 else fr[d]! := by
  rewrite [step, bump_get, grow_get]
  by_cases hcd : c = d
  · subst hcd
    rw [if_pos ⟨rfl, lt_grow_size fr c⟩, if_pos rfl]
  · rw [if_neg (fun h => hcd h.1), if_neg hcd]

theorem foldl_step_size_le {L : List Nat} {fr : Array Nat} {N : Nat} :
    (L.foldl step fr).size ≤ N ↔ fr.size ≤ N ∧ ∀ c ∈ L, c < N := by
  induction L generalizing fr with
  | nil => exact ⟨fun h => ⟨h, nofun⟩, fun h => h.1⟩
  | cons c L ih =>
    rw [List.foldl_cons, ih, step_size, Nat.max_le, Nat.add_one_le_iff, List.forall_mem_cons, and_assoc]

theorem foldl_step_bump (L : List Nat) (a b : Array Nat) (hab : ∀ d : Nat, a[d]! = b[d]!)
    (hL : ∀ c ∈ L, c < b.size) : ∀ d : Nat, (L.foldl step a)[d]! = (L.foldl bump b)[d]! := by
  induction L generalizing a b with
  | nil => exact hab
  | cons c L ih =>
    have hc := hL c List.mem_cons_self
    rewrite [List.foldl_cons, List.foldl_cons]
    refine ih (step a c) (bump b c) (fun d => ?_)
      (fun x hx => by rewrite [bump_size]; exact hL x (List.mem_cons_of_mem _ hx))
    rewrite [step_get, bump_get, hab]
    by_cases hcd : c = d
    · subst hcd
      rw [if_pos rfl, if_pos ⟨rfl, hc⟩]
    · rw [if_neg hcd, if_neg (fun h => hcd h.1)]

theorem tableLen_le_of_lt {P : List (LPat V)} {N : Nat} (h : ∀ p ∈ P, ∀ c ∈ p.key, c < N) :
    tableLen P ≤ N := by
  unfold tableLen
  split
  · next hany =>
    cases N with
    | zero =>
      obtain ⟨p, hp, hk⟩ := List.any_eq_true.1 hany
      cases hkey : p.key with
      | nil => rw [hkey] at hk; cases hk
      | cons c r => exact absurd (h p hp c (hkey ▸ List.mem_cons_self)) (Nat.not_lt_zero c)
    | succ b => exact Nat.succ_le_succ (maxLabel_le.2 fun p hp c hc => Nat.le_of_lt_succ (h p hp c hc))
  · exact Nat.zero_le N

theorem tableLen_le (P : List (LPat V)) (b : Nat) (hb : ∀ p ∈ P, ∀ c ∈ p.key, c ≤ b) :
    tableLen P ≤ b + 1 :=
  tableLen_le_of_lt fun p hp c hc => Nat.lt_succ_of_le (hb p hp c hc)

theorem array_ext_get! (a b : Array Nat) (hs : a.size = b.size) (h : ∀ d : Nat, a[d]! = b[d]!) : a = b := by
  apply Array.ext hs
  intro i h1 h2
  have := h i
  rwa [getElem!_pos a i h1, getElem!_pos b i h2] at this

/-- `freqsOf (tableLen P) P` is the array `Mapper.build` counts into (`Mapper.build_eq`);
`tableLen P` = largest code point + 1 (0 without characters). -/
theorem count_eq (P : List (LPat V)) :
    countAll #[] (P.map (·.key)) = .ok (freqsOf (tableLen P) P) := by
  have hlt : ∀ c ∈ P.flatMap (·.key), c < tableLen P := fun c hc =>
    let ⟨p, hp, hk⟩ := List.mem_flatMap.mp hc
    label_lt_tableLen P p hp c hk
  rewrite [countAll_eq, ← List.flatMap_def]
  unfold freqsOf
  refine congrArg Except.ok (array_ext_get! _ _ ?_ ?_)
  · rewrite [foldl_bump_size, Array.size_replicate]
    exact Nat.le_antisymm (foldl_step_size_le.2 ⟨Nat.zero_le _, hlt⟩)
      (tableLen_le_of_lt fun p hp c hc =>
        (foldl_step_size_le.1 (Nat.le_refl _)).2 c (List.mem_flatMap.mpr ⟨p, hp, hc⟩))
  · refine foldl_step_bump _ _ _ (fun d => ?_) (by rewrite [Array.size_replicate]; exact hlt)
    rw [← getElem!_append_zeros #[] (tableLen P) d, Array.empty_append]


/-- The translated comparator `|(c1, f1), (c2, f2)| f2.cmp(f1).then_with(|| c1.cmp(c2))` is the strict
order of the model: frequency descending, then code point ascending. -/
theorem closure1_lt (x y : Nat × Nat) :
    CodeMapper.new.closure1 x y = .lt ↔ (x.2 > y.2 || (x.2 == y.2 && x.1 < y.1)) = true := by
  obtain ⟨c1, f1⟩ := x
  obtain ⟨c2, f2⟩ := y
  simp only [CodeMapper.new.closure1, Rs.cmpNat, Rs.thenWith, Bool.or_eq_true, Bool.and_eq_true,
    decide_eq_true_eq, beq_iff_eq]
  rcases Nat.lt_trichotomy f2 f1 with h | h | h
  · rewrite [Nat.compare_eq_lt.mpr h]
    exact ⟨fun _ => .inl h, fun _ => rfl⟩
  · subst h
    rewrite [Nat.compare_eq_eq.mpr rfl]
    exact ⟨fun hc => .inr ⟨rfl, Nat.compare_eq_lt.mp hc⟩,
      fun hc => hc.elim (fun h => (Nat.lt_irrefl _ h).elim) (fun h => Nat.compare_eq_lt.mpr h.2)⟩
  · rewrite [Nat.compare_eq_gt.mpr h]
    refine ⟨fun hc => (by cases hc), fun hc => ?_⟩
    rcases hc with h' | ⟨h', _⟩
    · exact (Nat.lt_asymm h h').elim
    · exact (Nat.ne_of_lt h h').elim

theorem insertBy_eq (x : Nat × Nat) (s : List (Nat × Nat)) :
    Rs.insertBy CodeMapper.new.closure1 x s = insertFreq x s := by
  induction s with
  | nil => rfl
  | cons y r ih =>
    unfold Rs.insertBy insertFreq
    rewrite [ih]
    by_cases h : CodeMapper.new.closure1 x y = .lt
    · rw [if_pos h, if_pos ((closure1_lt x y).mp h)]
    · rw [if_neg h, if_neg (fun h' => h ((closure1_lt x y).mpr h'))]

theorem new_loop0_eq (l s : List (Nat × Nat)) : CodeMapper.new.loop0 l s = s ++ l := by
  induction l generalizing s with
  | nil => exact (List.append_nil s).symm
  | cons x l ih =>
    obtain ⟨c, f⟩ := x
    rewrite [CodeMapper.new.loop0, ih, List.append_assoc]
    rfl

/-- `l` is the part of `freqs` from position `k` on. -/
theorem sorted_fold (freqs : Array Nat) (l : List Nat) (k : Nat) (s : List (Nat × Nat))
    (hl : ∀ i x, l[i]? = some x → freqs[k + i]! = x) :
    (List.filter CodeMapper.new.closure0 (Rs.enumerateFrom k l)).foldl
        (fun s x => Rs.insertBy CodeMapper.new.closure1 x s) s =
      (List.range' k l.length).foldl
        (fun s c => if freqs[c]! = 0 then s else insertFreq (c, freqs[c]!) s) s := by
  induction l generalizing k s with
  | nil => rfl
  | cons a l ih =>
    have h0 : freqs[k]! = a := hl 0 a rfl
    have ht : ∀ i x, l[i]? = some x → freqs[k + 1 + i]! = x := fun i x h => by
      rewrite [Nat.add_right_comm]
      exact hl (i + 1) x (List.getElem?_cons_succ.trans h)
    rewrite [Rs.enumerateFrom, List.length_cons, List.range'_succ, List.foldl_cons, List.filter_cons, h0,
      ← ih (k + 1) _ ht]
    by_cases ha : a = 0
    · subst ha
      rfl
    · have hc : CodeMapper.new.closure0 (k, a) = true := bne_iff_ne.mpr ha
      rw [hc, if_pos rfl, if_neg ha, List.foldl_cons, insertBy_eq]

theorem sorted_eq (freqs : Array Nat) :
    Rs.sortUnstableBy CodeMapper.new.closure1
        (CodeMapper.new.loop0 (List.filter CodeMapper.new.closure0 (Rs.enumerate freqs.toList)) []) =
      sortedOf freqs.size freqs := by
  rewrite [new_loop0_eq, List.nil_append]
  refine sorted_fold freqs freqs.toList 0 [] (fun i x h => ?_)
  rewrite [Nat.zero_add, Array.getElem!_eq_getD, Array.getD_eq_getD_getElem?, ← Array.getElem?_toList, h]
  rfl

theorem new_loop1_eq (l : List (Nat × Nat)) (i : Nat) (t : Array Nat)
    (hlt : ∀ x ∈ l, x.1 < t.size) (hi : i + l.length ≤ Rs.u32Max + 1) :
    CodeMapper.new.loop1 (Rs.enumerateFrom i l) t = .ok (fillTable l t i) := by
  fun_induction fillTable l t i with
  | case1 => rfl
  | case2 t i x r ih =>
    have hc : x.1 < t.size := hlt x List.mem_cons_self
    rewrite [List.length_cons, ← Nat.add_assoc, Nat.add_right_comm] at hi
    have hi' : i ≤ Rs.u32Max := Nat.le_of_succ_le_succ (Nat.le_trans (Nat.le_add_right _ _) hi)
    simp only [Rs.enumerateFrom, CodeMapper.new.loop1, Rs.u32TryFromUnwrap, hi', if_true, Rs.indexSet, hc]
    refine ih (fun y hy => ?_) hi
    rewrite [Array.size_setIfInBounds]
    exact hlt y (List.mem_cons_of_mem _ hy)

theorem new_eq (freqs : Array Nat) (hsz : freqs.size ≤ 4294967295) :
    CodeMapper.new freqs =
      .ok ⟨(Mapper.ofFreqs freqs.size freqs).table, (Mapper.ofFreqs freqs.size freqs).alphaSize⟩ := by
  have hl : (sortedOf freqs.size freqs).length ≤ Rs.u32Max :=
    Nat.le_trans (sortedOf_length_le freqs.size freqs) hsz
  have hcs : ∀ x ∈ sortedOf freqs.size freqs, x.1 < (Array.replicate freqs.size Gen.invalidCode).size :=
    fun x hx => by
      rewrite [Array.size_replicate]
      exact ((mem_sortedOf freqs.size freqs x.1).mp (List.mem_map_of_mem hx)).1
  unfold CodeMapper.new
  simp only [sorted_eq]
  simp only [Rs.enumerate]
  rewrite [new_loop1_eq _ 0 _ hcs (by rw [Nat.zero_add]; exact Nat.le_succ_of_le hl)]
  simp only [Rs.u32TryFromUnwrap, hl, if_true]
  rewrite [Mapper.ofFreqs_eq]
  rfl


/-- The translated mapper construction of `build_original_nfa_and_mapper`: count the characters of
every pattern (in order, from the empty vector), then `CodeMapper::new(&freqs)`. -/
def pipeline (keys : List (List Nat)) : Except BuildErr CodeMapper :=
  match countAll #[] keys with
  | .error e => .error e
  | .ok freqs => CodeMapper.new freqs

theorem new_freqsOf (P : List (LPat V)) (hsz : tableLen P ≤ 4294967295) :
    CodeMapper.new (freqsOf (tableLen P) P) =
      .ok ⟨(Mapper.build P).table, (Mapper.build P).alphaSize⟩ := by
  have hs : (freqsOf (tableLen P) P).size = tableLen P := by
    unfold freqsOf; rw [foldl_bump_size, Array.size_replicate]
  rw [new_eq _ (by rw [hs]; exact hsz), hs, ← Mapper.build_eq]

theorem mapper_refines (P : List (LPat V)) (hsz : tableLen P ≤ 4294967295) :
    pipeline (P.map (·.key)) = .ok ⟨(Mapper.build P).table, (Mapper.build P).alphaSize⟩ := by
  unfold pipeline
  rewrite [count_eq]
  exact new_freqsOf P hsz

/-- For labels that are `char`s (code points ≤ 0x10FFFF) the scale bound always holds. -/
theorem tableLen_lt_of_char (P : List (LPat V)) (hch : ∀ p ∈ P, ∀ c ∈ p.key, c ≤ 0x10FFFF) :
    tableLen P < 4294967295 :=
  Nat.lt_of_le_of_lt (tableLen_le P _ hch) (by decide)

theorem mapper_refines_char (P : List (LPat V)) (hch : ∀ p ∈ P, ∀ c ∈ p.key, c ≤ 0x10FFFF) :
    pipeline (P.map (·.key)) = .ok ⟨(Mapper.build P).table, (Mapper.build P).alphaSize⟩ :=
  mapper_refines P (Nat.le_of_lt (tableLen_lt_of_char P hch))

theorem pipeline_get (P : List (LPat V)) (hsz : tableLen P ≤ 4294967295) :
    ∃ m, pipeline (P.map (·.key)) = .ok m ∧
      ∀ c, (⟨m.table, m.alphabet_size⟩ : Mapper).get c = (Mapper.build P).get c :=
  ⟨_, mapper_refines P hsz, fun _ => rfl⟩

#print axioms count_eq
#print axioms new_eq
#print axioms mapper_refines
#print axioms mapper_refines_char
end Daac.Tie.M
