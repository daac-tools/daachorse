/-
Facts about `^^^` on `Nat` and about lists that core does not state, used by the layout proofs of
both variants.
-/
namespace Daac

theorem xor_div_pow (i k n : Nat) (hk : k < 2 ^ n) : (i ^^^ k) / 2 ^ n = i / 2 ^ n := by
  rw [Nat.xor_div_two_pow, Nat.div_eq_of_lt hk, Nat.xor_zero]

/-- XOR with a code below the block length stays inside the block: the safety of `base ^ label`. -/
theorem xor_block_pow (b c k n : Nat) (hc : c < 2 ^ n) (hb : b < 2 ^ n * k) :
    b ^^^ c < 2 ^ n * k := by
  rw [Nat.mul_comm]
  exact (Nat.div_lt_iff_lt_mul (Nat.two_pow_pos n)).1
    (xor_div_pow b c n hc ▸ Nat.div_lt_of_lt_mul hb)

theorem xor_cancel_right (a b : Nat) : (a ^^^ b) ^^^ b = a := by
  rw [Nat.xor_assoc, Nat.xor_self, Nat.xor_zero]

theorem xor_right_inj {a b c : Nat} (h : a ^^^ c = b ^^^ c) : a = b := by
  rw [← xor_cancel_right a c, h, xor_cancel_right]

theorem xor_left_inj {a b c : Nat} (h : c ^^^ a = c ^^^ b) : a = b := by
  rw [Nat.xor_comm c a, Nat.xor_comm c b] at h
  exact xor_right_inj h

theorem xor_eq_zero {a b : Nat} (h : a ^^^ b = 0) : a = b :=
  xor_right_inj (h.trans (Nat.xor_self b).symm)

theorem snoc_ne_nil {α} (p : List α) (c : α) : p ++ [c] ≠ [] :=
  List.append_ne_nil_of_right_ne_nil p (List.cons_ne_nil c [])

/-- Pigeonhole: a map that is injective on a duplicate-free list and sends it into `L` shows the
list to be no longer than `L`. -/
theorem length_le_of_inj_into {α β : Type} (nodes : List α) (f : α → β) (L : List β)
    (hnd : nodes.Nodup) (hmem : ∀ u ∈ nodes, f u ∈ L)
    (hinj : ∀ u ∈ nodes, ∀ w ∈ nodes, f u = f w → u = w) : nodes.length ≤ L.length := by
  have hnd' : (nodes.map f).Nodup :=
    List.pairwise_map.2 (hnd.imp_of_mem (fun ha hb hne e => hne (hinj _ ha _ hb e)))
  have hsub : nodes.map f ⊆ L := by
    intro x hx
    obtain ⟨u, hu, rfl⟩ := List.mem_map.1 hx
    exact hmem u hu
  exact List.length_map (as := nodes) f ▸ hnd'.length_le_of_subset hsub

end Daac
