/-
The stages of `buildDA` / `buildLayout`: `buildLayout_eq` names them (`blOf`, `initLay`,
`afterLoop`), and a successful run yields equations between the intermediate values. The theorems
about the layout pass and about every built automaton start from these instead of unfolding the
pipeline again.
-/
import Daac.Proofs.BuildCor
import Daac.Proofs.SmallFacts
namespace Daac
variable {V : Type}

theorem buildDA_ok_stages (variant : Variant) (cfg : Cfg) (P : List (LPat V)) (da : DA V)
    (h : buildDA variant cfg P = .ok da) :
    ∃ t states, buildTrie cfg.kind P = .ok t ∧
      buildLayout variant cfg (mapperFor variant P) t (buildNfa t (cfg.kind != 0)) = .ok states ∧
      da = { variant := variant, states := states,
             outputs := (buildNfa t (cfg.kind != 0)).out.outs,
             mapTable := (mapperFor variant P).table,
             alphaSize := (mapperFor variant P).alphaSize, kind := cfg.kind,
             numStates := t.size } := by
  obtain ⟨_, acc, _, _, ht, hr⟩ := buildDA_ok_decomp variant cfg P da h
  refine ⟨acc.trie, ?_⟩
  revert hr
  fun_cases buildRest variant cfg (mapperFor variant P) acc.trie acc.len <;> intro hr
  case case4 _ _ _ states hst => exact ⟨states, ht, hst, (Except.ok.inj hr).symm⟩
  all_goals cases hr

def blOf (v : Variant) (m : Mapper) : Nat :=
  match v with
  | .bytewise => bytewiseBlockLen
  | .charwise => max 2 (Nat.nextPowerOfTwo m.alphaSize)

/-- The state `build_double_array` starts from. -/
def initLay (v : Variant) (bl : Nat) (h3 : Helper) : Lay :=
  ⟨Array.replicate bl (stDefault v), h3, ({} : Std.HashMap (List Nat) Nat).insert [] rootIdx⟩

def afterLoop (v : Variant) (nfa : Nfa V) (t : Trie V) (r : Except BuildErr Lay) :
    Except BuildErr (Array St) :=
  match r with
  | .error e => .error e
  | .ok lay1 =>
    match setFailOut v nfa (t.paths []) lay1 with
    | .error e => .error e
    | .ok lay2 =>
      match v with
      | .charwise => .ok lay2.states
      | .bytewise =>
        sanitiseBlocks lay2.h (lay2.h.numBlocks - lay2.h.activeStart) lay2.h.activeStart lay2.states

theorem buildLayout_eq (v : Variant) (cfg : Cfg) (m : Mapper) (t : Trie V) (nfa : Nfa V) :
    buildLayout v cfg m t nfa =
      match Helper.new (blOf v m) cfg.nfb with
      | .error e => .error e
      | .ok h0 =>
        match h0.pushBlock with
        | .error _ => .error (.panic "push_block().unwrap()")
        | .ok h1 =>
          match h1.useIndex rootIdx with
          | .error e => .error e
          | .ok h2 =>
            match h2.useIndex deadIdx with
            | .error e => .error e
            | .ok h3 =>
              afterLoop v nfa t (layoutLoop v m t (t.size + 1) [[]] (initLay v (blOf v m) h3)) := by
  cases v <;> rfl

/-- The CHECK value `placeChildren` writes. -/
def chkOf (v : Variant) (c sidx : Nat) : Nat :=
  match v with
  | .bytewise => c
  | .charwise => sidx

/-- The FAIL value `setFailOut` writes for node `u`, `ix` being the recorded indices. -/
def LayB.failIdx (nfa : Nfa V) (ix : List Nat → Nat) (u : List Nat) : Nat :=
  match nfa.fail.get u with
  | .dead => deadIdx
  | .node w => ix w

theorem retainedKeys_subset (lf : Bool) (ks : List (List Nat)) (k : List Nat)
    (h : k ∈ retainedKeys lf ks) : k ∈ ks := by
  unfold retainedKeys at h
  split at h
  · obtain ⟨i, hi, h1, _⟩ := (mem_retKeys ks k).1 h
    exact h1 ▸ List.getElem_mem hi
  · exact h

/-- Every label on a path of a built trie is a label of some pattern. -/
theorem buildTrie_node_labels {kind : Nat} {P : List (LPat V)} (hk : keysOk P) {t : Trie V}
    (ht : buildTrie kind P = .ok t) {u : List Nat} (hu : t.hasNode u = true) {c : Nat}
    (hc : c ∈ u) : ∃ p ∈ P, c ∈ p.key := by
  rcases (buildTrie_nodes kind P hk t ht u).1 hu with rfl | ⟨k, hkm, hpre⟩
  · cases hc
  · obtain ⟨p, hp, rfl⟩ := List.mem_map.1 (retainedKeys_subset _ _ _ hkm)
    exact ⟨p, hp, ((mem_nprefixes _ u).1 hpre).2.subset hc⟩

/-- A successful write: the index is in range and only that element changes (`d`: any default). -/
theorem setSt_getD {s s' : Array St} {i : Nat} {f : St → St} (e : setSt s i f = .ok s') (d : St) :
    i < s.size ∧ s'.size = s.size ∧
      ∀ j, s'.getD j d = if i = j then f (s.getD j d) else s.getD j d := by
  unfold setSt at e
  by_cases h : i < s.size
  · rw [if_pos h] at e
    obtain rfl := Except.ok.inj e
    refine ⟨h, Array.size_modify, fun j => ?_⟩
    rw [Array.getD_eq_getD_getElem?, Array.getD_eq_getD_getElem?, Array.getElem?_modify]
    split
    · rename_i hij
      subst hij
      rw [Array.getElem?_eq_getElem h]; rfl
    · rfl
  · rw [if_neg h] at e
    cases e

/-- `setFailOut` writes FAIL and the output position of every listed node at its recorded index and
leaves everything else as it is (`d`: any default element for reading the array). -/
theorem setFailOut_spec (v : Variant) (nfa : Nfa V) (d : St) (L : List (List Nat))
    (lay lay2 : Lay) (e : setFailOut v nfa L lay = .ok lay2) :
    lay2.idx = lay.idx ∧ lay2.h = lay.h ∧ lay2.states.size = lay.states.size ∧
    (∀ i, (lay2.states.getD i d).base = (lay.states.getD i d).base ∧
      (lay2.states.getD i d).check = (lay.states.getD i d).check) ∧
    (∀ i, (∀ u ∈ L, lay.idx.getD u deadIdx ≠ i) → lay2.states.getD i d = lay.states.getD i d) ∧
    (L.Pairwise (fun a b => lay.idx.getD a deadIdx ≠ lay.idx.getD b deadIdx) → ∀ u ∈ L,
      lay.idx.getD u deadIdx < lay.states.size ∧
      (lay2.states.getD (lay.idx.getD u deadIdx) d).opos = nfa.out.opos.getD u 0 ∧
      (lay2.states.getD (lay.idx.getD u deadIdx) d).fail =
        LayB.failIdx nfa (fun w => lay.idx.getD w deadIdx) u) := by
  revert e
  fun_induction setFailOut v nfa L lay <;> intro e
  case case1 lay =>
    obtain rfl := Except.ok.inj e
    exact ⟨rfl, rfl, rfl, fun _ => ⟨rfl, rfl⟩, fun _ _ => rfl, fun _ => nofun⟩
  case case4 u rest lay _ _ _ _ states' es ih =>
    obtain ⟨ilt, hsz, hgd⟩ := setSt_getD es d
    obtain ⟨c1, c0, c2, c3, c4, c5⟩ := ih e
    refine ⟨c1, c0, c2.trans hsz, fun i => ?_, fun i hi => ?_, fun hp x hx => ?_⟩
    · rw [(c3 i).1, (c3 i).2, hgd]
      split <;> exact ⟨rfl, rfl⟩
    · obtain ⟨hiu, hir⟩ := List.forall_mem_cons.1 hi
      rw [c4 i hir, hgd, if_neg hiu]
    · obtain ⟨hpu, hpr⟩ := List.pairwise_cons.1 hp
      rcases List.mem_cons.1 hx with rfl | hx
      · rw [c4 _ fun y hy h => hpu y hy h.symm, hgd, if_pos rfl]
        exact ⟨ilt, rfl, rfl⟩
      · obtain ⟨q1, q2⟩ := c5 hpr x hx
        exact ⟨hsz ▸ q1, q2⟩
  all_goals cases e

/-- A successful `extend_array`: the byte-wise builder sanitises the block that leaves the window,
then the helper and the array each get one more block. -/
theorem extendArray_ok {v : Variant} {lay lay' : Lay} (e : extendArray v lay = .ok lay') :
    ∃ s1 h', (match v, lay.h.droppedBlock with
        | .bytewise, some cb => removeInvalidChecks lay.states lay.h cb
        | _, _ => .ok lay.states) = .ok s1 ∧ lay.h.pushBlock = .ok h' ∧
      lay' = ⟨s1 ++ Array.replicate lay.h.blockLen (stDefault v), h', lay.idx⟩ := by
  revert e
  fun_cases extendArray v lay <;> intro e
  case case4 _ _ s1 es h' ep => exact ⟨s1, h', es, ep, (Except.ok.inj e).symm⟩
  all_goals cases e

/-- A successful `layoutStep`: at a leaf nothing changes; otherwise a BASE is found, the array is
extended if the BASE lies past it, the children are placed, the BASE is written and (byte-wise)
marked used. -/
theorem layoutStep_ok {v : Variant} {m : Mapper} {t : Trie V} {u : List Nat}
    {stack stack' : List (List Nat)} {lay lay' : Lay}
    (e : layoutStep v m t u stack lay = .ok (stack', lay')) :
    (edgeCodes v m t u = .ok [] ∧ stack' = stack ∧ lay' = lay) ∨
    ∃ edges base lay1 lay2 states' h', edges ≠ [] ∧ edgeCodes v m t u = .ok edges ∧
      findBase v lay (edges.map (·.1)) = .ok base ∧
      (if lay.states.size ≤ base then extendArray v lay else .ok lay) = .ok lay1 ∧
      placeChildren v (lay.idx.getD u deadIdx) base edges lay1 = .ok lay2 ∧
      setSt lay2.states (lay.idx.getD u deadIdx) (fun st => { st with base := base })
        = .ok states' ∧
      (match (generalizing := false) v with
        | .bytewise => lay2.h.useBase base
        | .charwise => .ok lay2.h : Except BuildErr Helper) = .ok h' ∧
      stack' = (edges.map (·.2)).reverse ++ stack ∧
      lay' = { lay2 with states := states', h := h' } := by
  revert e
  fun_cases layoutStep v m t u stack lay <;> intro e
  case case2 hec =>
    obtain ⟨rfl, rfl⟩ := Prod.mk.inj (Except.ok.inj e)
    exact Or.inl ⟨hec, rfl, rfl⟩
  case case8 edges hne hec _ _ base eb _ lay1 e1 lay2 e2 states' e3 _ h' e4 =>
    obtain ⟨rfl, rfl⟩ := Prod.mk.inj (Except.ok.inj e)
    exact Or.inr ⟨edges, base, lay1, lay2, states', h', hne, hec, eb, e1, e2, e3, e4, rfl, rfl⟩
  all_goals cases e

theorem buildLayout_ok_stages {v : Variant} {cfg : Cfg} {m : Mapper} {t : Trie V} {nfa : Nfa V}
    {states : Array St} (hb : buildLayout v cfg m t nfa = .ok states) :
    ∃ h0 h1 h2 h3 lay1 lay2, Helper.new (blOf v m) cfg.nfb = .ok h0 ∧ h0.pushBlock = .ok h1 ∧
      h1.useIndex rootIdx = .ok h2 ∧ h2.useIndex deadIdx = .ok h3 ∧
      layoutLoop v m t (t.size + 1) [[]] (initLay v (blOf v m) h3) = .ok lay1 ∧
      setFailOut v nfa (t.paths []) lay1 = .ok lay2 ∧
      (match (generalizing := false) v with
        | .charwise => .ok lay2.states
        | .bytewise => sanitiseBlocks lay2.h (lay2.h.numBlocks - lay2.h.activeStart)
            lay2.h.activeStart lay2.states : Except BuildErr (Array St)) = .ok states := by
  revert hb
  fun_cases buildLayout v cfg m t nfa <;> intro hb
  case case7 h0 h1 e1 h2 e2 h3 e3 lay1 lay2 _ e0 _ el ef =>
    exact ⟨h0, h1, h2, h3, lay1, lay2, e0, e1, e2, e3, el, ef, hb⟩
  case case8 h0 h1 e1 h2 e2 h3 e3 lay1 lay2 _ e0 _ el ef =>
    exact ⟨h0, h1, h2, h3, lay1, lay2, e0, e1, e2, e3, el, ef, hb⟩
  all_goals cases hb

end Daac
