/-
(G3) and (G1) for the sparse NFA of the leftmost kinds, derived from the characterisation (F) of
the fail links (`FailChar`, Proofs/NfaLmIface.lean):
  * `nfaNextLm_eq_deltaL` : the leftmost transition on the NFA computes `deltaL`;
  * `oposLm`              : the output position of every node is the record of `oposL`.
Core Lean only.
-/
import Daac.Proofs.NfaLmIface
import Daac.Proofs.NfaLm
namespace Daac
variable {V : Type}

section
variable {t : Trie V} {P : List (LPat V)} {fm : FailMap} {u : List Nat} {pre : List (List Nat)}
  {a : OutAcc V}

theorem bestIn_suffix (hkeys : (P.map (·.key)).Nodup) {v f : List Nat}
    (hle : ∀ s p, bestIn P (v ++ f) 0 = some (s, p) → v.length ≤ s) :
    bestIn P f 0 = (bestIn P (v ++ f) 0).map fun r => (r.1 - v.length, r.2) := by
  cases hb : bestIn P (v ++ f) 0 with
  | none =>
    exact bestIn_of_noOcc (fun s q ho => bestIn_none_spec hb (v.length + s) q (occ_append_left.2 ho)) 0
  | some r =>
    obtain ⟨s, p⟩ := r
    have hvs := hle s p hb
    obtain ⟨s', hs', hbest⟩ := bestIn_some_spec hb
    rw [Nat.zero_add] at hs'
    subst hs'
    have hno : ∀ s' q, s' < v.length → ¬ Occ P (v ++ f) s' q :=
      fun s' q h => hbest.left s' q (Nat.lt_of_lt_of_le h hvs)
    rw [← Nat.add_sub_cancel' hvs] at hbest
    rw [bestIn_of_isBest hkeys ((isBest_append_left hno).1 hbest) 0, Nat.zero_add]
    rfl

theorem bestIn_lps (hkeys : (P.map (·.key)).Nodup)
    (hb : ∀ s p, bestIn P u 0 = some (s, p) → u.length - (lps (nodeList P) u).length ≤ s) :
    bestIn P (lps (nodeList P) u) 0 =
      (bestIn P u 0).map fun r => (r.1 - (u.length - (lps (nodeList P) u).length), r.2) := by
  obtain ⟨v, hv, hvl⟩ := suffix_decomp (lps_suffix P u)
  have := bestIn_suffix hkeys (v := v) (f := lps (nodeList P) u)
  rw [← hv, hvl] at this
  exact this hb

/-- The same start, measured in `u` (length `n`) and in its suffix of length `l` that starts at or
before `s`: the two conditions of `deltaL` agree. -/
theorem start_gt_shift {n l T s : Nat} (hl : l ≤ n) (hs : n - l ≤ s) :
    l + 1 - T > s - (n - l) ↔ n + 1 - T > s := by
  obtain ⟨d, rfl⟩ : ∃ d, n = l + d := ⟨n - l, (Nat.add_sub_cancel' hl).symm⟩
  rw [Nat.add_sub_cancel_left] at hs ⊢
  obtain ⟨s', rfl⟩ : ∃ s', s = s' + d := ⟨s - d, (Nat.sub_add_cancel hs).symm⟩
  show s' + d - d < l + 1 - T ↔ s' + d < l + d + 1 - T
  rw [Nat.add_sub_cancel, Nat.lt_sub_iff_add_lt, Nat.lt_sub_iff_add_lt, Nat.add_right_comm s' d T,
    Nat.add_right_comm l d 1, Nat.add_lt_add_iff_right]

/-- Likewise for the two conditions of `oposL` (an occurrence of length `k` ends at the end). -/
theorem end_eq_shift {n l k s : Nat} (hl : l ≤ n) (hs : n - l ≤ s) :
    s - (n - l) + k = l ↔ s + k = n := by
  obtain ⟨d, rfl⟩ : ∃ d, n = l + d := ⟨n - l, (Nat.add_sub_cancel' hl).symm⟩
  rw [Nat.add_sub_cancel_left] at hs ⊢
  obtain ⟨s', rfl⟩ : ∃ s', s = s' + d := ⟨s - d, (Nat.sub_add_cancel hs).symm⟩
  rw [Nat.add_sub_cancel, Nat.add_right_comm s' d k, Nat.add_right_cancel_iff]

theorem deltaL_child {c : Nat} (h : u ++ [c] ∈ nodeList P) : deltaL P u c = u ++ [c] := by
  unfold deltaL
  rw [lsuf_mem_self h (nodeList_prefClosed P).nil_mem]
  cases bestIn P u 0 with
  | none => rfl
  | some r =>
    obtain ⟨s, p⟩ := r
    simp

theorem deltaL_root {c : Nat} (h : [] ++ [c] ∉ nodeList P) : deltaL P [] c = [] := by
  unfold deltaL
  rw [List.nil_append, lsuf_singleton_of_not_mem (nodeList_prefClosed P).nil_mem h]
  rfl

/-- The fail link is dead: the transition goes to the root. -/
theorem deltaL_dead {c s : Nat} {p : LPat V} (hu : u ≠ []) (hnot : u ++ [c] ∉ nodeList P)
    (hb : bestIn P u 0 = some (s, p))
    (hd : u.length - (lps (nodeList P) u).length > s) : deltaL P u c = [] := by
  unfold deltaL
  rw [hb, lsuf_fail (nodeList_prefClosed P) u c hu hnot, ← lps_snoc P hu c]
  exact if_pos (Nat.lt_of_lt_of_le hd (lps_start_snoc_le P hu c))

/-- The fail link is the ordinary one: the transition from `u` is the one from `lps u`. -/
theorem deltaL_fail (hkeys : (P.map (·.key)).Nodup) {c : Nat} (hu : u ≠ [])
    (hnot : u ++ [c] ∉ nodeList P)
    (hb : ∀ s p, bestIn P u 0 = some (s, p) → u.length - (lps (nodeList P) u).length ≤ s) :
    deltaL P (lps (nodeList P) u) c = deltaL P u c := by
  unfold deltaL
  rw [bestIn_lps hkeys hb, lsuf_fail (nodeList_prefClosed P) u c hu hnot]
  cases hbu : bestIn P u 0 with
  | none => rfl
  | some r =>
    obtain ⟨s, p⟩ := r
    simp only [Option.map_some, start_gt_shift (Nat.le_of_lt (lps_length_lt P hu)) (hb s p hbu)]

theorem nfaNextLm_eq_deltaL (hS : TrieSem t P) (hF : FailChar P fm) :
    ∀ u, u ∈ nodeList P → ∀ c fuel, u.length < fuel →
      nfaNextLm t fm fuel u c = deltaL P u c := by
  intro u hu c fuel
  induction fuel generalizing u with
  | zero => intro h; exact absurd h (Nat.not_lt_zero _)
  | succ fuel ih =>
    intro hlt
    rw [nfaNextLm]
    by_cases hch : t.hasNode (u ++ [c]) = true
    · rw [if_pos hch, deltaL_child ((hS.nodes _).1 hch)]
    · rw [if_neg hch]
      have hnot : u ++ [c] ∉ nodeList P := fun h => hch ((hS.nodes _).2 h)
      by_cases hu0 : u = []
      · rw [if_pos hu0]
        subst hu0
        exact (deltaL_root hnot).symm
      · rw [if_neg hu0]
        rcases lmF_cases_best P u with ⟨hf, s, p, hbu, hd⟩ | ⟨hf, hb⟩
        · rw [(hF u hu hu0).trans hf]
          exact (deltaL_dead hu0 hnot hbu hd).symm
        · rw [(hF u hu hu0).trans hf]
          simp only
          rw [ih _ (lps_mem P u)
            (Nat.lt_of_lt_of_le (lps_length_lt P hu0) (Nat.le_of_lt_succ hlt))]
          exact deltaL_fail hS.keys hu0 hnot hb

theorem oposL_nil (P : List (LPat V)) : oposL P [] = none := by
  simp [oposL, bestIn]

theorem oposL_pattern (hkeys : (P.map (·.key)).Nodup) {p : LPat V} (hp : p ∈ P)
    (hne : p.key ≠ []) : oposL P p.key = some p := by
  have hbest : IsBest P p.key 0 p := by
    refine ⟨⟨hp, hne, by simp⟩, fun s' q hs' => absurd hs' (Nat.not_lt_zero _), fun q hq => ?_⟩
    have := occ_length hq
    rwa [Nat.zero_add] at this
  unfold oposL
  rw [bestIn_of_isBest hkeys hbest 0]
  simp

/-- Dead fail link at a node that is not a pattern end: nothing to report. -/
theorem oposL_dead {s : Nat} {p : LPat V} (hnp : ∀ q ∈ P, q.key ≠ u)
    (hb : bestIn P u 0 = some (s, p))
    (hd : u.length - (lps (nodeList P) u).length > s) : oposL P u = none := by
  unfold oposL
  rw [hb]
  refine if_neg fun he => ?_
  -- an occurrence ending at the end of `u` is a proper suffix of `u` and a node, so it starts
  -- inside `lps u`
  obtain ⟨s', hs', hbest⟩ := bestIn_some_spec hb
  rw [Nat.zero_add] at hs'
  subst hs'
  obtain ⟨hp, _, hpre⟩ := hbest.occ
  exact absurd hd (Nat.not_lt.mpr (lps_start_le_of_key_drop P hp hpre he (hnp p hp)))

/-- Ordinary fail link: the node reports what its fail target reports. -/
theorem oposL_fail (hkeys : (P.map (·.key)).Nodup)
    (hb : ∀ s p, bestIn P u 0 = some (s, p) → u.length - (lps (nodeList P) u).length ≤ s) :
    oposL P (lps (nodeList P) u) = oposL P u := by
  unfold oposL
  rw [bestIn_lps hkeys hb]
  cases hbu : bestIn P u 0 with
  | none => rfl
  | some r =>
    obtain ⟨s, p⟩ := r
    simp only [Option.map_some, end_eq_shift (lps_suffix P u).length_le (hb s p hbu)]

/-- The (G1) clause for an output position `k` and the pattern `r` to be reported. -/
def G1Val (outs : Array (Out V)) (k : Nat) (r : Option (LPat V)) : Prop :=
  match r with
  | some p => k ≠ 0 ∧ ∃ o, outs[k - 1]? = some o ∧ o.value = p.value ∧ o.length = p.blen
  | none => k = 0

theorem G1Val.push {outs : Array (Out V)} {k : Nat} {r : Option (LPat V)} (x : Out V)
    (h : G1Val outs k r) : G1Val (outs.push x) k r := by
  cases r with
  | none => exact h
  | some p =>
    obtain ⟨hk, o, ho, hv, hl⟩ := h
    obtain ⟨hlt, he⟩ := Array.getElem?_eq_some_iff.1 ho
    refine ⟨hk, o, ?_, hv, hl⟩
    rw [Array.getElem?_push_lt hlt, he]

structure OutInv (P : List (LPat V)) (pre : List (List Nat)) (a : OutAcc V) : Prop where
  done : ∀ u ∈ pre, G1Val a.outs (a.opos.getD u 0) (oposL P u)
  todo : ∀ u, u ∉ pre → a.opos.getD u 0 = 0

theorem OutInv.at_node (hI : OutInv P pre a) (hnil : [] ∉ pre) {f : List Nat}
    (hf : f = [] ∨ f ∈ pre) :
    G1Val a.outs (a.opos.getD f 0) (oposL P f) := by
  rcases hf with rfl | hf
  · rw [hI.todo [] hnil, oposL_nil]
    rfl
  · exact hI.done f hf

/-- What either branch of `outStep` does to the invariant: the entry `s` gets the position `k`, and
the records become `outs'`, in which the processed nodes still find theirs. -/
theorem OutInv.step (hI : OutInv P pre a) {s : List Nat} (hspre : s ∉ pre) {k : Nat}
    {outs' : Array (Out V)}
    (hkeep : ∀ u ∈ pre, G1Val outs' (a.opos.getD u 0) (oposL P u))
    (hk : G1Val outs' k (oposL P s)) : OutInv P (pre ++ [s]) ⟨a.opos.insert s k, outs'⟩ where
  done := by
    intro u hu
    simp only [opos_getD_insert]
    rcases List.mem_append.1 hu with hu | hu
    · rw [if_neg (fun (e : s = u) => hspre (e ▸ hu))]
      exact hkeep u hu
    · rw [List.mem_singleton.1 hu, if_pos rfl]
      exact hk
  todo := by
    intro u hu
    rw [List.mem_append, List.mem_singleton, not_or] at hu
    simp only [opos_getD_insert]
    rw [if_neg (fun (e : s = u) => hu.2 e.symm)]
    exact hI.todo u hu.1

theorem outStep_inv_g (hS : TrieSem t P) (hnd : t.queue.Nodup) (hF : FailChar P fm)
    {post : List (List Nat)} {s : List Nat} (hq : t.queue = pre ++ s :: post)
    (hI : OutInv P pre a) : OutInv P (pre ++ [s]) (outStep t fm a s) := by
  obtain ⟨hsn, hs0⟩ := Trie.queue_split_mem t hq
  have hs := (hS.nodes s).1 hsn
  have hspre := Trie.queue_split_not_mem t hnd hq
  cases hfind : P.find? (fun p => p.key = s) with
  | none =>
    -- the position inherited through the fail link satisfies (G1) for `s`
    rw [outStep_of_find_none hS fm a hfind]
    refine hI.step hspre hI.done ?_
    rcases lmF_cases_best P s with ⟨hf, k, p, hbu, hd⟩ | ⟨hf, hb⟩
    · have hnp : ∀ q ∈ P, q.key ≠ s := fun q hq he => by
        simpa [he] using List.find?_eq_none.1 hfind q hq
      rw [(hF s hs hs0).trans hf, oposL_dead hnp hbu hd]
      rfl
    · rw [(hF s hs hs0).trans hf, ← oposL_fail hS.keys hb]
      exact hI.at_node (fun h => Trie.nil_not_mem_queue t (hq ▸ List.mem_append_left _ h))
        (Trie.nil_or_mem_pre t hq ((hS.nodes _).2 (lps_mem P s)) (lps_length_lt P hs0))
  | some p =>
    rw [outStep_of_find_some hS fm a hfind]
    have hp := List.mem_of_find?_eq_some hfind
    have hk : p.key = s := by simpa using List.find?_some hfind
    refine hI.step hspre (fun u hu => (hI.done u hu).push _) ?_
    rw [← hk, oposL_pattern hS.keys hp (hS.nonempty p hp)]
    exact ⟨Nat.succ_ne_zero _, _, Array.getElem?_push_size, rfl, rfl⟩

/-- (G1): after the output pass, every node's output position is the record of the pattern
`oposL` names (the leftmost-longest occurrence in the node when it is a suffix of the node). -/
theorem oposLm (hS : TrieSem t P) (hsort : t.Sorted) (hF : FailChar P fm) :
    ∀ u, u ∈ nodeList P →
      G1Val (buildOutAcc t fm).outs ((buildOutAcc t fm).opos.getD u 0) (oposL P u) := by
  intro u hu
  have hI : OutInv P t.queue (buildOutAcc t fm) :=
    Trie.queue_foldl_inv t (fun hq hI => outStep_inv_g hS (Trie.nodup_queue t hsort) hF hq hI)
      t.queue [] ⟨{}, #[]⟩ rfl
      ⟨fun u hu => absurd hu List.not_mem_nil, fun u _ => Std.HashMap.getD_empty⟩
  exact hI.at_node (Trie.nil_not_mem_queue t) (Trie.nil_or_mem_queue t ((hS.nodes u).2 hu))

end

end Daac

#print axioms Daac.nfaNextLm_eq_deltaL
#print axioms Daac.oposLm
