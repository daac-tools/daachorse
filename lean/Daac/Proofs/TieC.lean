/-
Translation tie, char-wise: the definitions GENERATED from /repo's Rust source by
tools/rs2lean.py (`Daac/Gen/SearchC.lean`) are extensionally equal to the hand-written model
(`Daac/Model/Search.lean`) that every property theorem is about.
-/
import Daac.Gen.SearchC
import Daac.Proofs.TieCollect
import Daac.Proofs.Utf8
namespace Daac.Tie
open Daac Daac.Gen

variable {V α β γ : Type}

namespace C

theorem optNat_some (p : Nat) : optNat (some p) = p := rfl

theorem outputPos_eq (st : St) : Rs.St.outputPos st = if st.opos = 0 then none else some st.opos := rfl

theorem lenUtf8_eq (c : Nat) : Rs.lenUtf8 c = utf8Width c := rfl

theorem mapper_get_eq (da : DA V) (hv : da.variant = .charwise) (c : Nat) :
    Gen.C.CodeMapper.get da c = da.code c := by
  unfold Gen.C.CodeMapper.get DA.code
  rw [hv]
  cases da.mapTable[c]? with
  | none => rfl
  | some code =>
    dsimp only
    by_cases h : code = Gen.invalidCode
    · rw [if_neg (mt of_decide_eq_true (not_not_intro h)), if_pos (c := code = invalidCode) h]
    · rw [if_pos (decide_eq_true h), if_neg (c := code = invalidCode) h]

theorem child_eq (da : DA V) (hv : da.variant = .charwise) (s c : Nat) :
    Gen.C.DA.child_index_unchecked da s c = da.child s c := by
  unfold Gen.C.DA.child_index_unchecked DA.child
  rw [getSt, hv]
  cases da.st s with
  | error e => rfl
  | ok st =>
    dsimp only [Rs.St.base, Rs.nonZero]
    by_cases hb : st.base = 0
    · rw [if_pos hb, if_pos hb]
    · rw [if_neg hb, if_neg hb]
      dsimp only
      rw [getSt]
      cases da.st (st.base ^^^ c) with
      | error e => rfl
      | ok ch =>
        dsimp only
        by_cases hc : ch.check = s
        · rw [if_pos (decide_eq_true hc), if_pos hc]
        · rw [if_neg (mt of_decide_eq_true hc), if_neg hc]

theorem next_loop_sim (da : DA V) (hv : da.variant = .charwise) (mc fuel s n : Nat) :
    Sim (fun t x => t = x.1) (Gen.C.DA.next_state_id_unchecked.loop0 da mc fuel s)
      (da.nextLoop fuel s mc n) := by
  induction fuel generalizing s n with
  | zero => exact rfl
  | succ fuel ih =>
    refine Sim.bind_ok_iff.1 ?_
    apply Sim.child (child_eq da hv s mc)
    · intro t; exact rfl
    apply Sim.iteDecide
    · intro _; exact rfl
    intro _
    apply Sim.bindSt (getSt da s); intro st
    exact Sim.bind_ok_iff.2 (ih st.fail (n + 1))

theorem next_state_eq (da : DA V) (hv : da.variant = .charwise) (s c : Nat) :
    Gen.C.DA.next_state_id_unchecked da s c = da.next s c := by
  unfold Gen.C.DA.next_state_id_unchecked DA.next DA.nextS
  rw [mapper_get_eq da hv]
  cases da.code c with
  | none => rfl
  | some mc => exact (next_loop_sim da hv mc _ s 0).eq_map

theorem next_loop_lm_sim (da : DA V) (hv : da.variant = .charwise) (mc fuel s n : Nat) :
    Sim (fun t x => t = x.1) (Gen.C.DA.next_state_id_leftmost_unchecked.loop0 da mc fuel s)
      (da.nextLoopLm fuel s mc n) := by
  induction fuel generalizing s n with
  | zero => exact rfl
  | succ fuel ih =>
    refine Sim.bind_ok_iff.1 ?_
    apply Sim.child (child_eq da hv s mc)
    · intro t; exact rfl
    apply Sim.iteDecide
    · intro _; exact rfl
    intro _
    apply Sim.bindSt (getSt da s); intro st
    apply Sim.iteDecide
    · intro _; exact rfl
    · intro _; exact Sim.bind_ok_iff.2 (ih st.fail (n + 1))

theorem next_state_lm_eq (da : DA V) (hv : da.variant = .charwise) (s c : Nat) :
    Gen.C.DA.next_state_id_leftmost_unchecked da s c = da.nextLm s c := by
  unfold Gen.C.DA.next_state_id_leftmost_unchecked DA.nextLm DA.nextLmS
  rw [mapper_get_eq da hv]
  cases da.code c with
  | none => rfl
  | some mc => exact (next_loop_lm_sim da hv mc _ s 0).eq_map

theorem str_next_eq (it : Gen.C.StrIterator V) :
    (Gen.C.StrIterator.next it) =
      (match it.inner.drop it.pos with
       | [] => (none, it)
       | b :: _ => (some b, { it with pos := it.pos + 1 })) := by
  unfold Gen.C.StrIterator.next
  rw [← List.head?_drop]
  cases it.inner.drop it.pos <;> rfl

/-- What the generated decoder returns where the model's decoder, on `it.inner`, returns `o`. -/
def ofItem (it : Gen.C.CharWithEndOffsetIterator V) :
    Option (Item × Src) → Option (Nat × Nat) × Gen.C.CharWithEndOffsetIterator V
  | none => (none, it)
  | some (item, src') => (some (item.stop, item.label), ⟨src'⟩)

theorem isScalar_lt128 (c : Nat) (h : c < 128) : isScalar c = true := by
  simp [isScalar]; omega

/-- `char::from_u32_unchecked` on the decoded code point `cp`, ending at offset `e`. -/
theorem scalar_check (it : Gen.C.CharWithEndOffsetIterator V) (cp e : Nat) (s : Src) :
    Sim (fun a o => a = ofItem it o)
      (match Rs.charFromU32Unchecked cp with
        | .error e => .error e
        | .ok ch => .ok (some (e, ch), ⟨s⟩))
      (if isScalar cp then .ok (some (⟨cp, e⟩, s)) else .error .invalidScalar) := by
  unfold Rs.charFromU32Unchecked
  cases isScalar cp <;> exact rfl

/-- Both decoders read up to four bytes, with the same tests on the first one; the generated one
also checks that an ASCII byte is a scalar value, which it always is. -/
theorem decoder_eq (it : Gen.C.CharWithEndOffsetIterator V) :
    Gen.C.CharWithEndOffsetIterator.next it = (decodeNext it.inner).map (ofItem it) := by
  refine Sim.eq_map (Sim.bind_ok_iff.1 ?_)
  obtain ⟨⟨rest, p⟩⟩ := it
  rcases rest with _ | ⟨b0, r⟩
  · exact rfl
  apply Sim.iteDecide
  · intro h0
    have h := scalar_check (V := V) ⟨⟨b0 :: r, p⟩⟩ b0 (p + 1) ⟨r, p + 1⟩
    rw [isScalar_lt128 b0 h0] at h
    exact Sim.bind_ok_iff.2 h
  intro _
  rcases r with _ | ⟨b1, r⟩
  · exact rfl
  apply Sim.iteDecide
  · intro _; exact Sim.bind_ok_iff.2 (scalar_check _ _ _ _)
  intro _
  rcases r with _ | ⟨b2, r⟩
  · exact rfl
  apply Sim.iteDecide
  · intro _; exact Sim.bind_ok_iff.2 (scalar_check _ _ _ _)
  intro _
  rcases r with _ | ⟨b3, r⟩
  · exact rfl
  exact Sim.bind_ok_iff.2 (scalar_check _ _ _ _)

variable {R : α → β → Prop} {Φ : γ → Except Fault α}

theorem Sim.item (it : Gen.C.CharWithEndOffsetIterator V)
    {F : Option (Nat × Nat) → Gen.C.CharWithEndOffsetIterator V → Except Fault γ}
    {k : Except Fault β} {g : Item → Src → Except Fault β} (hn : Sim R ((F none it).bind Φ) k)
    (hs : ∀ item src',
      Sim R ((F (some (item.stop, item.label)) ⟨src'⟩).bind Φ) (g item src')) :
    Sim R
      (Except.bind
        (match Gen.C.CharWithEndOffsetIterator.next it with
        | .error e => .error e
        | .ok (r, s) => F r s) Φ)
      (match decodeNext it.inner with
        | .error e => .error e
        | .ok none => k
        | .ok (some (item, src')) => g item src') := by
  rw [decoder_eq]
  rcases decodeNext it.inner with e | _ | ⟨item, src'⟩
  · exact rfl
  · exact hn
  · exact hs item src'

def concFind (da : DA V) (it : FindIt) : Gen.C.FindIterator V := ⟨da, ⟨it.src⟩⟩
def concNoSuf (da : DA V) (it : NoSufIt) : Gen.C.FindOverlappingNoSuffixIterator V :=
  ⟨da, ⟨it.src⟩, it.state⟩
def concOv (da : DA V) (it : OvIt) : Gen.C.FindOverlappingIterator V :=
  ⟨da, ⟨it.src⟩, it.state, it.pos, Rs.nonZero it.opos⟩
def concLm (da : DA V) (it : LmIt) : Gen.C.LestmostFindIterator V := ⟨da, it.hay, it.pos⟩

theorem find_loop (da : DA V) (hv : da.variant = .charwise) (fuel : Nat) (src : Src)
    (state : Nat) :
    Sim (fun p x => Shows (concFind da) (fun _ => True) p ⟨x.1, ⟨x.2.2⟩⟩)
      ((Gen.C.FindIterator.next.loop0 fuel ⟨da, ⟨src⟩⟩ state).map (Ctl.out Prod.fst))
      (scanFirst da fuel state src) := by
  induction fuel generalizing src state with
  | zero => exact rfl
  | succ fuel ih =>
    rw [scanFirst, hv]
    apply Sim.item ⟨src⟩
    · exact ⟨rfl, trivial⟩
    intro item src'
    apply Sim.bindNat (next_state_eq da hv state item.label); intro state'
    apply Sim.bindSt (getSt da state'); intro st
    apply Sim.output da st.opos
    · intro o; exact ⟨rfl, trivial⟩
    · exact ih _ _

theorem find_next_fin (it : Gen.C.FindIterator V) :
    Gen.C.FindIterator.next it
      = (Gen.C.FindIterator.next.loop0 (it.haystack.inner.rest.length + 1) it
          Gen.rootStateIdx).map (Ctl.out Prod.fst) := by
  unfold Gen.C.FindIterator.next
  dsimp only
  rcases Gen.C.FindIterator.next.loop0 _ it _ with _ | _ | _ <;> rfl

theorem find_next_eq (da : DA V) (hv : da.variant = .charwise) (it : FindIt) :
    Sim (Shows (concFind da) fun _ => True) (Gen.C.FindIterator.next (concFind da it))
      (FindIt.next da it) := by
  rw [find_next_fin, FindIt.next_eq]
  exact (find_loop da hv _ _ _).map_right

theorem nosuf_loop (da : DA V) (hv : da.variant = .charwise) (fuel : Nat) (src : Src)
    (state : Nat) :
    Sim (fun p x => Shows (concNoSuf da) (fun _ => True) p ⟨x.1, ⟨x.2.2, x.2.1⟩⟩)
      ((Gen.C.FindOverlappingNoSuffixIterator.next.loop0 fuel ⟨da, ⟨src⟩, state⟩).map
        (Ctl.out id))
      (scanFirst da fuel state src) := by
  induction fuel generalizing src state with
  | zero => exact rfl
  | succ fuel ih =>
    rw [scanFirst, hv]
    apply Sim.item ⟨src⟩
    · exact ⟨rfl, trivial⟩
    intro item src'
    apply Sim.bindNat (next_state_eq da hv state item.label); intro state'
    apply Sim.bindSt (getSt da state'); intro st
    apply Sim.output da st.opos
    · intro o; exact ⟨rfl, trivial⟩
    · exact ih _ _

theorem nosuf_next_fin (it : Gen.C.FindOverlappingNoSuffixIterator V) :
    Gen.C.FindOverlappingNoSuffixIterator.next it
      = (Gen.C.FindOverlappingNoSuffixIterator.next.loop0 (it.haystack.inner.rest.length + 1)
          it).map (Ctl.out id) := by
  unfold Gen.C.FindOverlappingNoSuffixIterator.next
  rcases Gen.C.FindOverlappingNoSuffixIterator.next.loop0 _ it with _ | _ | _ <;> rfl

theorem nosuf_next_eq (da : DA V) (hv : da.variant = .charwise) (it : NoSufIt) :
    Sim (Shows (concNoSuf da) fun _ => True)
      (Gen.C.FindOverlappingNoSuffixIterator.next (concNoSuf da it)) (NoSufIt.next da it) := by
  rw [nosuf_next_fin, NoSufIt.next_eq]
  exact (nosuf_loop da hv _ _ _).map_right

theorem ov_loop (da : DA V) (hv : da.variant = .charwise) (fuel : Nat) (it : OvIt) :
    Sim (Shows (concOv da) fun _ => True)
      ((Gen.C.FindOverlappingIterator.next.loop0 fuel (concOv da it)).map (Ctl.out id))
      (scanOv da fuel it) := by
  induction fuel generalizing it with
  | zero => exact rfl
  | succ fuel ih =>
    obtain ⟨src, state, pos, opos⟩ := it
    rw [scanOv, hv]
    apply Sim.item ⟨src⟩
    · exact ⟨rfl, trivial⟩
    intro item src'
    apply Sim.bindNat (next_state_eq da hv state item.label); intro state'
    apply Sim.bindSt (getSt da state'); intro st
    apply Sim.output da st.opos
    · intro o; exact ⟨rfl, trivial⟩
    · exact ih ⟨src', state', item.stop, opos⟩

theorem ov_next_eq (da : DA V) (hv : da.variant = .charwise) (it : OvIt) :
    Sim (Shows (concOv da) fun _ => True) (Gen.C.FindOverlappingIterator.next (concOv da it))
      (OvIt.next da it) := by
  refine Sim.bind_ok_iff.1 ?_
  apply Sim.output da it.opos
  · intro o; exact ⟨rfl, trivial⟩
  · have h := ov_loop da hv ((concOv da it).haystack.inner.rest.length + 1) it
    revert h
    rcases Gen.C.FindOverlappingIterator.next.loop0 _ (concOv da it) with _ | _ | _ <;> exact id

/-- In the text `hay` (a `str`: valid UTF-8) the characters `cs` remain from offset `p` on. -/
def Remains (hay : List Nat) (p : Nat) (cs : List Nat) : Prop :=
  ∃ t1, (∀ c ∈ cs, isScalar c = true) ∧ hay = encAll t1 ++ encAll cs ∧ p = (encAll t1).length

theorem Remains.step {hay : List Nat} {p c : Nat} {rest : List Nat} (h : Remains hay p (c :: rest)) :
    Remains hay (p + utf8Width c) rest := by
  obtain ⟨t1, hs, hh, hp⟩ := h
  refine ⟨t1 ++ [c], fun x hx => hs x (List.mem_cons_of_mem c hx), ?_, ?_⟩
  · rw [hh, ← encAll_append, ← encAll_append, List.append_assoc, List.singleton_append]
  · rw [hp, encAll_append, List.length_append, encAll_length_cons]; rfl

/-- The resume offset of the char-wise leftmost iterator is a character boundary of the text. -/
def LmInv (s : Gen.C.LestmostFindIterator V) : Prop := ∃ cs, Remains s.haystack s.pos cs

/-- What `LestmostFindIterator::next` does with the loop-carried variables after its loop: it
returns the match of the last candidate, if there is one. -/
def lmFin : Ctl (Option (Rs.Match V) × Gen.C.LestmostFindIterator V)
      (Gen.C.LestmostFindIterator V × Nat × Option Nat × Nat) →
    Except Fault (Option (Rs.Match V) × Gen.C.LestmostFindIterator V)
  | .ret r => .ok r
  | .done (self, _, cand, _) =>
    match cand with
    | some p =>
      match Rs.getUnchecked self.pma.outputs (p - 1) .oobOutputs with
      | .error e => .error e
      | .ok out => .ok (some ⟨out.length, self.pos, out.value⟩, self)
    | none => .ok (none, self)

/-- The loop runs over the remaining characters `cs`; `pos + skips` is the offset it has reached,
so every value `self.pos` takes is a character boundary. `char::len_utf8` of std is the true width
of the character, the model counts the bytes the decoder pulled: they agree on valid UTF-8. -/
theorem lm_loop (da : DA V) (hv : da.variant = .charwise) (hay : List Nat) (cs : List Nat)
    (state cand pos skips : Nat) (hb : Remains hay (pos + skips) cs) (hpos : LmInv ⟨da, hay, pos⟩) :
    Sim (fun p x => Shows (concLm da) LmInv p ⟨x.1, ⟨hay, x.2⟩⟩)
      ((Gen.C.LestmostFindIterator.next.loop0 cs ⟨da, hay, pos⟩ state (Rs.nonZero cand)
        skips).bind lmFin)
      (lmLoop da (itemsOf cs (pos + skips)) state cand pos skips) := by
  induction cs generalizing state cand pos skips with
  | nil =>
    rw [itemsOf_nil, lmLoop, ← ite_not]
    refine Sim.bind_ok_iff.1 ?_
    apply Sim.output da cand
    · intro o; exact ⟨rfl, hpos⟩
    · exact ⟨rfl, hpos⟩
  | cons c rest ih =>
    have hb' : Remains hay (pos + (skips + utf8Width c)) rest := Nat.add_assoc .. ▸ hb.step
    rw [itemsOf_cons, Nat.add_assoc, lmLoop, hv]
    apply Sim.bindNat (next_state_lm_eq da hv state c); intro state'
    apply Sim.iteDecide
    · intro _
      apply Sim.output da cand
      · intro o; exact ⟨rfl, hpos⟩
      · exact ih _ _ _ _ hb' hpos
    · intro _
      apply Sim.bindSt (getSt da state'); intro st
      apply Sim.newCand st.opos
      · intro h; rw [← nonZero_of_ne h]; exact ih _ _ _ 0 hb' ⟨rest, hb'⟩
      · exact ih _ _ _ _ hb' hpos

theorem lm_next_fin (it : Gen.C.LestmostFindIterator V) (cs : List Nat)
    (hb : Remains it.haystack it.pos cs) :
    Gen.C.LestmostFindIterator.next it
      = (Gen.C.LestmostFindIterator.next.loop0 cs it Gen.rootStateIdx none 0).bind lmFin := by
  obtain ⟨t1, hs, hh, hp⟩ := hb
  have e1 : Rs.strGetUncheckedFrom it.haystack it.pos = .ok (encAll cs) := by
    unfold Rs.strGetUncheckedFrom
    rw [hh, ← encAll_append, hp, isBoundary_encAll, encAll_append, List.drop_left]
    rfl
  have e2 : Rs.chars (encAll cs) = .ok cs := by
    unfold Rs.chars
    rw [allItems_encAll cs hs 0 _ (Nat.le_refl _)]
    exact congrArg Except.ok (itemsOf_labels cs 0)
  unfold Gen.C.LestmostFindIterator.next
  rw [e1]
  dsimp only
  rw [e2]
  dsimp only
  rcases Gen.C.LestmostFindIterator.next.loop0 cs it _ _ _ with _ | _ | ⟨_, _, _ | _, _⟩ <;> rfl

theorem lm_next_eq (da : DA V) (hv : da.variant = .charwise) (it : LmIt)
    (hi : LmInv (concLm da it)) :
    Sim (Shows (concLm da) LmInv) (Gen.C.LestmostFindIterator.next (concLm da it))
      (LmIt.next da it) := by
  obtain ⟨cs, hb⟩ := hi
  have hit : lmItems da.variant it.hay it.pos = .ok (itemsOf cs it.pos) := by
    obtain ⟨t1, hs, hh, hp⟩ := hb
    rw [hv, show it.hay = _ from hh, ← encAll_append, show it.pos = _ from hp]
    exact lmItems_encAll t1 cs hs
  rw [lm_next_fin (concLm da it) cs hb, LmIt.next_eq da it _ hit]
  exact (lm_loop da hv it.hay cs rootIdx 0 it.pos 0 hb ⟨cs, hb⟩).map_right

end C
end Daac.Tie
