/-
Memory safety of the search model: under `DA.boundsInv`, no checked access of the model
(`DA.st`, `DA.out`) ever faults with `oobStates` / `oobOutputs`.
-/
import Daac.Inv
import Daac.Proofs.IterFacts
import Daac.Proofs.SmallFacts
namespace Daac
variable {V : Type}

theorem isPow2_exists {b : Nat} (h : isPow2 b = true) : ∃ n, b = 2 ^ n := by
  have h' : b ≠ 0 ∧ (b &&& (b - 1)) = 0 := by simpa [isPow2] using h
  exact Nat.ne_zero_and_sub_one_eq_zero_iff_isPowerOfTwo.1 h'

structure Bounds (da : DA V) : Prop where
  size_pos : 0 < da.states.size
  pow : ∃ n k, da.blockLen = 2 ^ n ∧ da.states.size = 2 ^ n * k
  base_lt : ∀ i (h : i < da.states.size), (da.states[i]).base < da.states.size
  fail_lt : ∀ i (h : i < da.states.size), (da.states[i]).fail < da.states.size
  opos_le : ∀ i (h : i < da.states.size), (da.states[i]).opos ≤ da.outputs.size
  parent_le : ∀ j (h : j < da.outputs.size), (da.outputs[j]).parent ≤ j
  code_lt : da.variant = .charwise → ∀ label c, da.code label = some c → c < da.blockLen

theorem bounds_of_boundsInv (da : DA V) (hB : da.boundsInv = true) : Bounds da := by
  simp only [DA.boundsInv, Bool.and_eq_true, bne_iff_ne, ne_eq, beq_iff_eq] at hB
  obtain ⟨⟨⟨⟨⟨h0, hp⟩, hmod⟩, hst⟩, hout⟩, hmap⟩ := hB
  obtain ⟨n, hn⟩ := isPow2_exists hp
  have hst' : ∀ i (h : i < da.states.size), (da.states[i]).base < da.states.size ∧
      (da.states[i]).fail < da.states.size ∧ (da.states[i]).opos ≤ da.outputs.size := by
    intro i h
    rw [Array.all_eq_true] at hst
    have := hst i h
    simpa [Bool.and_eq_true, and_assoc] using this
  refine ⟨Nat.pos_of_ne_zero h0, ⟨n, da.states.size / 2 ^ n, hn, ?_⟩,
    fun i h => (hst' i h).1, fun i h => (hst' i h).2.1, fun i h => (hst' i h).2.2, ?_, ?_⟩
  · rw [hn] at hmod
    exact (Nat.mul_div_cancel' (Nat.dvd_of_mod_eq_zero hmod)).symm
  · intro j h
    rw [List.all_eq_true] at hout
    have hm : (da.outputs[j], j) ∈ da.outputs.toList.zipIdx := by
      rw [List.mem_zipIdx_iff_getElem?]
      simp [h]
    simpa using hout _ hm
  · intro hv label c hc
    rw [hv] at hmap
    simp only [DA.code, hv] at hc
    cases hl : da.mapTable[label]? with
    | none => rw [hl] at hc; cases hc
    | some x =>
      rw [hl] at hc
      have hx := Array.all_eq_true_iff_forall_mem.1 hmap x (Array.mem_of_getElem? hl)
      obtain ⟨hne, hxc⟩ := Option.ite_none_left_eq_some.1 hc
      cases hxc
      simpa [hne] using hx

theorem code_bytewise (da : DA V) (hv : da.variant = .bytewise) (label : Nat) :
    da.code label = some label := by
  simp [DA.code, hv]

theorem blockLen_bytewise (da : DA V) (hv : da.variant = .bytewise) : da.blockLen = 256 := by
  simp [DA.blockLen, hv, Gen.blockLen]

def CodeOk (da : DA V) (c : Nat) : Prop := c < da.blockLen

def NoOob (e : Fault) : Prop := e ≠ .oobStates ∧ e ≠ .oobOutputs

theorem NoOob.fuel : NoOob .fuel := by simp [NoOob]

theorem NoOob.of_eq_fuel {e : Fault} (h : e = .fuel) : NoOob e := h ▸ NoOob.fuel

theorem Utf8Fault.noOob {e : Fault} (h : Utf8Fault e) : NoOob e := by
  rcases h with h | h <;> subst h <;> simp [NoOob]

theorem st_ok (da : DA V) {i : Nat} (h : i < da.states.size) : da.st i = .ok da.states[i] := by
  simp [DA.st, h]

theorem st_in_range (da : DA V) (hb : Bounds da) {i : Nat} (h : i < da.states.size) :
    ∃ st, da.st i = .ok st ∧ st.base < da.states.size ∧ st.fail < da.states.size ∧
      st.opos ≤ da.outputs.size :=
  ⟨_, st_ok da h, hb.base_lt i h, hb.fail_lt i h, hb.opos_le i h⟩

theorem out_no_oob (da : DA V) (hb : Bounds da) {p : Nat} (h1 : 1 ≤ p)
    (h2 : p ≤ da.outputs.size) : ∃ o, da.out p = .ok o ∧ o.parent < p := by
  have hlt : p - 1 < p := Nat.sub_lt h1 Nat.one_pos
  have hp : p - 1 < da.outputs.size := Nat.lt_of_lt_of_le hlt h2
  refine ⟨da.outputs[p - 1], ?_, Nat.lt_of_le_of_lt (hb.parent_le (p - 1) hp) hlt⟩
  unfold DA.out
  rw [if_neg (Nat.ne_of_gt h1), Array.getElem?_eq_getElem hp]

theorem xor_in_range (da : DA V) (hb : Bounds da) {b c : Nat} (hbase : b < da.states.size)
    (hc : CodeOk da c) : b ^^^ c < da.states.size := by
  obtain ⟨n, k, h1, h2⟩ := hb.pow
  unfold CodeOk at hc
  rw [h1] at hc
  rw [h2] at hbase ⊢
  exact xor_block_pow b c k n hc hbase

theorem child_no_oob (da : DA V) (hb : Bounds da) {s c : Nat} (hs : s < da.states.size)
    (hc : CodeOk da c) :
    ∃ r, da.child s c = .ok r ∧ ∀ t, r = some t → t < da.states.size := by
  have hx := xor_in_range da hb (hb.base_lt s hs) hc
  unfold DA.child
  rw [st_ok da hs]
  dsimp only
  by_cases h0 : da.states[s].base = 0
  · rw [if_pos h0]
    exact ⟨none, rfl, nofun⟩
  · rw [if_neg h0, st_ok da hx]
    cases da.variant <;>
      exact ⟨_, rfl, fun t ht => Option.some.inj (Option.ite_none_right_eq_some.1 ht).2 ▸ hx⟩

theorem root_lt (da : DA V) (hb : Bounds da) : rootIdx < da.states.size := hb.size_pos

theorem nextLoop_no_oob (da : DA V) (hb : Bounds da) {c : Nat} (hc : CodeOk da c) :
    ∀ (fuel s n : Nat), s < da.states.size →
      Holds (· = .fuel) (fun p => p.1 < da.states.size) (da.nextLoop fuel s c n) := by
  intro fuel
  induction fuel with
  | zero => intro s n _; rfl
  | succ fuel ih =>
    intro s n hs
    obtain ⟨r, hr, hrt⟩ := child_no_oob da hb hs hc
    unfold DA.nextLoop
    rw [hr]
    cases r with
    | some t => exact hrt t rfl
    | none =>
      refine .ite (fun _ => root_lt da hb) (fun _ => ?_)
      rw [st_ok da hs]
      exact ih _ _ (hb.fail_lt s hs)

theorem nextLoopLm_no_oob (da : DA V) (hb : Bounds da) {c : Nat} (hc : CodeOk da c) :
    ∀ (fuel s n : Nat), s < da.states.size →
      Holds (· = .fuel) (fun p => p.1 < da.states.size) (da.nextLoopLm fuel s c n) := by
  intro fuel
  induction fuel with
  | zero => intro s n _; rfl
  | succ fuel ih =>
    intro s n hs
    obtain ⟨r, hr, hrt⟩ := child_no_oob da hb hs hc
    unfold DA.nextLoopLm
    rw [hr]
    cases r with
    | some t => exact hrt t rfl
    | none =>
      refine .ite (fun _ => root_lt da hb) (fun _ => ?_)
      rw [st_ok da hs]
      exact .ite (fun _ => root_lt da hb) (fun _ => ih _ _ (hb.fail_lt s hs))

def LabelCodeOk (da : DA V) (label : Nat) : Prop := ∀ c, da.code label = some c → CodeOk da c

theorem nextS_no_oob (da : DA V) (hb : Bounds da) {s label : Nat} (hs : s < da.states.size)
    (hl : LabelCodeOk da label) :
    Holds (· = .fuel) (fun p => p.1 < da.states.size) (da.nextS s label) := by
  unfold DA.nextS
  cases hc : da.code label with
  | none => exact root_lt da hb
  | some c => exact nextLoop_no_oob da hb (hl c hc) _ _ _ hs

theorem next_no_oob (da : DA V) (hb : Bounds da) {s label : Nat} (hs : s < da.states.size)
    (hl : LabelCodeOk da label) :
    (∀ t, da.next s label = .ok t → t < da.states.size) ∧
    (∀ e, da.next s label = .error e → e = .fuel) :=
  Holds.iff.1 (nextS_no_oob da hb hs hl).map

theorem nextLm_no_oob (da : DA V) (hb : Bounds da) {s label : Nat} (hs : s < da.states.size)
    (hl : LabelCodeOk da label) :
    (∀ t, da.nextLm s label = .ok t → t < da.states.size) ∧
    (∀ e, da.nextLm s label = .error e → e = .fuel) := by
  refine Holds.iff.1 (Holds.map ?_)
  unfold DA.nextLmS
  cases hc : da.code label with
  | none => exact root_lt da hb
  | some c => exact nextLoopLm_no_oob da hb (hl c hc) _ _ _ hs

theorem labelCodeOk_charwise (da : DA V) (hb : Bounds da) (hv : da.variant = .charwise)
    (label : Nat) : LabelCodeOk da label :=
  fun c hc => hb.code_lt hv label c hc

theorem labelCodeOk_bytewise (da : DA V) (hv : da.variant = .bytewise) {label : Nat}
    (h : label < 256) : LabelCodeOk da label := by
  intro c hc
  rw [code_bytewise da hv] at hc
  cases hc
  simpa [CodeOk, blockLen_bytewise da hv] using h

/-- Hypothesis on the haystack: for the byte-wise variant all (remaining) bytes are bytes. -/
def HayOk (da : DA V) (l : List Nat) : Prop := da.variant = .bytewise → ∀ b ∈ l, b < 256

theorem nextItem_ok (da : DA V) (hb : Bounds da) {s s' : Src} {item : Item}
    (h : nextItem da.variant s = .ok (some (item, s'))) (hh : HayOk da s.rest) :
    LabelCodeOk da item.label ∧ HayOk da s'.rest := by
  cases hv : da.variant with
  | charwise =>
    exact ⟨labelCodeOk_charwise da hb hv _, fun hv' => by rw [hv] at hv'; cases hv'⟩
  | bytewise =>
    rw [hv] at h
    have hall := hh hv
    unfold nextItem Src.pull at h
    cases hr : s.rest with
    | nil => rw [hr] at h; cases h
    | cons b r =>
      rw [hr] at h hall
      cases h
      obtain ⟨h1, h2⟩ := List.forall_mem_cons.1 hall
      exact ⟨labelCodeOk_bytewise da hv h1, fun _ => h2⟩

def OvIt.Ok (da : DA V) (it : OvIt) : Prop :=
  it.state < da.states.size ∧ it.opos ≤ da.outputs.size ∧ HayOk da it.src.rest

/-- Fuel exhaustion is not excluded here: termination is a separate property (C13). -/
theorem scanOv_no_oob (da : DA V) (hb : Bounds da) :
    ∀ (fuel : Nat) (it : OvIt), OvIt.Ok da it →
      Holds NoOob (fun stp => OvIt.Ok da stp.it) (scanOv da fuel it) := by
  intro fuel
  induction fuel with
  | zero => intro it _; exact NoOob.fuel
  | succ fuel ih =>
    intro it ⟨hs, hop, hh⟩
    unfold scanOv
    cases hi : nextItem da.variant it.src with
    | error e => exact (nextItem_err hi).noOob
    | ok o =>
      match o, hi with
      | none, _ => exact ⟨hs, hop, hh⟩
      | some (item, src1), hi =>
        obtain ⟨hl, hh1⟩ := nextItem_ok da hb hi hh
        obtain ⟨hn1, hn2⟩ := next_no_oob da hb hs hl
        dsimp only
        cases hn : da.next it.state item.label with
        | error e => exact .of_eq_fuel (hn2 e hn)
        | ok state1 =>
          have hs1 := hn1 state1 hn
          dsimp only
          rw [st_ok da hs1]
          refine .ite (fun h0 => ?_) (fun _ => ih _ ⟨hs1, hop, hh1⟩)
          have hle := hb.opos_le _ hs1
          obtain ⟨o, ho, hpar⟩ := out_no_oob da hb (Nat.pos_of_ne_zero h0) hle
          rw [ho]
          exact ⟨hs1, Nat.le_trans (Nat.le_of_lt hpar) hle, hh1⟩

theorem scanFirst_no_oob (da : DA V) (hb : Bounds da) (fuel state : Nat) (src : Src)
    (hs : state < da.states.size) (hh : HayOk da src.rest) :
    Holds NoOob (fun (_, state', src') => state' < da.states.size ∧ HayOk da src'.rest)
      (scanFirst da fuel state src) :=
  scanFirst_eq_scanOv da fuel src state 0 0 ▸
    ((scanOv_no_oob da hb fuel ⟨src, state, 0, 0⟩ ⟨hs, Nat.zero_le _, hh⟩).mono (fun _ h => h)
      (fun _ h => ⟨h.1, h.2.2⟩)).map

def NoSufIt.Ok (da : DA V) (it : NoSufIt) : Prop :=
  it.state < da.states.size ∧ HayOk da it.src.rest

theorem NoSufIt.next_no_oob (da : DA V) (hb : Bounds da) {it : NoSufIt}
    (hok : NoSufIt.Ok da it) :
    Holds NoOob (fun stp => NoSufIt.Ok da stp.it) (NoSufIt.next da it) := by
  have h := scanFirst_no_oob da hb (it.src.rest.length + 1) it.state it.src hok.1 hok.2
  unfold NoSufIt.next
  match scanFirst da (it.src.rest.length + 1) it.state it.src, h with
  | .error _, h => exact h
  | .ok (_, _, _), h => exact h

def FindIt.Ok (da : DA V) (it : FindIt) : Prop := HayOk da it.src.rest

theorem FindIt.next_no_oob (da : DA V) (hb : Bounds da) {it : FindIt} (hok : FindIt.Ok da it) :
    Holds NoOob (fun stp => FindIt.Ok da stp.it) (FindIt.next da it) := by
  rw [FindIt.next_eq]
  exact .map ((NoSufIt.next_no_oob da hb (it := ⟨it.src, rootIdx⟩) ⟨root_lt da hb, hok⟩).mono
    (fun _ h => h) (fun _ h => h.2))

theorem OvIt.next_no_oob (da : DA V) (hb : Bounds da) {it : OvIt} (hok : OvIt.Ok da it) :
    Holds NoOob (fun stp => OvIt.Ok da stp.it) (OvIt.next da it) := by
  unfold OvIt.next
  refine .ite (fun h0 => ?_) (fun _ => scanOv_no_oob da hb _ it hok)
  obtain ⟨o, ho, hpar⟩ := out_no_oob da hb (Nat.pos_of_ne_zero h0) hok.2.1
  rw [ho]
  exact ⟨hok.1, Nat.le_trans (Nat.le_of_lt hpar) hok.2.1, hok.2.2⟩

theorem collectWith_no_oob {σ : Type} (next : σ → Except Fault (Step σ V)) (pulled : σ → Nat)
    (Ok : σ → Prop) (hstep : ∀ it, Ok it → Holds NoOob (fun stp => Ok stp.it) (next it))
    (fuel : Nat) (it : σ) (hok : Ok it) :
    Holds NoOob (fun _ => True) (collectWith next pulled fuel it) := by
  fun_induction collectWith next pulled fuel it with
  | case1 => exact NoOob.fuel
  | case2 _ it e hn => exact (hstep it hok).of_error hn
  | case3 | case5 => trivial
  | case4 _ it _ _ hn e hc ih => exact (ih ((hstep it hok).of_ok hn)).of_error hc

theorem findAll_no_oob (da : DA V) (hB : da.boundsInv = true) (h : List Nat)
    (hbytes : HayOk da h) : ∀ e, findAll da h = .error e → NoOob e :=
  have hb := bounds_of_boundsInv da hB
  fun _ => (collectWith_no_oob _ _ (FindIt.Ok da) (fun _ => FindIt.next_no_oob da hb) _
    ⟨startSrc h⟩ hbytes).of_error

theorem noSufAll_no_oob (da : DA V) (hB : da.boundsInv = true) (h : List Nat)
    (hbytes : HayOk da h) : ∀ e, noSufAll da h = .error e → NoOob e :=
  have hb := bounds_of_boundsInv da hB
  fun _ => (collectWith_no_oob _ _ (NoSufIt.Ok da) (fun _ => NoSufIt.next_no_oob da hb) _
    ⟨startSrc h, rootIdx⟩ ⟨root_lt da hb, hbytes⟩).of_error

theorem ovAll_no_oob (da : DA V) (hB : da.boundsInv = true) (h : List Nat)
    (hbytes : HayOk da h) : ∀ e, ovAll da h = .error e → NoOob e :=
  have hb := bounds_of_boundsInv da hB
  fun _ => (collectWith_no_oob _ _ (OvIt.Ok da) (fun _ => OvIt.next_no_oob da hb) _
    ⟨startSrc h, rootIdx, 0, 0⟩ ⟨root_lt da hb, Nat.zero_le _, hbytes⟩).of_error

theorem allItems_no_oob (da : DA V) (hb : Bounds da) (fuel : Nat) (s : Src)
    (hh : HayOk da s.rest) :
    Holds NoOob (fun l => ∀ it ∈ l, LabelCodeOk da it.label) (allItems da.variant fuel s) := by
  fun_induction allItems da.variant fuel s with
  | case1 => exact NoOob.fuel
  | case2 _ _ e hi => exact (nextItem_err hi).noOob
  | case3 => exact nofun
  | case4 _ _ _ _ hi e ha ih => exact (ih (nextItem_ok da hb hi hh).2).of_error ha
  | case5 _ _ _ _ hi l ha ih =>
    obtain ⟨hl, hh1⟩ := nextItem_ok da hb hi hh
    exact List.forall_mem_cons.2 ⟨hl, (ih hh1).of_ok ha⟩

theorem lmItems_no_oob (da : DA V) (hb : Bounds da) {h : List Nat} (hh : HayOk da h) (pos : Nat) :
    Holds NoOob (fun l => ∀ it ∈ l, LabelCodeOk da it.label) (lmItems da.variant h pos) := by
  have := allItems_no_oob da hb ((h.drop pos).length + 1) ⟨h.drop pos, pos⟩ (fun hv b hb => hh hv b (List.mem_of_mem_drop hb))
  unfold lmItems
  split
  · exact this
  · exact .ite (fun _ => this) (fun _ => ⟨nofun, nofun⟩)

theorem lmLoop_no_oob (da : DA V) (hb : Bounds da) :
    ∀ (items : List WItem) (state cand pos skips : Nat),
      (∀ it ∈ items, LabelCodeOk da it.label) → state < da.states.size →
      cand ≤ da.outputs.size →
      Holds NoOob (fun _ => True) (lmLoop da items state cand pos skips) := by
  intro items
  induction items with
  | nil =>
    intro state cand pos skips _ _ hc
    unfold lmLoop
    refine .ite (fun _ => trivial) (fun h0 => ?_)
    obtain ⟨o, ho, _⟩ := out_no_oob da hb (Nat.pos_of_ne_zero h0) hc
    rw [ho]
    trivial
  | cons item rest ih =>
    intro state cand pos skips hl hs hc
    obtain ⟨hl1, hl2⟩ := List.forall_mem_cons.1 hl
    obtain ⟨hn1, hn2⟩ := nextLm_no_oob da hb hs hl1
    unfold lmLoop
    cases hn : da.nextLm state item.label with
    | error e => exact .of_eq_fuel (hn2 e hn)
    | ok state1 =>
      have hs1 := hn1 state1 hn
      dsimp only
      refine .ite (fun _ => .ite (fun h0 => ?_) (fun _ => ih _ _ _ _ hl2 hs1 hc)) (fun _ => ?_)
      · obtain ⟨o, ho, _⟩ := out_no_oob da hb (Nat.pos_of_ne_zero h0) hc
        rw [ho]
        trivial
      · rw [st_ok da hs1]
        exact .ite (fun _ => ih _ _ _ _ hl2 hs1 (hb.opos_le _ hs1)) (fun _ => ih _ _ _ _ hl2 hs1 hc)

def LmIt.Ok (da : DA V) (it : LmIt) : Prop := HayOk da it.hay

theorem LmIt.next_no_oob (da : DA V) (hb : Bounds da) {it : LmIt} (hok : LmIt.Ok da it) :
    Holds NoOob (fun stp => LmIt.Ok da stp.it) (LmIt.next da it) := by
  have hit := lmItems_no_oob da hb hok it.pos
  unfold LmIt.next
  match lmItems da.variant it.hay it.pos, hit with
  | .error _, hit => exact hit
  | .ok items, hit =>
    have hlm := lmLoop_no_oob da hb items rootIdx 0 it.pos 0 hit (root_lt da hb) (Nat.zero_le _)
    dsimp only
    match lmLoop da items rootIdx 0 it.pos 0, hlm with
    | .error _, hlm => exact hlm
    | .ok (_, _), _ => exact hok

theorem lmAll_no_oob (da : DA V) (hB : da.boundsInv = true) (h : List Nat)
    (hbytes : HayOk da h) : ∀ e, lmAll da h = .error e → NoOob e :=
  have hb := bounds_of_boundsInv da hB
  fun _ => (collectWith_no_oob _ _ (LmIt.Ok da) (fun _ => LmIt.next_no_oob da hb) _
    ⟨h, 0⟩ hbytes).of_error

theorem noOob_iff (e : Fault) :
    NoOob e ↔ (e = .fuel ∨ e = .truncatedUtf8 ∨ e = .invalidScalar ∨ e = .badSlice) := by
  cases e <;> simp [NoOob]

theorem hayOk_charwise (da : DA V) (hv : da.variant = .charwise) (h : List Nat) : HayOk da h :=
  fun hv' => by rw [hv] at hv'; cases hv'

theorem hayOk_of_bytes (da : DA V) {h : List Nat} (hbytes : ∀ b ∈ h, b < 256) : HayOk da h :=
  fun _ => hbytes

theorem scanSteps_no_oob (da : DA V) (hb : Bounds da) :
    ∀ (fuel state : Nat) (src : Src) (n : Nat), state < da.states.size → HayOk da src.rest →
      ∀ e, scanSteps da fuel state src n = .error e → NoOob e := by
  intro fuel state src n hs hh e h
  refine Holds.of_error (P := fun _ => True) ?_ h
  clear h
  fun_induction scanSteps da fuel state src n with
  | case1 => exact NoOob.fuel
  | case2 _ _ _ _ e hi => exact (nextItem_err hi).noOob
  | case3 => trivial
  | case4 _ _ _ _ _ _ hi e hn =>
    exact .of_eq_fuel ((nextS_no_oob da hb hs (nextItem_ok da hb hi hh).1).of_error hn)
  | case5 _ _ _ _ _ _ hi _ _ hn ih =>
    obtain ⟨hl, hh1⟩ := nextItem_ok da hb hi hh
    exact ih ((nextS_no_oob da hb hs hl).of_ok hn) hh1

#print axioms bounds_of_boundsInv
#print axioms child_no_oob
#print axioms nextLoop_no_oob
#print axioms nextLoopLm_no_oob
#print axioms next_no_oob
#print axioms nextLm_no_oob
#print axioms out_no_oob
#print axioms findAll_no_oob
#print axioms noSufAll_no_oob
#print axioms ovAll_no_oob
#print axioms lmAll_no_oob

end Daac
