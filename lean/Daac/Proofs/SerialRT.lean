/-
Serialisation round trip (property C09): `deserialize (serialize da ++ rest) = some (da, rest)` for
every well-formed automaton value (not only built ones), both variants.
-/
import Daac.Model.Serial
import Daac.Proofs.Intpack
namespace Daac
variable {V : Type}

theorem leBytes_length (w x : Nat) : (leBytes w x).length = w := by
  induction w generalizing x with
  | zero => rfl
  | succ w ih => simp only [leBytes, List.length_cons, ih]

theorem leNat_leBytes (w x : Nat) : leNat (leBytes w x) = x % 256 ^ w := by
  induction w generalizing x with
  | zero => exact (Nat.mod_one x).symm
  | succ w ih =>
    simp only [leBytes, leNat, ih]
    rw [Nat.pow_succ', Nat.mod_mul]

theorem leNat_take_leBytes (w x : Nat) (r : List Nat) :
    leNat ((leBytes w x ++ r).take w) = x % 256 ^ w := by
  rw [List.take_left' (leBytes_length w x), leNat_leBytes]

theorem leBytes_lt (w x : Nat) : ∀ b ∈ leBytes w x, b < 256 := by
  induction w generalizing x with
  | zero => nofun
  | succ w ih =>
    intro b hb
    simp only [leBytes, List.mem_cons] at hb
    rcases hb with rfl | hb
    · exact Nat.mod_lt _ (by decide)
    · exact ih _ b hb

theorem serU32_length (x : Nat) : (serU32 x).length = 4 := leBytes_length 4 x

theorem deU32_serU32 (x : Nat) (hx : x < 2 ^ 32) (r : List Nat) :
    deU32 (serU32 x ++ r) = some (x, r) :=
  congrArg (fun n => some (n, r)) ((leNat_leBytes 4 x).trans (Nat.mod_eq_of_lt hx))

/-- Field ranges of a state for which the fixed-width encoding is lossless. -/
structure St.WF (v : Variant) (s : St) : Prop where
  base : s.base < 2 ^ 32
  check : s.check < 2 ^ 32
  fail : s.fail < 2 ^ 32
  opos : s.opos < 2 ^ 32
  bcheck : v = .bytewise → s.check < 256
  bopos : v = .bytewise → s.opos < 2 ^ 24

theorem serSt_length (v : Variant) (s : St) : (serSt v s).length = stWidth v := by
  cases v <;> simp only [serSt, stWidth, List.length_append, serU32_length]

theorem deSt_serSt (v : Variant) (s : St) (h : s.WF v) (r : List Nat) :
    deSt v (serSt v s ++ r) = some (s, r) := by
  cases v with
  | bytewise =>
    -- the third word is `U24nU8.pack s.opos s.check`, split again by `U24nU8.a` and `U24nU8.b`
    have hc := h.bcheck rfl
    have hw := U24nU8.pack_lt _ _ (Nat.le_of_lt_succ (h.bopos rfl)) hc
    have ha := U24nU8.a_pack s.opos s.check hc
    have hb := U24nU8.b_pack s.opos s.check hc
    dsimp only [U24nU8.a, U24nU8.b, U24nU8.pack, Gen.packShift, Gen.packMask] at hw ha hb
    simp only [serSt, deSt, List.append_assoc, deU32_serU32 _ h.base, deU32_serU32 _ h.fail,
      deU32_serU32 _ hw, ha, hb]
  | charwise =>
    simp only [serSt, deSt, List.append_assoc, deU32_serU32 _ h.base, deU32_serU32 _ h.fail,
      deU32_serU32 _ h.check, deU32_serU32 _ h.opos]

/-- The `Serializable` law restricted to a domain `D` of values (e.g. the range of `u32`). -/
structure Ser.LawfulOn (S : Ser V) (D : V → Prop) : Prop where
  len : ∀ v, D v → (S.enc v).length = S.width
  dec_enc : ∀ v r, D v → S.dec (S.enc v ++ r) = v

theorem Ser.Lawful.lawfulOn {S : Ser V} (h : S.Lawful) (D : V → Prop) : S.LawfulOn D :=
  ⟨fun v _ => h.len v, fun v r _ => h.dec_enc v r⟩

structure Out.WF (D : V → Prop) (o : Out V) : Prop where
  value : D o.value
  length : o.length < 2 ^ 32
  parent : o.parent < 2 ^ 32

theorem serOut_length (S : Ser V) (o : Out V) (h : (S.enc o.value).length = S.width) :
    (serOut S o).length = S.width + 8 := by
  simp only [serOut, List.length_append, serU32_length, h, Nat.add_assoc]

theorem deOut_serOut (S : Ser V) (D : V → Prop) (hS : S.LawfulOn D) (o : Out V) (h : o.WF D)
    (r : List Nat) : deOut S (serOut S o ++ r) = some (o, r) := by
  have hl := hS.len _ h.value
  simp only [serOut, deOut, List.append_assoc, List.take_left' hl, List.drop_left' hl, hl,
    Nat.lt_irrefl, if_false, deU32_serU32 _ h.length, deU32_serU32 _ h.parent,
    hS.dec_enc _ _ h.value]

theorem serUnsigned_lawfulOn (w : Nat) :
    (serUnsigned w).LawfulOn (fun v => 0 ≤ v ∧ v < 256 ^ w) where
  len v _ := leBytes_length w v.toNat
  dec_enc v r h := by
    obtain ⟨k, rfl⟩ := Int.eq_ofNat_of_zero_le h.1
    have hk : k < 256 ^ w := Int.ofNat_lt.1 ((Int.natCast_pow 256 w).symm ▸ h.2)
    dsimp only [serUnsigned]
    rw [Int.toNat_natCast, leNat_take_leBytes, Nat.mod_eq_of_lt hk]
    rfl

/-- Two's complement with `2 * H` values: reducing `v ∈ [-H, H)` modulo `2 * H` and reading the
residues from `H` upwards as negative gives `v` back. -/
theorem twosComplement (H : Nat) (v : Int) (hlo : -(H : Int) ≤ v) (hhi : v < H) :
    ∃ n : Nat, v % ((2 * H : Nat) : Int) = n ∧ n < 2 * H ∧
      (if n < H then Int.ofNat n else Int.ofNat n - Int.ofNat (2 * H)) = v := by
  by_cases hv : 0 ≤ v
  · obtain ⟨k, rfl⟩ := Int.eq_ofNat_of_zero_le hv
    have hk : k < H := Int.ofNat_lt.1 hhi
    have hk2 : k < 2 * H := Nat.lt_of_lt_of_le hk (Nat.le_mul_of_pos_left H (by decide))
    exact ⟨k, Int.emod_eq_of_lt hv (Int.ofNat_lt.2 hk2), hk2, if_pos hk⟩
  · -- `v = j - H` with `j < H`; the residue is `j + H`
    obtain ⟨j, hj⟩ := Int.eq_ofNat_of_zero_le (Int.add_nonneg_iff_neg_le.2 hlo)
    have hjH : j < H := by omega
    have hm : v + ((2 * H : Nat) : Int) = ((j + H : Nat) : Int) := by
      rw [Nat.two_mul, Int.natCast_add, Int.natCast_add, ← Int.add_assoc, hj]
    have hm2 : j + H < 2 * H := by
      rw [Nat.two_mul]
      exact Nat.add_lt_add_right hjH H
    refine ⟨j + H, ?_, hm2, ?_⟩
    · rw [← Int.add_emod_right, hm]
      exact Int.emod_eq_of_lt (Int.natCast_nonneg _) (Int.ofNat_lt.2 hm2)
    · rw [if_neg (Nat.not_lt.2 (Nat.le_add_left H j))]
      exact Int.sub_eq_iff_eq_add.2 hm.symm

theorem serSigned_lawfulOn (w : Nat) (hw : 1 ≤ w) :
    (serSigned w).LawfulOn (fun v => -(2 ^ (8 * w - 1)) ≤ v ∧ v < 2 ^ (8 * w - 1)) where
  len v _ := leBytes_length w _
  dec_enc v r h := by
    -- the `256 ^ w` residues are `2 * H` with `H = 2 ^ (8 * w - 1)`
    have hpow : 256 ^ w = 2 * 2 ^ (8 * w - 1) := by
      rw [← Nat.pow_succ', Nat.succ_eq_add_one, Nat.sub_add_cancel (Nat.mul_pos (by decide) hw)]
      exact (Nat.pow_mul 2 8 w).symm
    have hcast : ((2 : Int) ^ (8 * w - 1)) = ((2 ^ (8 * w - 1) : Nat) : Int) :=
      (Int.natCast_pow 2 _).symm
    rw [hcast] at h
    obtain ⟨n, hmod, hn, hdec⟩ := twosComplement _ v h.1 h.2
    dsimp only [serSigned]
    rw [leNat_take_leBytes, Nat.pow_mul 2 8 w, hpow, hmod, Int.toNat_natCast, Nat.mod_eq_of_lt hn]
    exact hdec

theorem serEmpty_lawfulOn : serEmpty.LawfulOn (fun v => v = 0) where
  len _ _ := rfl
  dec_enc _ _ h := h.symm

theorem deMany_flatMap {α : Type} (f : List Nat → Option (α × List Nat)) (g : α → List Nat)
    (xs : List α) (h : ∀ x ∈ xs, ∀ r, f (g x ++ r) = some (x, r)) (r : List Nat) :
    deMany f xs.length (xs.flatMap g ++ r) = some (xs, r) := by
  induction xs with
  | nil => rfl
  | cons x xs ih =>
    have hx := h x (List.mem_cons_self ..) (xs.flatMap g ++ r)
    have ih' := ih (fun y hy => h y (List.mem_cons_of_mem _ hy))
    simp only [List.length_cons, List.flatMap_cons, List.append_assoc, deMany, hx, ih']

theorem deVec_serVec {α : Type} (f : List Nat → Option (α × List Nat)) (g : α → List Nat)
    (xs : List α) (h : ∀ x ∈ xs, ∀ r, f (g x ++ r) = some (x, r)) (hl : xs.length < 2 ^ 32)
    (r : List Nat) : deVec f (serVec g xs ++ r) = some (xs, r) := by
  simp only [serVec, deVec, List.append_assoc, deU32_serU32 _ hl, deMany_flatMap f g xs h r]

theorem serVec_length {α : Type} (g : α → List Nat) (w : Nat) (xs : List α)
    (h : ∀ x ∈ xs, (g x).length = w) : (serVec g xs).length = 4 + w * xs.length := by
  rw [serVec, List.length_append, serU32_length, List.length_flatMap, List.map_congr_left h,
    List.map_const', List.sum_replicate_nat, Nat.mul_comm]

theorem decodeKind_eq : ∀ k ∈ [0, 1, 2], decodeKind k = k := by decide

/-- Automaton values for which `serialize` is lossless. -/
structure DA.WF (S : Ser V) (D : V → Prop) (da : DA V) : Prop where
  states : ∀ s ∈ da.states.toList, s.WF da.variant
  outputs : ∀ o ∈ da.outputs.toList, o.WF D
  statesSize : da.states.size < 2 ^ 32
  outputsSize : da.outputs.size < 2 ^ 32
  mapSize : da.mapTable.size < 2 ^ 32
  mapEntries : ∀ c ∈ da.mapTable.toList, c < 2 ^ 32
  alpha : da.alphaSize < 2 ^ 32
  numStates : da.numStates < 2 ^ 32
  kind : da.kind ∈ [0, 1, 2]
  bytewise : da.variant = .bytewise → da.mapTable = #[] ∧ da.alphaSize = 0

theorem deserialize_serialize (S : Ser V) (D : V → Prop) (hS : S.LawfulOn D) (da : DA V)
    (h : da.WF S D) (rest : List Nat) :
    deserialize S da.variant (serialize S da ++ rest) = some (da, rest) := by
  obtain ⟨variant, states, outputs, mapTable, alphaSize, kind, numStates⟩ := da
  have eStates := deVec_serVec _ _ _ (fun s hs => deSt_serSt variant s (h.states s hs)) h.statesSize
  have eOuts := deVec_serVec _ _ _ (fun o ho => deOut_serOut S D hS o (h.outputs o ho)) h.outputsSize
  have eMap := deVec_serVec _ _ _ (fun c hc => deU32_serU32 c (h.mapEntries c hc)) h.mapSize
  have eAlpha := deU32_serU32 _ h.alpha
  have eNum := deU32_serU32 _ h.numStates
  have eKind := decodeKind_eq _ h.kind
  dsimp only at eStates eOuts eMap eAlpha eNum eKind
  cases variant with
  | bytewise =>
    obtain ⟨hm, ha⟩ := h.bytewise rfl
    subst hm ha
    simp only [serialize, deserialize, List.append_assoc, eStates, eOuts, List.nil_append,
      List.cons_append, eNum, eKind, Array.toArray_toList]
  | charwise =>
    simp only [serialize, deserialize, List.append_assoc, eStates, eOuts, eMap, List.nil_append,
      List.cons_append, eNum, eAlpha, eKind, Array.toArray_toList]

theorem reserialize (S : Ser V) (D : V → Prop) (hS : S.LawfulOn D) (da : DA V) (h : da.WF S D)
    (rest : List Nat) (da' : DA V) (rest' : List Nat)
    (hd : deserialize S da.variant (serialize S da ++ rest) = some (da', rest')) :
    serialize S da' = serialize S da ∧ rest' = rest := by
  rw [deserialize_serialize S D hS da h rest] at hd
  cases hd
  exact ⟨rfl, rfl⟩

/-- The length of the image needs no more than the width of the encoded values; the summands are
those of `serialize`, in its order. -/
theorem serialize_length_of_width (S : Ser V) (da : DA V)
    (h : ∀ o ∈ da.outputs.toList, (S.enc o.value).length = S.width) :
    (serialize S da).length =
      4 + stWidth da.variant * da.states.size
      + (match da.variant with
         | .bytewise => 0
         | .charwise => 4 + 4 * da.mapTable.size + 4)
      + (4 + (S.width + 8) * da.outputs.size) + 1 + 4 := by
  simp only [serialize, List.length_append, List.length_singleton, serU32_length,
    serVec_length _ _ _ (fun s _ => serSt_length da.variant s),
    serVec_length _ _ _ (fun o ho => serOut_length S o (h o ho)), Array.length_toList]
  cases da.variant
  · rfl
  · simp only [List.length_append, serU32_length, serVec_length _ _ _ (fun c _ => serU32_length c),
      Array.length_toList]

theorem serialize_length (S : Ser V) (D : V → Prop) (hS : S.LawfulOn D) (da : DA V)
    (h : da.WF S D) :
    (serialize S da).length =
      4 + stWidth da.variant * da.states.size
      + (match da.variant with
         | .bytewise => 0
         | .charwise => 4 + 4 * da.mapTable.size + 4)
      + (4 + (S.width + 8) * da.outputs.size) + 1 + 4 :=
  serialize_length_of_width S da (fun o ho => hS.len _ (h.outputs o ho).value)

/-! Non-vacuity: the hypotheses are satisfiable by a non-trivial automaton value. -/

def exampleDA : DA Int where
  variant := .charwise
  states := #[⟨3, 0, 0, 0⟩, ⟨0, 1, 1, 0⟩, ⟨0, 0, 0, 1⟩, ⟨2, 0, 0, 2⟩]
  outputs := #[⟨7, 1, 0⟩, ⟨4294967295, 2, 1⟩]
  mapTable := #[4294967295, 0, 1]
  alphaSize := 2
  kind := 2
  numStates := 3

theorem exampleDA_wf : exampleDA.WF (serUnsigned 4) (fun v => 0 ≤ v ∧ v < 256 ^ 4) where
  states := by
    intro s hs
    constructor <;> revert s <;> decide
  outputs := by
    intro o ho
    constructor <;> revert o <;> decide
  statesSize := by decide
  outputsSize := by decide
  mapSize := by decide
  mapEntries := by decide
  alpha := by decide
  numStates := by decide
  kind := by decide
  bytewise := nofun

example (rest : List Nat) :
    deserialize (serUnsigned 4) .charwise (serialize (serUnsigned 4) exampleDA ++ rest)
      = some (exampleDA, rest) :=
  deserialize_serialize _ _ (serUnsigned_lawfulOn 4) exampleDA exampleDA_wf rest

end Daac
