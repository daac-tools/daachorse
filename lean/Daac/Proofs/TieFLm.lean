/-
Translation tie, leftmost fail pass: `NfaBuilder::build_fails_leftmost` GENERATED from
`src/nfa_builder.rs` refines `buildFailMap t true` (Daac/Model/Nfa.lean). The breadth-first loop is
that of Daac/Proofs/TieF.lean; what differs is that a link may be the dead state (`FailRel`): a
pattern end fails to it before its children are visited, and children of such a node inherit it.
-/
import Daac.Proofs.TieF
import Daac.Proofs.NfaLm
namespace Daac.Tie.F
open Daac Daac.Gen Daac.Gen.N Daac.Tie.N

variable {V : Type}

def LInv (st : Tie.N.St V) (m : FailMap) (D : List Nat → Prop) : Prop :=
  ∀ u i, D u → idAt st 0 u = some i → ∃ s : NfaBuilderState V, st[i]? = some s ∧
    FailRel st (m.get u) s.fail ∧
    ∀ nx, m.get u = .node nx → (nx.length < u.length ∨ (u = [] ∧ nx = []))

theorem Linked.lInv {A : FailTo → Prop} {st : Tie.N.St V} {m : FailMap} (h : Linked A st m)
    (D : List Nat → Prop) : LInv st m D := fun u i _ hi =>
  let ⟨s, hs, _, hr, hl⟩ := h u i hi
  ⟨s, hs, hr, hl⟩

theorem id_ne_dead {st : Tie.N.St V} {pth : Pth} {t : Trie V} (hrep : Rep st pth t 0 [])
    (hpd : pth Gen.deadStateId = none) {u : List Nat} {i : Nat} (hi : idAt st 0 u = some i) :
    i ≠ Gen.deadStateId := by
  intro e
  have := idAt_pth hrep hi
  rw [e, hpd] at this
  cases this

theorem walk_lm (g : NfaBuilder V) (pth : Pth) (t : Trie V) (m : FailMap) (c L : Nat)
    (hrep : Rep g.states pth t 0 []) (hpd : pth Gen.deadStateId = none)
    (hinv : LInv g.states m (fun u => u.length ≤ L)) :
    ∀ (fm fc : Nat) (f : List Nat) (fid : Nat), idAt g.states 0 f = some fid → f.length ≤ L →
      f.length < fm → f.length < fc →
      ∃ r fid', NfaBuilder.build_fails_leftmost.loop3 g c fc fid = .ok (r, fid') ∧
        FailRel g.states (failWalkLm t m fm f c) r ∧
        ∀ x, failWalkLm t m fm f c = .node x → x.length ≤ f.length + 1 := by
  intro fm
  induction fm with
  | zero => exact fun fc f fid _ _ h => absurd h (Nat.not_lt_zero _)
  | succ fm ih =>
    intro fc f fid hfid hL hfm hfc
    cases fc with
    | zero => exact absurd hfc (Nat.not_lt_zero _)
    | succ fc =>
      obtain ⟨s, hs, hrel, hsh⟩ := hinv f fid hL hfid
      have hsnoc := idAt_snoc f c fid s hfid hs
      simp only [NfaBuilder.build_fails_leftmost.loop3, child_id_eq g fid c s hs, failWalkLm,
        hasNode_eq_idAt hrep, hsnoc]
      cases hg : Rs.EdgeMap.get s.edges c with
      | some cid =>
        simp only [Option.isSome_some, if_true]
        exact ⟨cid, fid, rfl, hsnoc.trans hg,
          fun x hx => by cases hx; rw [List.length_append]; exact Nat.le_refl _⟩
      | none =>
        simp only [index_eq _ _ _ hs, Option.isSome_none, Bool.false_eq_true, if_false]
        cases hm : m.get f with
        | dead =>
          rw [hm] at hrel
          have hdead : (s.fail == Gen.deadStateId) = true := beq_iff_eq.mpr hrel
          simp only [hdead, if_true]
          exact ⟨_, fid, rfl, rfl, fun x hx => by cases hx⟩
        | node nx =>
          rw [hm] at hrel
          have hlive : (s.fail == Gen.deadStateId) = false := beq_eq_false_iff_ne.mpr (id_ne_dead hrep hpd hrel)
          simp only [hlive, root_test hrep hfid hrel, Bool.false_eq_true, if_false, decide_eq_true_eq]
          by_cases hroot : f = [] ∧ nx = []
          · rw [if_pos hroot, if_pos hroot]
            exact ⟨0, fid, rfl, rfl, fun x hx => by cases hx; exact Nat.zero_le _⟩
          · rw [if_neg hroot, if_neg hroot]
            have hlt : nx.length < f.length := (hsh nx hm).resolve_right hroot
            obtain ⟨r, fid', h1, h2, h3⟩ := ih fc nx s.fail hrel (Nat.le_trans (Nat.le_of_lt hlt) hL)
              (Nat.lt_of_lt_of_le hlt (Nat.le_of_lt_succ hfm)) (Nat.lt_of_lt_of_le hlt (Nat.le_of_lt_succ hfc))
            exact ⟨r, fid', h1, h2, fun x hx => Nat.le_trans (h3 x hx) (Nat.succ_le_succ (Nat.le_of_lt hlt))⟩

/-- The step function of the fold in `failStepLm`. -/
abbrev lmStep (t : Trie V) (s : List Nat) : FailMap → List Nat → FailMap := fun m child =>
  match m.get s, child.getLast? with
  | .dead, _ => m.insert child .dead
  | .node f, some c => m.insert child (failWalkLm t m (s.length + 2) f c)
  | _, none => m

theorem child_lm {pth : Pth} {t : Trie V} {s : List Nat} {sid : Nat} (hs0 : s ≠ [])
    (hpd : pth Gen.deadStateId = none) :
    ChildStep (fun _ => True) pth t s sid (lmStep t s) (NfaBuilder.build_fails_leftmost.loop2 sid) := by
  intro g m l cid hrep hl hsid hcid
  obtain ⟨ss, hss, _, hrel, hsh⟩ := hl s sid hsid
  obtain ⟨_, sc, _, hsc, _⟩ := idAt_node hrep hcid
  cases hmf : m.get s with
  | dead =>
    rw [hmf] at hrel
    have hdead : (ss.fail == Gen.deadStateId) = true := beq_iff_eq.mpr hrel
    refine ⟨sc, Gen.deadStateId, .dead, hsc, fun rest q => ?_, ?_, trivial, rfl, fun x hx => by cases hx⟩
    · simp only [NfaBuilder.build_fails_leftmost.loop2, index_eq _ _ _ hss, hdead, if_true,
        index_eq _ _ _ hsc]
    · simp only [lmStep, hmf]
  | node f =>
    rw [hmf] at hrel
    have hlive : (ss.fail == Gen.deadStateId) = false := beq_eq_false_iff_ne.mpr (id_ne_dead hrep hpd hrel)
    have hflt : f.length < s.length := (hsh f hmf).resolve_right (fun h => hs0 h.1)
    obtain ⟨r, fid', hw1, hw2, hw3⟩ :=
      walk_lm g pth t m l s.length hrep hpd (hl.lInv _) (s.length + 2) (g.states.size + 1)
        f ss.fail hrel (Nat.le_of_lt hflt) (Nat.lt_add_right 2 hflt)
        (Nat.lt_succ_of_lt (depth_lt_size hrep hrel))
    refine ⟨sc, r, failWalkLm t m (s.length + 2) f l, hsc, fun rest q => ?_, ?_, trivial, hw2,
      fun x hx => Nat.le_trans (hw3 x hx) hflt⟩
    · simp only [NfaBuilder.build_fails_leftmost.loop2, index_eq _ _ _ hss, hlive, Bool.false_eq_true,
        if_false, hw1, index_eq _ _ _ hsc]
    · simp only [lmStep, hmf, List.getLast?_append, List.getLast?_singleton, Option.some_or]

theorem entry_lm (pth : Pth) (t : Trie V) (hpd : pth Gen.deadStateId = none) :
    EntryStep (fun _ => True) pth t (failStepLm t) NfaBuilder.build_fails_leftmost.loop1 where
  stop n g q qi h := by
    simp only [NfaBuilder.build_fails_leftmost.loop1, h, decide_false, Bool.false_eq_true, if_false]
  entry n g q qi m s sid hrep hl hs0 hsid hq := by
    obtain ⟨nd, ss, hw, hss, hso, hcp, hes⟩ := idAt_node hrep hsid
    have hqlt : qi < q.size := (Array.getElem?_eq_some_iff.mp hq).1
    have hout : t.hasOutput s = ss.output.isSome := by simp only [Trie.hasOutput, hw, hso]
    -- the pattern-end write
    obtain ⟨g0, hcode, hfo0, hl0⟩ : ∃ g0 : NfaBuilder V,
        (∀ g' q', NfaBuilder.build_fails_leftmost.loop2 sid ss.edges g0 q = .ok (g', q') →
          NfaBuilder.build_fails_leftmost.loop1 (n + 1) g q qi =
            NfaBuilder.build_fails_leftmost.loop1 n g' q' (qi + 1)) ∧
        FailOnly g g0 ∧
        Linked (fun _ => True) g0.states (if t.hasOutput s then m.insert s .dead else m) := by
      cases hiso : ss.output.isSome with
      | false =>
        refine ⟨g, fun g' q' h => ?_, .refl g, by rw [hout, hiso]; exact hl⟩
        simp only [NfaBuilder.build_fails_leftmost.loop1, hqlt, decide_true, if_true, index_eq _ _ _ hq,
          index_eq _ _ _ hss, hiso, Bool.false_eq_true, if_false, h]
      | true =>
        refine ⟨_, fun g' q' h => ?_, .setFail g sid ss Gen.deadStateId hss, by
          rw [hout, hiso, if_pos rfl]
          exact hl.set hrep hsid hss trivial rfl (fun x hx => by cases hx)⟩
        simp only [NfaBuilder.build_fails_leftmost.loop1, hqlt, decide_true, if_true, index_eq _ _ _ hq,
          index_eq _ _ _ hss, hiso, index_eq _ _ _ (set_self _ _ _ _ hss), h]
    obtain ⟨g1, e1, e2, e3⟩ := kids_refines (fun _ _ => rfl) (child_lm hs0 hpd) ss.edges g0 q _
      (rep_shape t 0 [] hrep hfo0.shape) hl0 (idAt_shape hfo0.shape s 0 sid hsid)
      (fun l cid hm => idAt_shape hfo0.shape _ 0 cid (hes l cid hm))
    refine ⟨g1, ss.edges.map (·.2), ?_, hcp ▸ idsOf_edges s ss.edges hes, hfo0.trans e2, ?_⟩
    · exact hcode _ _ e1
    · have : failStepLm t m s = (t.childPaths s).foldl (lmStep t s)
          (if t.hasOutput s then m.insert s .dead else m) := rfl
      rw [this, hcp]; exact e3

theorem loop0_lm_eq (l : List Nat) :
    ∀ q : Array Nat, NfaBuilder.build_fails_leftmost.loop0 l q = .ok (q ++ l) := by
  induction l with
  | nil => exact fun q => by rw [NfaBuilder.build_fails_leftmost.loop0, Array.appendList_nil]
  | cons x l ih => exact fun q => by rw [NfaBuilder.build_fails_leftmost.loop0, ih, Array.appendList_cons]

theorem build_fails_leftmost_refines (g : NfaBuilder V) (pth : Pth) (t : Trie V)
    (hrep : Rep g.states pth t 0 []) (hpd : pth Gen.deadStateId = none)
    (hfail0 : ∀ (i : Nat) (s : NfaBuilderState V), g.states[i]? = some s → s.fail = 0) :
    ∃ q g', NfaBuilder.build_fails_leftmost g = .ok (q, g') ∧ Passed g t (buildFailMap t true) q g' := by
  obtain ⟨s0, hs0, _⟩ := rep_get hrep
  obtain ⟨g', q', qi', f1, r⟩ := pass_refines trivial (entry_lm pth t hpd) g hrep hfail0 s0 hs0
  rw [buildFailMap_lm_eq]
  refine ⟨q', g', ?_, r⟩
  simp only [NfaBuilder.build_fails_leftmost, Gen.rootStateId, index_eq _ _ _ hs0, loop0_lm_eq,
    Rs.vecWithCapacity, f1]

end Daac.Tie.F
