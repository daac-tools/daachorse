/-
The layout pass of the byte-wise builder (`buildLayout .bytewise`, Model/Build.lean) yields a table
that mirrors the sparse NFA (`LayoutSem`, Proofs/LayoutIface.lean).

The DFS loop keeps `Inv`: every processed node (`done`) has a BASE, its children have an element
carrying their label as CHECK, and the helper's flags say exactly which elements and which BASE
values are taken. Blocks that have left the helper's window are no longer seen by `find_base`; the
sanitiser protects them (`VacOK`): a free element there never looks like a child of a node whose
BASE lies in its block. A block in which every BASE value is used needs no sanitising, by counting
(`all_occ_of_full`). `layoutSem_of_inv` reads `LayoutSem` off the invariant at the end.
-/
import Daac.Proofs.LayoutIface
import Daac.Proofs.HelperFacts
import Daac.Proofs.NfaQueue
import Daac.Proofs.NoFault
import Daac.Proofs.TrieFacts
import Daac.Proofs.BuildStages
namespace Daac.LayB
variable {V : Type}

theorem xor_div256 (a b : Nat) : (a ^^^ b) / 256 = a / 256 ^^^ b / 256 :=
  Nat.xor_div_two_pow (n := 8)

theorem xor_cancel_left (a b : Nat) : (a ^^^ b) ^^^ a = b := by
  rw [Nat.xor_comm a b, xor_cancel_right]

theorem xor_eq_iff (i ub c : Nat) : i = ub ^^^ c ↔ c = i ^^^ ub := by
  constructor
  · intro h; rw [h, xor_cancel_left]
  · intro h; rw [h, Nat.xor_comm, xor_cancel_right]

theorem xor_div_small {b c : Nat} (hc : c < 256) : (b ^^^ c) / 256 = b / 256 :=
  xor_div_pow b c 8 hc

theorem xor_lt_blocks {b c nb : Nat} (hc : c < 256) (hb : b < nb * 256) : b ^^^ c < nb * 256 := by
  rw [← Nat.div_lt_iff_lt_mul (by decide)] at hb ⊢
  rwa [xor_div_small hc]

theorem xor_lt_of_block {a b : Nat} (h : a / 256 = b / 256) : a ^^^ b < 256 := by
  have := xor_div256 a b
  rw [h, Nat.xor_self] at this
  exact (Nat.div_eq_zero_iff.1 this).resolve_left (by decide)

theorem block_of_xor_lt {a b : Nat} (h : a ^^^ b < 256) : a / 256 = b / 256 := by
  have := xor_div256 a b
  rw [Nat.div_eq_of_lt h] at this
  exact xor_eq_zero this.symm

/-- An injective self-map of `{0, …, n-1}` is surjective: if `k` were missed, the `n` distinct
values would all lie in `(range n).erase k`, which has `n - 1` elements. -/
theorem php_fun : ∀ (n : Nat) (f : Nat → Nat), (∀ i, i < n → f i < n) →
    (∀ i j, i < n → j < n → f i = f j → i = j) → ∀ k, k < n → ∃ i, i < n ∧ f i = k := by
  intro n f hlt hinj k hk
  apply Classical.byContradiction
  intro hno
  have := length_le_of_inj_into (List.range n) f ((List.range n).erase k) List.nodup_range
    (fun i hi => (List.mem_erase_of_ne fun e => hno ⟨i, List.mem_range.1 hi, e⟩).2
      (List.mem_range.2 (hlt i (List.mem_range.1 hi))))
    (fun i hi j hj e => hinj i j (List.mem_range.1 hi) (List.mem_range.1 hj) e)
  rw [List.length_erase_of_mem (List.mem_range.2 hk), List.length_range] at this
  exact absurd this (Nat.not_le_of_lt (Nat.sub_one_lt (Nat.ne_of_gt (Nat.zero_lt_of_lt hk))))

theorem php (n : Nat) (R : Nat → Nat → Prop) (tot : ∀ i, i < n → ∃ j, j < n ∧ R i j)
    (inj : ∀ i i' j, i < n → i' < n → j < n → R i j → R i' j → i = i') :
    ∀ j, j < n → ∃ i, i < n ∧ R i j := by
  have : ∀ i, ∃ j, i < n → (j < n ∧ R i j) := by
    intro i
    by_cases hi : i < n
    · obtain ⟨j, a, b⟩ := tot i hi; exact ⟨j, fun _ => ⟨a, b⟩⟩
    · exact ⟨0, fun h => absurd h hi⟩
  obtain ⟨f, hf⟩ := Classical.axiomOfChoice this
  intro j hj
  obtain ⟨i, hi, e⟩ := php_fun n f (fun i hi => (hf i hi).1)
    (fun i i' hi hi' e => inj i i' (f i) hi hi' (hf i hi).1 (hf i hi).2 (by rw [e]; exact (hf i' hi').2))
    j hj
  exact ⟨i, hi, by rw [← e]; exact (hf i hi).2⟩

def gs (s : Array St) (j : Nat) : St := s.getD j stDefaultB

theorem gs_append_default (s : Array St) (n : Nat) :
    gs (s ++ Array.replicate n stDefaultB) = gs s := by
  funext j
  unfold gs
  simp only [Array.getD_eq_getD_getElem?, Array.getElem?_append, Array.getElem?_replicate]
  split
  · rfl
  · rename_i h
    rw [Array.getElem?_eq_none (Nat.le_of_not_lt h)]
    split <;> rfl

theorem gs_replicate (n j : Nat) : gs (Array.replicate n stDefaultB) j = stDefaultB := by
  unfold gs
  simp only [Array.getD_eq_getD_getElem?, Array.getElem?_replicate]
  split <;> rfl

theorem setSt_ok {s s' : Array St} {i : Nat} {f : St → St} (e : setSt s i f = .ok s') :
    i < s.size ∧ s'.size = s.size ∧ gs s' i = f (gs s i) ∧ ∀ j, j ≠ i → gs s' j = gs s j := by
  obtain ⟨hi, hsz, hg⟩ := setSt_getD e stDefaultB
  exact ⟨hi, hsz, (hg i).trans (if_pos rfl), fun j hj => (hg j).trans (if_neg (Ne.symm hj))⟩

theorem st_ok (da : DA V) {i : Nat} (h : i < da.states.size) : da.st i = .ok (gs da.states i) := by
  unfold DA.st gs
  simp [Array.getD_eq_getD_getElem?, h]

/-- The sanitiser's vacancy test. -/
def vac (h : Helper) (j : Nat) : Prop := j = 0 ∨ j = 1 ∨ h.usedI j = false

instance (h : Helper) (j : Nat) : Decidable (vac h j) := by unfold vac; infer_instance

theorem rootIdx_eq : rootIdx = 0 := rfl
theorem deadIdx_eq : deadIdx = 1 := rfl

theorem vacTest_ok {h : Helper} {i : Nat} {r : Bool}
    (e : (if i = 0 ∨ i = 1 then (Except.ok true : Except BuildErr Bool) else
      match h.isUsedIndex i with
      | .error e => .error e
      | .ok u => .ok (!u)) = .ok r) : r = true ↔ vac h i := by
  unfold vac
  split at e
  · rename_i h01
    cases e
    exact ⟨fun _ => h01.elim Or.inl fun a => Or.inr (Or.inl a), fun _ => rfl⟩
  · rename_i h01
    split at e
    · cases e
    · rename_i u eu
      cases e
      rw [← (Helper.isUsedIndex_ok.1 eu).2]
      constructor
      · intro hu; exact Or.inr (Or.inr (by rw [← Bool.not_eq_true', hu]))
      · rintro (a | a | a)
        · exact absurd (Or.inl a) h01
        · exact absurd (Or.inr a) h01
        · rw [a]; rfl

theorem sanitiseLoop_succ {h : Helper} {ub n c : Nat} {s s' : Array St}
    (e : sanitiseLoop h ub (n + 1) c s = .ok s') :
    ∃ s1, sanitiseLoop h ub n (c + 1) s1 = .ok s' ∧ s1.size = s.size ∧
      ∀ j, gs s1 j = if j = ub ^^^ c ∧ vac h j then { gs s j with check := c } else gs s j := by
  generalize hk : n + 1 = k at e
  revert e
  fun_cases sanitiseLoop h ub k c s <;> intro e
  case case3 _ _ _ hvac =>
    cases hk
    have hnv : ¬ vac h (ub ^^^ c) := fun hh => Bool.noConfusion ((vacTest_ok hvac).2 hh)
    refine ⟨s, e, rfl, fun j => ?_⟩
    rw [if_neg]
    rintro ⟨rfl, hv⟩
    exact hnv hv
  case case5 _ s1 _ _ hvac e1 =>
    cases hk
    have hv := (vacTest_ok hvac).1 rfl
    obtain ⟨_, sz1, hi, ho⟩ := setSt_ok e1
    refine ⟨s1, e, sz1, fun j => ?_⟩
    by_cases hj : j = ub ^^^ c
    · subst hj; rw [if_pos ⟨rfl, hv⟩, hi]
    · rw [if_neg (fun hh => hj hh.1), ho j hj]
  case case1 => cases hk
  all_goals cases e

theorem sanitiseLoop_spec (h : Helper) (ub : Nat) : ∀ (n c : Nat) (s s' : Array St),
    sanitiseLoop h ub n c s = .ok s' →
    s'.size = s.size ∧ ∀ j, gs s' j =
      if c ≤ (j ^^^ ub) ∧ (j ^^^ ub) < c + n ∧ vac h j then { gs s j with check := j ^^^ ub }
      else gs s j := by
  intro n
  induction n with
  | zero =>
    intro c s s' e
    unfold sanitiseLoop at e
    cases e
    exact ⟨rfl, fun j => (if_neg fun hh => Nat.not_lt_of_le hh.1 hh.2.1).symm⟩
  | succ n ih =>
    intro c s s' e
    obtain ⟨s1, e1, sz1, h1⟩ := sanitiseLoop_succ e
    obtain ⟨sz, hs⟩ := ih (c + 1) s1 s' e1
    refine ⟨sz.trans sz1, fun j => ?_⟩
    rw [hs j, h1 j]
    by_cases hx : j ^^^ ub = c
    · -- the element written in this round: later rounds leave it alone
      have hj : j = ub ^^^ c := (xor_eq_iff j ub c).2 hx.symm
      have later : ¬ (c + 1 ≤ j ^^^ ub ∧ j ^^^ ub < c + 1 + n ∧ vac h j) :=
        fun hh => Nat.not_succ_le_self c (hx ▸ hh.1)
      have here : c ≤ j ^^^ ub ∧ j ^^^ ub < c + (n + 1) := by
        rw [hx]; exact ⟨Nat.le_refl c, Nat.lt_add_of_pos_right n.succ_pos⟩
      rw [if_neg later]
      exact ite_congr (propext ⟨fun hh => ⟨here.1, here.2, hh.2⟩, fun hh => ⟨hj, hh.2.2⟩⟩)
        (fun _ => by rw [hx]) (fun _ => rfl)
    · have now : ¬ (j = ub ^^^ c ∧ vac h j) := fun hh => hx ((xor_eq_iff j ub c).1 hh.1).symm
      have shift : (c + 1 ≤ j ^^^ ub ∧ j ^^^ ub < c + 1 + n) ↔
          (c ≤ j ^^^ ub ∧ j ^^^ ub < c + (n + 1)) := by omega
      rw [if_neg now]
      exact ite_congr (propext ⟨fun hh => ⟨(shift.1 ⟨hh.1, hh.2.1⟩).1, (shift.1 ⟨hh.1, hh.2.1⟩).2, hh.2.2⟩,
        fun hh => ⟨(shift.2 ⟨hh.1, hh.2.1⟩).1, (shift.2 ⟨hh.1, hh.2.1⟩).2, hh.2.2⟩⟩)
        (fun _ => rfl) (fun _ => rfl)

theorem block_iff {j B : Nat} : j / 256 = B ↔ B * 256 ≤ j ∧ j < (B + 1) * 256 := by
  rw [← Nat.le_div_iff_mul_le (by decide), ← Nat.div_lt_iff_lt_mul (by decide), Nat.lt_succ_iff]
  exact ⟨fun e => ⟨Nat.le_of_eq e.symm, Nat.le_of_eq e⟩, fun hh => Nat.le_antisymm hh.2 hh.1⟩

theorem removeInvalidChecks_spec {s s' : Array St} {h : Helper} {B : Nat} (hbl : h.blockLen = 256)
    (e : removeInvalidChecks s h B = .ok s') :
    s'.size = s.size ∧
    ((s' = s ∧ ∀ b, b / 256 = B → h.Active b ∧ h.usedB b = true) ∨
     (∃ ub, ub / 256 = B ∧ h.Active ub ∧ h.usedB ub = false ∧
        ∀ j, gs s' j = if j / 256 = B ∧ vac h j then { gs s j with check := j ^^^ ub } else gs s j)) := by
  revert e
  fun_cases removeInvalidChecks s h B <;> intro e
  case case1 => cases e
  case case2 hn =>
    obtain rfl := Except.ok.inj e
    refine ⟨rfl, Or.inl ⟨rfl, fun b hb => ?_⟩⟩
    have := block_iff.1 hb
    rw [← hbl] at this
    exact Helper.unusedBaseInBlock_none hn b this.1 this.2
  case case3 ub hub =>
    obtain ⟨lo, hi, act, un, _⟩ := Helper.unusedBaseInBlock_ok hub
    rw [hbl] at lo hi
    have hB : ub / 256 = B := block_iff.2 ⟨lo, hi⟩
    obtain ⟨sz, hs⟩ := sanitiseLoop_spec h ub 256 0 s s' e
    refine ⟨sz, Or.inr ⟨ub, hB, act, un, fun j => ?_⟩⟩
    rw [hs j]
    -- `j ^^^ ub` is one of the 256 labels iff `j` lies in the block of `ub`
    have hblk : j ^^^ ub < 256 ↔ j / 256 = B :=
      ⟨fun hh => (block_of_xor_lt hh).trans hB, fun hj => xor_lt_of_block (hj.trans hB.symm)⟩
    rw [Nat.zero_add]
    exact ite_congr (propext ⟨fun hh => ⟨hblk.1 hh.2.1, hh.2.2⟩,
      fun hh => ⟨Nat.zero_le _, hblk.2 hh.1, hh.2⟩⟩) (fun _ => rfl) (fun _ => rfl)

def HasKid (t : Trie V) (u : List Nat) : Prop := ∃ c, t.hasNode (u ++ [c]) = true

/-- Nodes that have an element: the root and the children of the processed nodes. -/
def Pl (t : Trie V) (done : List (List Nat)) (w : List Nat) : Prop :=
  w = [] ∨ ∃ p c, w = p ++ [c] ∧ p ∈ done ∧ t.hasNode w = true

/-- Elements occupied by a non-root node. -/
def Occ (t : Trie V) (done : List (List Nat)) (ix : List Nat → Nat) (j : Nat) : Prop :=
  ∃ p c, p ∈ done ∧ t.hasNode (p ++ [c]) = true ∧ ix (p ++ [c]) = j

def IsBase (done : List (List Nat)) (ix : List Nat → Nat) (st : Nat → St) (b : Nat) : Prop :=
  ∃ u, u ∈ done ∧ (st (ix u)).base = b

/-- A non-occupied element cannot be mistaken for a child of a node whose BASE lies in its block. -/
def VacOK (t : Trie V) (done : List (List Nat)) (ix : List Nat → Nat) (st : Nat → St) (j : Nat) :
    Prop :=
  ¬ Occ t done ix j → ∀ b, IsBase done ix st b → b / 256 = j / 256 → (st j).check ≠ j ^^^ b

structure Inv (t : Trie V) (done stack : List (List Nat)) (ix : List Nat → Nat) (st : Nat → St)
    (n : Nat) (h : Helper) : Prop where
  wf : h.WF
  bl : h.blockLen = 256
  size : n = h.numBlocks * 256
  nbpos : 0 < h.numBlocks
  root : ix [] = 0
  lt : ∀ w, Pl t done w → ix w < n
  inj : ∀ w w', Pl t done w → Pl t done w' → ix w = ix w' → w = w'
  ne1 : ∀ w, Pl t done w → ix w ≠ 1
  usedI : ∀ j, h.Active j → (h.usedI j = true ↔ (j = 0 ∨ j = 1 ∨ Occ t done ix j))
  check : ∀ p c, p ∈ done → t.hasNode (p ++ [c]) = true → (st (ix (p ++ [c]))).check = c
  base0 : ∀ j, (st j).base ≠ 0 → ∃ u, u ∈ done ∧ ix u = j
  baseK : ∀ u, u ∈ done → (st (ix u)).base ≠ 0 ∧ (st (ix u)).base < n ∧
      ∀ c, t.hasNode (u ++ [c]) = true → ix (u ++ [c]) = (st (ix u)).base ^^^ c
  usedB : ∀ b, h.Active b → (h.usedB b = true ↔ IsBase done ix st b)
  baseInj : ∀ u u', u ∈ done → u' ∈ done → (st (ix u)).base = (st (ix u')).base → u = u'
  closed : ∀ j, j / 256 < h.activeStart → VacOK t done ix st j
  doneKid : ∀ u, u ∈ done → HasKid t u
  donePl : ∀ u, u ∈ done → Pl t done u
  stackPl : ∀ u, u ∈ stack → Pl t done u
  stackND : stack.Nodup
  stackDone : ∀ u, u ∈ stack → u ∉ done
  cover : ∀ w, Pl t done w → w ∈ done ∨ w ∈ stack ∨ ¬ HasKid t w

theorem Pl.node {t : Trie V} {done : List (List Nat)} {w : List Nat} (h : Pl t done w) :
    t.hasNode w = true := by
  rcases h with rfl | ⟨p, c, _, _, hn⟩
  · exact Trie.hasNode_nil t
  · exact hn

theorem Pl.kid {t : Trie V} {done : List (List Nat)} {p : List Nat} {c : Nat} (hp : p ∈ done)
    (hn : t.hasNode (p ++ [c]) = true) : Pl t done (p ++ [c]) :=
  Or.inr ⟨p, c, rfl, hp, hn⟩

theorem Pl.cons {t : Trie V} {done : List (List Nat)} {u w : List Nat} (pl : Pl t done w) :
    Pl t (u :: done) w :=
  pl.imp id fun ⟨p, c, e, hp, hn⟩ => ⟨p, c, e, List.mem_cons_of_mem _ hp, hn⟩

theorem Pl.cons_cases {t : Trie V} {done : List (List Nat)} {u w : List Nat}
    (pl : Pl t (u :: done) w) :
    Pl t done w ∨ ∃ c, w = u ++ [c] ∧ t.hasNode (u ++ [c]) = true := by
  rcases pl with e | ⟨p, c, rfl, hp, hn⟩
  · exact Or.inl (Or.inl e)
  · rcases List.mem_cons.1 hp with rfl | hp
    · exact Or.inr ⟨c, rfl, hn⟩
    · exact Or.inl (Pl.kid hp hn)

theorem nodup_reverse' {α} {l : List α} (h : l.Nodup) : l.reverse.Nodup := by
  rw [List.Nodup, List.pairwise_reverse]
  exact List.Pairwise.imp (fun hab => Ne.symm hab) h

theorem snoc_inj {α} {p q : List α} {c d : α} (h : p ++ [c] = q ++ [d]) : p = q ∧ c = d := by
  have := List.append_inj' h rfl
  exact ⟨this.1, by simpa using this.2⟩

/-- Whether an index is in the active window depends on its block only. -/
theorem _root_.Daac.active_iff_div {h : Helper} (hpos : 0 < h.blockLen) (j : Nat) :
    h.Active j ↔ h.activeStart ≤ j / h.blockLen ∧ j / h.blockLen < h.numBlocks := by
  unfold Helper.Active
  rw [Nat.le_div_iff_mul_le hpos, Nat.div_lt_iff_lt_mul hpos]

theorem active_iff_div {h : Helper} (hbl : h.blockLen = 256) (j : Nat) :
    h.Active j ↔ h.activeStart ≤ j / 256 ∧ j / 256 < h.numBlocks := by
  rw [Daac.active_iff_div (by rw [hbl]; decide), hbl]

section InvFacts
variable {t : Trie V} {done stack : List (List Nat)} {ix : List Nat → Nat} {st : Nat → St}
  {n : Nat} {h : Helper} (inv : Inv t done stack ix st n h)
include inv

theorem Inv.occ {j : Nat} (ho : Occ t done ix j) :
    j ≠ 0 ∧ j ≠ 1 ∧ j < n := by
  obtain ⟨p, c, hp, hn, rfl⟩ := ho
  have pl := Pl.kid hp hn
  refine ⟨?_, inv.ne1 _ pl, inv.lt _ pl⟩
  intro e
  have := inv.inj _ _ pl (Or.inl rfl) (e.trans inv.root.symm)
  exact snoc_ne_nil _ _ this

theorem Inv.active_lt {j : Nat} (a : h.Active j) : j < n := by
  have := a.2
  rwa [inv.bl, ← inv.size] at this

theorem Inv.active_block {B j : Nat} (hlo : h.activeStart ≤ B)
    (hhi : B < h.numBlocks) (hj : j / 256 = B) : h.Active j := by
  rw [active_iff_div inv.bl, hj]
  exact ⟨hlo, hhi⟩

theorem Inv.isBase_lt {b : Nat} (hb : IsBase done ix st b) :
    b ≠ 0 ∧ b < n := by
  obtain ⟨u, hu, rfl⟩ := hb
  exact ⟨(inv.baseK u hu).1, (inv.baseK u hu).2.1⟩

theorem Inv.free_fresh {j : Nat} (a : h.Active j)
    (hf : h.usedI j = false) : j ≠ 0 ∧ j ≠ 1 ∧ ¬ Occ t done ix j ∧ ∀ w, Pl t done w → ix w ≠ j := by
  have hn : ¬ (j = 0 ∨ j = 1 ∨ Occ t done ix j) := fun z =>
    Bool.noConfusion (hf.symm.trans ((inv.usedI j a).2 z))
  refine ⟨fun e => hn (Or.inl e), fun e => hn (Or.inr (Or.inl e)), fun e => hn (Or.inr (Or.inr e)),
    fun w pl e => ?_⟩
  rcases pl with rfl | ⟨p, c, rfl, hp, hc⟩
  · exact hn (Or.inl (e.symm.trans inv.root))
  · exact hn (Or.inr (Or.inr ⟨p, c, hp, hc, e⟩))

theorem Inv.vac_iff {j : Nat} (a : h.Active j) :
    vac h j ↔ ¬ Occ t done ix j := by
  constructor
  · rintro (z | z | z) ho
    · exact (inv.occ ho).1 z
    · exact (inv.occ ho).2.1 z
    · exact (inv.free_fresh a z).2.2.1 ho
  · intro ho
    cases hI : h.usedI j with
    | false => exact Or.inr (Or.inr hI)
    | true =>
      rcases (inv.usedI j a).1 hI with z | z | z
      · exact Or.inl z
      · exact Or.inr (Or.inl z)
      · exact absurd z ho

theorem Inv.congr {st' : Nat → St}
    (hbase : ∀ j, (st' j).base = (st j).base)
    (hocc : ∀ j, Occ t done ix j → (st' j).check = (st j).check)
    (hcl : ∀ j, j / 256 < h.activeStart → (st' j).check = (st j).check) :
    Inv t done stack ix st' n h := by
  have hib : ∀ b, IsBase done ix st' b ↔ IsBase done ix st b := by
    intro b
    constructor
    · rintro ⟨u, hu, e⟩; exact ⟨u, hu, by rw [← hbase]; exact e⟩
    · rintro ⟨u, hu, e⟩; exact ⟨u, hu, by rw [hbase]; exact e⟩
  refine { inv with check := ?_, base0 := ?_, baseK := ?_, usedB := ?_, baseInj := ?_, closed := ?_ }
  · intro p c hp hn
    rw [hocc _ ⟨p, c, hp, hn, rfl⟩]; exact inv.check p c hp hn
  · intro j hj; rw [hbase] at hj; exact inv.base0 j hj
  · intro u hu; rw [hbase]; exact inv.baseK u hu
  · intro b a; rw [hib]; exact inv.usedB b a
  · intro u u' hu hu' e; rw [hbase, hbase] at e; exact inv.baseInj u u' hu hu' e
  · intro j hj ho b hb hblk
    rw [hcl j hj]
    exact inv.closed j hj ho b ((hib b).1 hb) hblk

end InvFacts

section Sanitise
variable {t : Trie V} {done stack : List (List Nat)} {ix : List Nat → Nat} {n : Nat} {h : Helper}

theorem block_offset {b B : Nat} : b / 256 = B ↔ ∃ i, i < 256 ∧ b = B * 256 + i := by
  constructor
  · rintro rfl
    exact ⟨b % 256, Nat.mod_lt _ (by decide), by rw [Nat.mul_comm]; exact (Nat.div_add_mod b 256).symm⟩
  · rintro ⟨i, hi, rfl⟩
    rw [Nat.mul_comm, Nat.mul_add_div (by decide), Nat.div_eq_of_lt hi, Nat.add_zero]

/-- The counting argument: if all 256 BASE values of a block are used, all its elements are
occupied (every such BASE owns a child slot in the block, and slots are pairwise distinct). -/
theorem all_occ_of_full {st : Nat → St} (hbytes : ∀ u, t.hasNode u = true → ∀ c ∈ u, c < 256)
    (inv : Inv t done stack ix st n h) {B : Nat}
    (hfull : ∀ b, b / 256 = B → h.Active b ∧ h.usedB b = true) :
    ∀ j, j / 256 = B → Occ t done ix j := by
  let R : Nat → Nat → Prop := fun i j' => ∃ u c, u ∈ done ∧ t.hasNode (u ++ [c]) = true ∧
    (st (ix u)).base = B * 256 + i ∧ ix (u ++ [c]) = B * 256 + j'
  have tot : ∀ i, i < 256 → ∃ j', j' < 256 ∧ R i j' := by
    intro i hi
    have hb : (B * 256 + i) / 256 = B := block_offset.2 ⟨i, hi, rfl⟩
    obtain ⟨a, ub⟩ := hfull _ hb
    obtain ⟨u, hu, eb⟩ := (inv.usedB _ a).1 ub
    obtain ⟨c, hc⟩ := inv.doneKid u hu
    have e1 := (inv.baseK u hu).2.2 c hc
    rw [eb] at e1
    obtain ⟨j', hj', ej⟩ := block_offset.1 ((xor_div_small (hbytes _ hc c (by simp))).trans hb)
    exact ⟨j', hj', u, c, hu, hc, eb, e1.trans ej⟩
  have inj : ∀ i i' j', i < 256 → i' < 256 → j' < 256 → R i j' → R i' j' → i = i' := by
    rintro i i' j' _ _ _ ⟨u, c, hu, hc, eb, ej⟩ ⟨u', c', hu', hc', eb', ej'⟩
    have := (snoc_inj (inv.inj _ _ (Pl.kid hu hc) (Pl.kid hu' hc') (ej.trans ej'.symm))).1
    subst this
    exact Nat.add_left_cancel (eb.symm.trans eb')
  intro j hj
  obtain ⟨j', hj', rfl⟩ := block_offset.1 hj
  obtain ⟨i, _, u, c, hu, hc, _, ej⟩ := php 256 R tot inj j' hj'
  exact ⟨u, c, hu, hc, ej⟩

theorem sanitise_block {s s' : Array St} (hbytes : ∀ u, t.hasNode u = true → ∀ c ∈ u, c < 256)
    (inv : Inv t done stack ix (gs s) n h) {B : Nat} (hlo : h.activeStart ≤ B)
    (hhi : B < h.numBlocks) (e : removeInvalidChecks s h B = .ok s') :
    s'.size = s.size ∧ Inv t done stack ix (gs s') n h ∧
    (∀ j, j / 256 = B → VacOK t done ix (gs s') j) ∧
    (∀ j, j / 256 ≠ B → gs s' j = gs s j) ∧
    (∀ j, (gs s' j).base = (gs s j).base ∧ (gs s' j).fail = (gs s j).fail ∧
      (gs s' j).opos = (gs s j).opos) := by
  obtain ⟨sz, hcase⟩ := removeInvalidChecks_spec inv.bl e
  rcases hcase with ⟨rfl, hfull⟩ | ⟨ub, hub, aub, uub, hs⟩
  · refine ⟨rfl, inv, ?_, fun _ _ => rfl, fun _ => ⟨rfl, rfl, rfl⟩⟩
    intro j hj ho
    exact absurd (all_occ_of_full hbytes inv hfull j hj) ho
  · have hfr : ∀ j, (gs s' j).base = (gs s j).base ∧ (gs s' j).fail = (gs s j).fail ∧
        (gs s' j).opos = (gs s j).opos := by
      intro j; rw [hs j]; split <;> exact ⟨rfl, rfl, rfl⟩
    have hoth : ∀ j, j / 256 ≠ B → gs s' j = gs s j := by
      intro j hj; rw [hs j, if_neg (fun hh => hj hh.1)]
    have hocc : ∀ j, Occ t done ix j → gs s' j = gs s j := by
      intro j ho
      rw [hs j, if_neg]
      rintro ⟨hj, hv⟩
      exact (inv.vac_iff (inv.active_block hlo hhi hj)).1 hv ho
    have inv' : Inv t done stack ix (gs s') n h := by
      apply inv.congr (fun j => (hfr j).1) (fun j ho => by rw [hocc j ho])
      intro j hj
      rw [hoth j (Nat.ne_of_lt (Nat.lt_of_lt_of_le hj hlo))]
    refine ⟨sz, inv', ?_, hoth, hfr⟩
    intro j hj ho b hb hblk
    rw [hs j, if_pos ⟨hj, (inv.vac_iff (inv.active_block hlo hhi hj)).2 ho⟩]
    -- XOR with `j` is injective, and the BASE `b` is used while `ub` is not
    intro hh
    cases xor_left_inj (show j ^^^ ub = j ^^^ b from hh)
    exact Bool.noConfusion (uub.symm.trans ((inv'.usedB _ (inv.active_block hlo hhi hub)).2 hb))

theorem VacOK.congr {st st' : Nat → St} {j : Nat} (hbase : ∀ x, (st' x).base = (st x).base)
    (hchk : (st' j).check = (st j).check) (v : VacOK t done ix st j) : VacOK t done ix st' j := by
  intro ho b hb hblk
  rw [hchk]
  apply v ho b _ hblk
  obtain ⟨u, hu, e⟩ := hb
  exact ⟨u, hu, by rw [← hbase]; exact e⟩

theorem sanitiseBlocks_spec (hbytes : ∀ u, t.hasNode u = true → ∀ c ∈ u, c < 256) :
    ∀ (k B : Nat) (s s' : Array St), Inv t done stack ix (gs s) n h → h.activeStart ≤ B →
      B + k ≤ h.numBlocks →
      (∀ j, h.activeStart ≤ j / 256 → j / 256 < B → VacOK t done ix (gs s) j) →
      sanitiseBlocks h k B s = .ok s' →
      s'.size = s.size ∧ Inv t done stack ix (gs s') n h ∧
      (∀ j, h.activeStart ≤ j / 256 → j / 256 < B + k → VacOK t done ix (gs s') j) ∧
      (∀ j, (gs s' j).base = (gs s j).base ∧ (gs s' j).fail = (gs s j).fail ∧
        (gs s' j).opos = (gs s j).opos) := by
  intro k B s s'
  fun_induction sanitiseBlocks h k B s <;> intro inv hlo hhi hv e
  case case1 => cases e; exact ⟨rfl, inv, hv, fun _ => ⟨rfl, rfl, rfl⟩⟩
  case case2 => cases e
  case case3 k B _ s1 e1 ih =>
    have hB : B < h.numBlocks := Nat.lt_of_lt_of_le (Nat.lt_add_of_pos_right k.succ_pos) hhi
    obtain ⟨sz1, inv1, hv1, hoth, hfr⟩ := sanitise_block hbytes inv hlo hB e1
    have hv' : ∀ j, h.activeStart ≤ j / 256 → j / 256 < B + 1 → VacOK t done ix (gs s1) j := by
      intro j lo hi
      rcases Nat.lt_or_eq_of_le (Nat.le_of_lt_succ hi) with lt | eq
      · exact (hv j lo lt).congr (fun x => (hfr x).1) (by rw [hoth j (Nat.ne_of_lt lt)])
      · exact hv1 j eq
    have eK : B + 1 + k = B + (k + 1) := Nat.add_right_comm B 1 k
    obtain ⟨q1, q2, q3, q4⟩ := ih inv1 (Nat.le_succ_of_le hlo) (eK ▸ hhi) hv' e
    refine ⟨q1.trans sz1, q2, fun j lo hi => q3 j lo (eK ▸ hi), fun j => ?_⟩
    obtain ⟨a1, a2, a3⟩ := q4 j
    obtain ⟨b1, b2, b3⟩ := hfr j
    exact ⟨a1.trans b1, a2.trans b2, a3.trans b3⟩

theorem pushBlock256 {h h' : Helper} (wf : h.WF) (hbl : h.blockLen = 256)
    (e : h.pushBlock = .ok h') :
    h'.WF ∧ h'.blockLen = 256 ∧ h'.numBlocks = h.numBlocks + 1 ∧
    h'.activeStart = h.numBlocks + 1 - h.nfb ∧
    (∀ j, h'.Active j → j < h.numBlocks * 256 →
      h.Active j ∧ h'.usedI j = h.usedI j ∧ h'.usedB j = h.usedB j) ∧
    (∀ j, h'.Active j → h.numBlocks * 256 ≤ j → h'.usedI j = false ∧ h'.usedB j = false) ∧
    h'.Active (h.numBlocks * 256) := by
  obtain ⟨nb, bl, nfb, wf', fresh, old⟩ := Helper.pushBlock_ok wf e
  rw [hbl] at fresh old bl
  have eA' : h'.activeStart = h.numBlocks + 1 - h.nfb := by unfold Helper.activeStart; rw [nb, nfb]
  have act' : ∀ j, h'.Active j ↔ (h.numBlocks + 1 - h.nfb) * 256 ≤ j ∧ j < (h.numBlocks + 1) * 256 := by
    intro j; unfold Helper.Active; rw [eA', bl, nb]
  have shift := wf.shift_le
  rw [hbl] at shift
  refine ⟨wf', bl, nb, eA', fun j a lt => ?_, fun j a le => ?_, ?_⟩
  · obtain ⟨eI, eB⟩ := old j a lt
    rw [act'] at a
    refine ⟨?_, eI, eB⟩
    unfold Helper.Active
    rw [hbl]
    exact ⟨Nat.le_trans shift.1 a.1, lt⟩
  · rw [act'] at a
    exact fresh j le a.2
  · exact (act' _).2 ⟨shift.2, (Nat.mul_lt_mul_right (by decide)).2 (Nat.lt_succ_self _)⟩

theorem droppedBlock_eq {h : Helper} (wf : h.WF) :
    h.droppedBlock = if h.nfb ≤ h.numBlocks then some h.activeStart else none := by
  unfold Helper.droppedBlock
  simp only [wf.full_iff]

theorem Inv.push {st : Nat → St} (inv : Inv t done stack ix st n h) {h' : Helper}
    (e : h.pushBlock = .ok h')
    (hcl : ∀ j, j / 256 < h'.activeStart → VacOK t done ix st j) :
    Inv t done stack ix st (n + 256) h' ∧ h'.usedB n = false := by
  obtain ⟨wf', bl', nb', _, old, fresh, an⟩ := pushBlock256 inv.wf inv.bl e
  rw [← inv.size] at old fresh an
  refine ⟨{ inv with
    wf := wf', bl := bl', size := ?_, nbpos := ?_, lt := ?_
    usedI := ?_, baseK := ?_, usedB := ?_, closed := hcl }, (fresh n an (Nat.le_refl n)).2⟩
  · rw [nb', Nat.add_mul, ← inv.size]
  · rw [nb']; exact Nat.succ_pos _
  · intro w pl; exact Nat.lt_add_right 256 (inv.lt w pl)
  · intro j a
    by_cases lt : j < n
    · obtain ⟨a0, eI, _⟩ := old j a lt
      rw [eI]; exact inv.usedI j a0
    · -- nothing lives beyond the old array
      rw [(fresh j a (Nat.le_of_not_lt lt)).1]
      refine ⟨fun hh => Bool.noConfusion hh, ?_⟩
      have n2 : 2 ≤ n := inv.size ▸ Nat.le_trans (by decide : 2 ≤ 1 * 256) (Nat.mul_le_mul_right 256 inv.nbpos)
      rintro (rfl | rfl | z)
      · exact absurd (Nat.lt_of_lt_of_le (by decide) n2) lt
      · exact absurd (Nat.lt_of_lt_of_le (by decide) n2) lt
      · exact absurd (inv.occ z).2.2 lt
  · intro u hu
    obtain ⟨a, b, c⟩ := inv.baseK u hu
    exact ⟨a, Nat.lt_add_right 256 b, c⟩
  · intro b a
    by_cases lt : b < n
    · obtain ⟨a0, _, eB⟩ := old b a lt
      rw [eB]; exact inv.usedB b a0
    · rw [(fresh b a (Nat.le_of_not_lt lt)).2]
      exact ⟨fun hh => Bool.noConfusion hh, fun z => absurd (inv.isBase_lt z).2 lt⟩

theorem extend_inv (hbytes : ∀ u, t.hasNode u = true → ∀ c ∈ u, c < 256) {lay lay1 : Lay}
    (inv : Inv t done stack ix (gs lay.states) lay.states.size lay.h)
    (e : extendArray .bytewise lay = .ok lay1) :
    Inv t done stack ix (gs lay1.states) lay1.states.size lay1.h ∧ lay1.idx = lay.idx ∧
    lay1.h.usedB lay.states.size = false := by
  obtain ⟨s1, h', es, ep, rfl⟩ := extendArray_ok e
  have eA' := (pushBlock256 inv.wf inv.bl ep).2.2.2.1
  rw [droppedBlock_eq inv.wf] at es
  simp only [stDefault, gs_append_default, Array.size_append, Array.size_replicate, inv.bl]
  -- the block that leaves the window (if any) has just been sanitised
  have key : s1.size = lay.states.size ∧ Inv t done stack ix (gs s1) lay.states.size lay.h ∧
      ∀ j, j / 256 < h'.activeStart → VacOK t done ix (gs s1) j := by
    by_cases hle : lay.h.nfb ≤ lay.h.numBlocks
    · rw [if_pos hle] at es
      obtain ⟨sz, inv1, hv, _⟩ :=
        sanitise_block hbytes inv (Nat.le_refl _) (Nat.sub_lt_of_pos_le inv.wf.nfb_pos hle) es
      have eA : h'.activeStart = lay.h.activeStart + 1 := eA'.trans (Nat.sub_add_comm hle)
      refine ⟨sz, inv1, fun j hj => ?_⟩
      rw [eA] at hj
      rcases Nat.lt_or_eq_of_le (Nat.le_of_lt_succ hj) with lt | eq
      · exact inv1.closed j lt
      · exact hv j eq
    · rw [if_neg hle] at es
      obtain rfl : lay.states = s1 := Except.ok.inj es
      have eA : h'.activeStart = 0 :=
        eA'.trans (Nat.sub_eq_zero_of_le (Nat.succ_le_of_lt (Nat.lt_of_not_le hle)))
      exact ⟨rfl, inv, fun j hj => absurd hj (eA ▸ Nat.not_lt_zero _)⟩
  obtain ⟨sz, inv1, hcl⟩ := key
  obtain ⟨i1, i2⟩ := inv1.push ep hcl
  rw [sz]
  exact ⟨i1, trivial, i2⟩

end Sanitise

structure PCSpec (base : Nat) (edges : List (Nat × List Nat)) (lay lay' : Lay) : Prop where
  wf : lay'.h.WF
  bl : lay'.h.blockLen = lay.h.blockLen
  nfb : lay'.h.nfb = lay.h.nfb
  nb : lay'.h.numBlocks = lay.h.numBlocks
  usedB : ∀ j, lay'.h.usedB j = lay.h.usedB j
  size : lay'.states.size = lay.states.size
  slot : ∀ e ∈ edges, lay.h.Active (base ^^^ e.1) ∧ lay.h.usedI (base ^^^ e.1) = false ∧
    base ^^^ e.1 < lay.states.size
  usedNew : ∀ e ∈ edges, lay'.h.usedI (base ^^^ e.1) = true
  usedOld : ∀ j, lay.h.Active j → (∀ e ∈ edges, base ^^^ e.1 ≠ j) → lay'.h.usedI j = lay.h.usedI j
  stNew : ∀ e ∈ edges,
    gs lay'.states (base ^^^ e.1) = { gs lay.states (base ^^^ e.1) with check := e.1 }
  stOld : ∀ j, (∀ e ∈ edges, base ^^^ e.1 ≠ j) → gs lay'.states j = gs lay.states j
  ixNew : ∀ e ∈ edges, lay'.idx.getD e.2 deadIdx = base ^^^ e.1
  ixOld : ∀ w, w ∉ edges.map (·.2) → lay'.idx.getD w deadIdx = lay.idx.getD w deadIdx

theorem placeChildren_spec (sidx base : Nat) (edges : List (Nat × List Nat)) (lay lay' : Lay)
    (wf : lay.h.WF) (nd : (edges.map (·.2)).Nodup)
    (e : placeChildren .bytewise sidx base edges lay = .ok lay') : PCSpec base edges lay lay' := by
  revert wf nd e
  fun_induction placeChildren .bytewise sidx base edges lay <;> intro wf nd e
  case case1 =>
    cases e
    exact
      { wf := wf, bl := rfl, nfb := rfl, nb := rfl, usedB := fun _ => rfl, size := rfl
        slot := fun e he => (by cases he), usedNew := fun e he => (by cases he)
        usedOld := fun _ _ _ => rfl, stNew := fun e he => (by cases he), stOld := fun _ _ => rfl
        ixNew := fun e he => (by cases he), ixOld := fun _ _ => rfl }
  case case2 => cases e
  case case3 => cases e
  case case4 c child rest _ _ _ eu _ _ es ih =>
    obtain ⟨a, uf, ut, ifr, bfr, ebl, enfb, enb, wf1⟩ := Helper.useIndex_ok wf eu
    obtain ⟨ilt, sz1, hi, ho⟩ := setSt_ok es
    rw [List.map_cons, List.nodup_cons] at nd
    have r := ih wf1 nd.2 e
    have ac := Helper.Active_congr ebl enfb enb
    have hne : ∀ e, e ∈ rest → base ^^^ e.1 ≠ base ^^^ c := by
      intro e he hh
      have := (r.slot e he).2.1
      rw [hh] at this
      exact Bool.noConfusion (this.symm.trans ut)
    refine
      { wf := r.wf, bl := r.bl.trans ebl, nfb := r.nfb.trans enfb, nb := r.nb.trans enb
        usedB := fun j => (r.usedB j).trans (bfr j), size := r.size.trans sz1
        slot := ?slot, usedNew := ?usedNew, usedOld := ?usedOld, stNew := ?stNew
        stOld := ?stOld, ixNew := ?ixNew, ixOld := ?ixOld }
    case slot =>
      intro e he
      rcases List.mem_cons.1 he with rfl | he
      · exact ⟨a, uf, ilt⟩
      · obtain ⟨q1, q2, q3⟩ := r.slot e he
        refine ⟨(ac _).1 q1, ?_, sz1 ▸ q3⟩
        rw [← ifr _ ((ac _).1 q1) (hne e he)]; exact q2
    case usedNew =>
      intro e he
      rcases List.mem_cons.1 he with rfl | he
      · rw [r.usedOld _ ((ac _).2 a) hne]; exact ut
      · exact r.usedNew e he
    case usedOld =>
      intro j aj hj
      rw [r.usedOld j ((ac j).2 aj) (fun e he => hj e (List.mem_cons_of_mem _ he))]
      exact ifr j aj (Ne.symm (hj (c, child) (List.mem_cons_self)))
    case stNew =>
      intro e he
      rcases List.mem_cons.1 he with rfl | he
      · rw [r.stOld _ hne]; exact hi
      · rw [r.stNew e he]
        exact congrArg (fun x : St => { x with check := e.1 }) (ho _ (hne e he))
    case stOld =>
      intro j hj
      rw [r.stOld j (fun e he => hj e (List.mem_cons_of_mem _ he))]
      exact ho j (Ne.symm (hj (c, child) (List.mem_cons_self)))
    case ixNew =>
      intro e he
      rcases List.mem_cons.1 he with rfl | he
      · rw [r.ixOld _ nd.1]
        exact Std.HashMap.getD_insert_self
      · exact r.ixNew e he
    case ixOld =>
      intro w hw
      rw [List.map_cons, List.mem_cons, not_or] at hw
      rw [r.ixOld w hw.2]
      exact (Std.HashMap.getD_insert).trans (if_neg (by rw [beq_iff_eq]; exact Ne.symm hw.1))

/-- What `placeChildren`, the BASE write and `useBase` do, in ghost terms. -/
structure StepB (t : Trie V) (u : List Nat) (base : Nat) (ix ix' : List Nat → Nat)
    (st st' : Nat → St) (h h' : Helper) : Prop where
  wf' : h'.WF
  bl' : h'.blockLen = h.blockLen
  nfb' : h'.nfb = h.nfb
  nb' : h'.numBlocks = h.numBlocks
  slotAct : ∀ c, t.hasNode (u ++ [c]) = true → h.Active (base ^^^ c)
  slotFree : ∀ c, t.hasNode (u ++ [c]) = true → h.usedI (base ^^^ c) = false
  ixKid : ∀ c, t.hasNode (u ++ [c]) = true → ix' (u ++ [c]) = base ^^^ c
  ixOld : ∀ w, w ∉ t.childPaths u → ix' w = ix w
  usedIKid : ∀ c, t.hasNode (u ++ [c]) = true → h'.usedI (base ^^^ c) = true
  usedIOld : ∀ j, h.Active j → (∀ c, t.hasNode (u ++ [c]) = true → base ^^^ c ≠ j) →
    h'.usedI j = h.usedI j
  usedBNew : h'.usedB base = true
  usedBOld : ∀ j, h.Active j → j ≠ base → h'.usedB j = h.usedB j
  baseAct : h.Active base
  baseFree : h.usedB base = false
  baseNe : base ≠ 0
  stU : st' (ix u) = { st (ix u) with base := base }
  stKid : ∀ c, t.hasNode (u ++ [c]) = true → st' (base ^^^ c) = { st (base ^^^ c) with check := c }
  stOther : ∀ j, j ≠ ix u → (∀ c, t.hasNode (u ++ [c]) = true → base ^^^ c ≠ j) → st' j = st j

section StepB
variable {t : Trie V} {done rest : List (List Nat)} {u : List Nat} {base : Nat}
  {ix ix' : List Nat → Nat} {st st' : Nat → St} {n : Nat} {h h' : Helper}

theorem sb_base_frame (sb : StepB t u base ix ix' st st' h h') {j : Nat} (hj : j ≠ ix u) :
    (st' j).base = (st j).base := by
  by_cases hs : ∃ c, t.hasNode (u ++ [c]) = true ∧ base ^^^ c = j
  · obtain ⟨c, hc, rfl⟩ := hs
    rw [sb.stKid c hc]
  · rw [sb.stOther j hj (fun c hc e => hs ⟨c, hc, e⟩)]

theorem sb_check_frame (sb : StepB t u base ix ix' st st' h h') {j : Nat}
    (hj : ∀ c, t.hasNode (u ++ [c]) = true → base ^^^ c ≠ j) :
    (st' j).check = (st j).check := by
  by_cases hu : j = ix u
  · subst hu; rw [sb.stU]
  · rw [sb.stOther j hu hj]

theorem sb_active (sb : StepB t u base ix ix' st st' h h') (j : Nat) : h'.Active j ↔ h.Active j :=
  Helper.Active_congr sb.bl' sb.nfb' sb.nb' j

variable (inv : Inv t done (u :: rest) ix st n h)
include inv

theorem sb_u : Pl t done u ∧ u ∉ done ∧ t.hasNode u = true :=
  ⟨inv.stackPl u List.mem_cons_self, inv.stackDone u List.mem_cons_self,
    (inv.stackPl u List.mem_cons_self).node⟩

theorem sb_mem_kids (w : List Nat) :
    w ∈ t.childPaths u ↔ ∃ c, w = u ++ [c] ∧ t.hasNode (u ++ [c]) = true := by
  rw [Trie.mem_childPaths]
  constructor
  · rintro ⟨c, a, b, _⟩; exact ⟨c, a, b⟩
  · rintro ⟨c, a, b⟩; exact ⟨c, a, b, (sb_u inv).2.2⟩

theorem sb_old_not_kid {w : List Nat} (pl : Pl t done w) : w ∉ t.childPaths u := by
  intro hm
  obtain ⟨c, rfl, _⟩ := (sb_mem_kids inv w).1 hm
  rcases pl with e | ⟨p, c', e, hp, _⟩
  · exact snoc_ne_nil _ _ e
  · have := (snoc_inj e).1
    subst this
    exact (sb_u inv).2.1 hp

variable (sb : StepB t u base ix ix' st st' h h')
include sb

theorem sb_slot_fresh {c : Nat} (hc : t.hasNode (u ++ [c]) = true) :
    base ^^^ c ≠ 0 ∧ base ^^^ c ≠ 1 ∧ ¬ Occ t done ix (base ^^^ c) ∧
      ∀ w, Pl t done w → ix w ≠ base ^^^ c :=
  inv.free_fresh (sb.slotAct c hc) (sb.slotFree c hc)

theorem sb_ix_old {w : List Nat} (pl : Pl t done w) : ix' w = ix w :=
  sb.ixOld w (sb_old_not_kid inv pl)

theorem sb_occ' (j : Nat) :
    Occ t (u :: done) ix' j ↔
      Occ t done ix j ∨ ∃ c, t.hasNode (u ++ [c]) = true ∧ base ^^^ c = j := by
  constructor
  · rintro ⟨p, c, hp, hn, e⟩
    rcases List.mem_cons.1 hp with rfl | hp
    · rw [sb.ixKid c hn] at e; exact Or.inr ⟨c, hn, e⟩
    · rw [sb_ix_old inv sb (Pl.kid hp hn)] at e; exact Or.inl ⟨p, c, hp, hn, e⟩
  · rintro (⟨p, c, hp, hn, e⟩ | ⟨c, hn, e⟩)
    · exact ⟨p, c, List.mem_cons_of_mem _ hp, hn, by rw [sb_ix_old inv sb (Pl.kid hp hn)]; exact e⟩
    · exact ⟨u, c, List.mem_cons_self, hn, by rw [sb.ixKid c hn]; exact e⟩

theorem sb_base_u : (st' (ix' u)).base = base := by
  rw [sb_ix_old inv sb (sb_u inv).1, sb.stU]

theorem sb_base_done {u0 : List Nat} (h0 : u0 ∈ done) :
    (st' (ix' u0)).base = (st (ix u0)).base := by
  rw [sb_ix_old inv sb (inv.donePl u0 h0), sb_base_frame sb]
  intro e
  have := inv.inj _ _ (inv.donePl u0 h0) (sb_u inv).1 e
  subst this
  exact (sb_u inv).2.1 h0

theorem sb_isBase' (b : Nat) :
    IsBase (u :: done) ix' st' b ↔ IsBase done ix st b ∨ b = base := by
  constructor
  · rintro ⟨u0, h0, e⟩
    rcases List.mem_cons.1 h0 with rfl | h0
    · rw [sb_base_u inv sb] at e; exact Or.inr e.symm
    · rw [sb_base_done inv sb h0] at e; exact Or.inl ⟨u0, h0, e⟩
  · rintro (⟨u0, h0, e⟩ | e)
    · exact ⟨u0, List.mem_cons_of_mem _ h0, by rw [sb_base_done inv sb h0]; exact e⟩
    · exact ⟨u, List.mem_cons_self, by rw [sb_base_u inv sb]; exact e.symm⟩

theorem sb_not_isBase : ¬ IsBase done ix st base := fun hb =>
  Bool.noConfusion (sb.baseFree.symm.trans ((inv.usedB base sb.baseAct).2 hb))

theorem stepB_inv (hsort : t.Sorted) (hk : HasKid t u) :
    Inv t (u :: done) ((t.childPaths u).reverse ++ rest) ix' st' n h' := by
  obtain ⟨hupl, hund, _⟩ := sb_u inv
  have hnd := List.nodup_cons.1 inv.stackND
  have memStack : ∀ w, w ∈ (t.childPaths u).reverse ++ rest ↔ w ∈ t.childPaths u ∨ w ∈ rest :=
    fun w => by rw [List.mem_append, List.mem_reverse]
  refine
    { wf := sb.wf', bl := sb.bl'.trans inv.bl, size := by rw [sb.nb']; exact inv.size
      nbpos := by rw [sb.nb']; exact inv.nbpos
      root := by rw [sb_ix_old inv sb (Or.inl rfl)]; exact inv.root
      lt := ?lt, inj := ?inj, ne1 := ?ne1, usedI := ?usedI, check := ?check, base0 := ?base0
      baseK := ?baseK, usedB := ?usedB, baseInj := ?baseInj, closed := ?closed
      doneKid := ?doneKid, donePl := ?donePl, stackPl := ?stackPl, stackND := ?stackND
      stackDone := ?stackDone, cover := ?cover }
  case lt =>
    intro w pw
    rcases pw.cons_cases with pw | ⟨c, rfl, hc⟩
    · rw [sb_ix_old inv sb pw]; exact inv.lt w pw
    · rw [sb.ixKid c hc]; exact inv.active_lt (sb.slotAct c hc)
  case inj =>
    intro w w' pw pw' e
    rcases pw.cons_cases with pw | ⟨c, rfl, hc⟩ <;> rcases pw'.cons_cases with pw' | ⟨c', rfl, hc'⟩
    · rw [sb_ix_old inv sb pw, sb_ix_old inv sb pw'] at e
      exact inv.inj w w' pw pw' e
    · rw [sb_ix_old inv sb pw, sb.ixKid c' hc'] at e
      exact absurd e ((sb_slot_fresh inv sb hc').2.2.2 w pw)
    · rw [sb_ix_old inv sb pw', sb.ixKid c hc] at e
      exact absurd e.symm ((sb_slot_fresh inv sb hc).2.2.2 w' pw')
    · rw [sb.ixKid c hc, sb.ixKid c' hc'] at e
      rw [xor_left_inj e]
  case ne1 =>
    intro w pw
    rcases pw.cons_cases with pw | ⟨c, rfl, hc⟩
    · rw [sb_ix_old inv sb pw]; exact inv.ne1 w pw
    · rw [sb.ixKid c hc]; exact (sb_slot_fresh inv sb hc).2.1
  case usedI =>
    intro j a
    rw [sb_active sb] at a
    rw [sb_occ' inv sb]
    by_cases hs : ∃ c, t.hasNode (u ++ [c]) = true ∧ base ^^^ c = j
    · obtain ⟨c, hc, rfl⟩ := hs
      rw [sb.usedIKid c hc]
      exact ⟨fun _ => Or.inr (Or.inr (Or.inr ⟨c, hc, rfl⟩)), fun _ => rfl⟩
    · rw [sb.usedIOld j a (fun c hc e => hs ⟨c, hc, e⟩), inv.usedI j a, or_iff_left hs]
  case check =>
    intro p c hp hn
    rcases List.mem_cons.1 hp with rfl | hp
    · rw [sb.ixKid c hn, sb.stKid c hn]
    · have pl := Pl.kid hp hn
      rw [sb_ix_old inv sb pl, sb_check_frame sb]
      · exact inv.check p c hp hn
      · intro c' hc' e
        exact (sb_slot_fresh inv sb hc').2.2.2 _ pl e.symm
  case base0 =>
    intro j hj
    by_cases hu : j = ix u
    · exact ⟨u, List.mem_cons_self, by rw [sb_ix_old inv sb hupl]; exact hu.symm⟩
    · rw [sb_base_frame sb hu] at hj
      obtain ⟨u0, h0, e⟩ := inv.base0 j hj
      exact ⟨u0, List.mem_cons_of_mem _ h0, by rw [sb_ix_old inv sb (inv.donePl u0 h0)]; exact e⟩
  case baseK =>
    intro u0 h0
    rcases List.mem_cons.1 h0 with rfl | h0
    · rw [sb_base_u inv sb]
      exact ⟨sb.baseNe, inv.active_lt sb.baseAct, fun c hc => sb.ixKid c hc⟩
    · rw [sb_base_done inv sb h0]
      obtain ⟨a, b, c⟩ := inv.baseK u0 h0
      refine ⟨a, b, fun c' hc' => ?_⟩
      rw [sb_ix_old inv sb (Pl.kid h0 hc')]; exact c c' hc'
  case usedB =>
    intro b a
    rw [sb_active sb] at a
    rw [sb_isBase' inv sb]
    by_cases hb : b = base
    · subst hb; rw [sb.usedBNew]; exact ⟨fun _ => Or.inr rfl, fun _ => rfl⟩
    · rw [sb.usedBOld b a hb, inv.usedB b a, or_iff_left hb]
  case baseInj =>
    intro u0 u1 h0 h1 e
    rcases List.mem_cons.1 h0 with rfl | d0 <;> rcases List.mem_cons.1 h1 with rfl | d1
    · rfl
    · rw [sb_base_u inv sb, sb_base_done inv sb d1] at e
      exact absurd ⟨u1, d1, e.symm⟩ (sb_not_isBase inv sb)
    · rw [sb_base_u inv sb, sb_base_done inv sb d0] at e
      exact absurd ⟨u0, d0, e⟩ (sb_not_isBase inv sb)
    · rw [sb_base_done inv sb d0, sb_base_done inv sb d1] at e
      exact inv.baseInj u0 u1 d0 d1 e
  case closed =>
    intro j hj ho b hb hblk
    have hj : j / 256 < h.activeStart := by
      unfold Helper.activeStart at hj ⊢; rwa [sb.nb', sb.nfb'] at hj
    rw [sb_occ' inv sb] at ho
    rw [sb_isBase' inv sb] at hb
    rw [sb_check_frame sb fun c hc e => ho (Or.inr ⟨c, hc, e⟩)]
    rcases hb with hb | rfl
    · exact inv.closed j hj (fun z => ho (Or.inl z)) b hb hblk
    · -- the new BASE lies in an active block
      exact absurd (hblk ▸ ((active_iff_div inv.bl b).1 sb.baseAct).1) (Nat.not_le_of_lt hj)
  case doneKid =>
    intro u0 h0
    rcases List.mem_cons.1 h0 with rfl | h0
    · exact hk
    · exact inv.doneKid u0 h0
  case donePl =>
    intro u0 h0
    rcases List.mem_cons.1 h0 with rfl | h0
    · exact hupl.cons
    · exact (inv.donePl u0 h0).cons
  case stackPl =>
    intro w hw
    rcases (memStack w).1 hw with hw | hw
    · obtain ⟨c, rfl, hc⟩ := (sb_mem_kids inv w).1 hw
      exact Pl.kid List.mem_cons_self hc
    · exact (inv.stackPl w (List.mem_cons_of_mem _ hw)).cons
  case stackND =>
    rw [List.nodup_append]
    refine ⟨nodup_reverse' (Trie.nodup_childPaths t hsort u), hnd.2, ?_⟩
    intro a ha b hb e
    subst e
    exact sb_old_not_kid inv (inv.stackPl a (List.mem_cons_of_mem _ hb)) (List.mem_reverse.1 ha)
  case stackDone =>
    intro w hw hm
    rcases (memStack w).1 hw with kid | old
    · rcases List.mem_cons.1 hm with rfl | hd
      · exact sb_old_not_kid inv hupl kid
      · exact sb_old_not_kid inv (inv.donePl w hd) kid
    · rcases List.mem_cons.1 hm with rfl | hd
      · exact hnd.1 old
      · exact inv.stackDone w (List.mem_cons_of_mem _ old) hd
  case cover =>
    intro w pw
    rcases pw.cons_cases with pw | ⟨c, rfl, hc⟩
    · rcases inv.cover w pw with z | z | z
      · exact Or.inl (List.mem_cons_of_mem _ z)
      · rcases List.mem_cons.1 z with rfl | z
        · exact Or.inl List.mem_cons_self
        · exact Or.inr (Or.inl ((memStack w).2 (Or.inr z)))
      · exact Or.inr (Or.inr z)
    · exact Or.inr (Or.inl ((memStack _).2 (Or.inl ((sb_mem_kids inv _).2 ⟨c, rfl, hc⟩))))

end StepB

theorem baseOk_true {h : Helper} {b : Nat} {codes : List Nat}
    (e : baseOk .bytewise h b codes = .ok true) : h.Active b ∧ h.usedB b = false ∧ b ≠ 0 := by
  unfold baseOk at e
  simp only at e
  split at e
  · cases e
  · cases e
  · rename_i hu
    obtain ⟨a, ub⟩ := Helper.isUsedBase_ok.1 hu
    split at e
    · cases e
    · rename_i r _
      simp only [Except.ok.injEq, Bool.and_eq_true, bne_iff_ne, ne_eq] at e
      exact ⟨a, ub.symm, e.2⟩

theorem findBaseIn_some {h : Helper} {c0 : Nat} {codes : List Nat} :
    ∀ (l : List Nat) {b : Nat}, findBaseIn .bytewise h c0 codes l = .ok (some b) →
      h.Active b ∧ h.usedB b = false ∧ b ≠ 0 := by
  intro l
  induction l with
  | nil => intro b e; unfold findBaseIn at e; cases e
  | cons i r ih =>
    intro b e
    unfold findBaseIn at e
    split at e
    · cases e
    · rename_i hok
      cases e
      exact baseOk_true hok
    · exact ih e

theorem findBase_spec {lay : Lay} {codes : List Nat} {base : Nat}
    (e : findBase .bytewise lay codes = .ok base) :
    (lay.h.Active base ∧ lay.h.usedB base = false ∧ base ≠ 0) ∨ base = lay.states.size := by
  unfold findBase at e
  simp only at e
  split at e
  · cases e
  · split at e
    · cases e
    · rename_i b hb
      cases e
      exact Or.inl (findBaseIn_some _ hb)
    · simp only [Except.ok.injEq] at e
      exact Or.inr e.symm

def edgesB (t : Trie V) (u : List Nat) : List (Nat × List Nat) :=
  (t.childPaths u).map fun w => (w.getLastD 0, w)

theorem edgesB_map_snd (t : Trie V) (u : List Nat) : (edgesB t u).map (·.2) = t.childPaths u := by
  unfold edgesB
  rw [List.map_map]
  exact List.map_id' _

theorem mem_edgesB {t : Trie V} {u : List Nat} (hu : t.hasNode u = true) (e : Nat × List Nat) :
    e ∈ edgesB t u ↔ ∃ c, t.hasNode (u ++ [c]) = true ∧ e = (c, u ++ [c]) := by
  unfold edgesB
  simp only [List.mem_map, Trie.mem_childPaths]
  constructor
  · rintro ⟨w, ⟨c, rfl, hc, _⟩, rfl⟩
    exact ⟨c, hc, by rw [List.getLastD_concat]⟩
  · rintro ⟨c, hc, rfl⟩
    exact ⟨u ++ [c], ⟨c, rfl, hc, hu⟩, by rw [List.getLastD_concat]⟩

theorem hasKid_iff {t : Trie V} {u : List Nat} (hu : t.hasNode u = true) :
    HasKid t u ↔ t.childPaths u ≠ [] := by
  constructor
  · rintro ⟨c, hc⟩
    exact List.ne_nil_of_mem ((Trie.mem_childPaths t u _).2 ⟨c, rfl, hc, hu⟩)
  · intro hne
    obtain ⟨w, hw⟩ := List.exists_mem_of_ne_nil _ hne
    obtain ⟨c, rfl, hc, _⟩ := (Trie.mem_childPaths t u _).1 hw
    exact ⟨c, hc⟩

theorem Inv.pop_leaf {t : Trie V} {done rest : List (List Nat)} {u : List Nat}
    {ix : List Nat → Nat} {st : Nat → St} {n : Nat} {h : Helper}
    (inv : Inv t done (u :: rest) ix st n h) (hk : ¬ HasKid t u) : Inv t done rest ix st n h := by
  refine { inv with
    stackPl := fun w hw => inv.stackPl w (List.mem_cons_of_mem _ hw)
    stackND := (List.nodup_cons.1 inv.stackND).2
    stackDone := fun w hw => inv.stackDone w (List.mem_cons_of_mem _ hw)
    cover := fun w pw => ?_ }
  · rcases inv.cover w pw with z | z | z
    · exact Or.inl z
    · rcases List.mem_cons.1 z with rfl | z
      · exact Or.inr (Or.inr hk)
      · exact Or.inr (Or.inl z)
    · exact Or.inr (Or.inr z)

def ixOf (lay : Lay) : List Nat → Nat := fun w => lay.idx.getD w deadIdx

theorem stepB_of_ops {t : Trie V} {done rest : List (List Nat)} {u : List Nat} (hsort : t.Sorted)
    {lay1 lay2 : Lay} {states' : Array St} {h' : Helper} {base : Nat}
    (inv : Inv t done (u :: rest) (ixOf lay1) (gs lay1.states) lay1.states.size lay1.h)
    (hfree : lay1.h.usedB base = false) (hne : base ≠ 0)
    (e1 : placeChildren .bytewise (ixOf lay1 u) base (edgesB t u) lay1 = .ok lay2)
    (e2 : setSt lay2.states (ixOf lay1 u) (fun st => { st with base := base }) = .ok states')
    (e3 : lay2.h.useBase base = .ok h') :
    StepB t u base (ixOf lay1) (ixOf lay2) (gs lay1.states) (gs states') lay1.h h' ∧
      states'.size = lay1.states.size := by
  have hun := (sb_u inv).2.2
  have nd : ((edgesB t u).map (·.2)).Nodup := by
    rw [edgesB_map_snd]; exact Trie.nodup_childPaths t hsort u
  have pc := placeChildren_spec (ixOf lay1 u) base (edgesB t u) lay1 lay2 inv.wf nd e1
  obtain ⟨ilt, sz, hi, ho⟩ := setSt_ok e2
  obtain ⟨ab, ubt, ubo, ui, b1, b2, b3, wf'⟩ := Helper.useBase_ok pc.wf e3
  have ac := Helper.Active_congr pc.bl pc.nfb pc.nb
  have memE : ∀ c, t.hasNode (u ++ [c]) = true → (c, u ++ [c]) ∈ edgesB t u :=
    fun c hc => (mem_edgesB hun _).2 ⟨c, hc, rfl⟩
  have notE : ∀ j, (∀ c, t.hasNode (u ++ [c]) = true → base ^^^ c ≠ j) →
      ∀ e, e ∈ edgesB t u → base ^^^ e.1 ≠ j := by
    intro j hj e he
    obtain ⟨c, hc, rfl⟩ := (mem_edgesB hun e).1 he
    exact hj c hc
  have hsl : ∀ c, t.hasNode (u ++ [c]) = true → base ^^^ c ≠ ixOf lay1 u := by
    intro c hc e
    have q := pc.slot _ (memE c hc)
    exact (inv.free_fresh q.1 q.2.1).2.2.2 u (sb_u inv).1 e.symm
  refine ⟨?_, sz.trans pc.size⟩
  refine
    { wf' := wf', bl' := b1.trans pc.bl, nfb' := b2.trans pc.nfb, nb' := b3.trans pc.nb
      slotAct := fun c hc => (pc.slot _ (memE c hc)).1
      slotFree := fun c hc => (pc.slot _ (memE c hc)).2.1
      ixKid := fun c hc => pc.ixNew _ (memE c hc)
      ixOld := ?_
      usedIKid := fun c hc => by rw [ui]; exact pc.usedNew _ (memE c hc)
      usedIOld := fun j aj hj => by rw [ui]; exact pc.usedOld j aj (notE j hj)
      usedBNew := ubt
      usedBOld := fun j aj hj => by rw [ubo j ((ac j).2 aj) hj]; exact pc.usedB j
      baseAct := (ac base).1 ab
      baseFree := hfree
      baseNe := hne
      stU := ?_, stKid := ?_, stOther := ?_ }
  · intro w hw
    apply pc.ixOld w
    rw [edgesB_map_snd]; exact hw
  · rw [hi, pc.stOld _ (notE _ hsl)]
  · intro c hc
    rw [ho _ (hsl c hc)]
    exact pc.stNew _ (memE c hc)
  · intro j hj hs
    rw [ho j hj, pc.stOld j (notE j hs)]

theorem layoutStep_inv {t : Trie V} {done rest : List (List Nat)} {u : List Nat} (hsort : t.Sorted)
    (hbytes : ∀ u, t.hasNode u = true → ∀ c ∈ u, c < 256) {m : Mapper} {lay lay' : Lay}
    {stack' : List (List Nat)}
    (inv : Inv t done (u :: rest) (ixOf lay) (gs lay.states) lay.states.size lay.h)
    (e : layoutStep .bytewise m t u rest lay = .ok (stack', lay')) :
    ∃ done', Inv t done' stack' (ixOf lay') (gs lay'.states) lay'.states.size lay'.h := by
  rcases layoutStep_ok e with ⟨heq, rfl, rfl⟩ |
    ⟨edges, base, lay1, lay2, states', h', hne, heq, hfb, hext, e1, e2, e3, rfl, rfl⟩
  · have hnil : t.childPaths u = [] := List.map_eq_nil_iff.1 (Except.ok.inj heq)
    exact ⟨done, inv.pop_leaf fun hk => (hasKid_iff (sb_u inv).2.2).1 hk hnil⟩
  · obtain rfl : edgesB t u = edges := Except.ok.inj heq
    have hk : HasKid t u := by
      rw [hasKid_iff (sb_u inv).2.2]
      intro e0; apply hne; unfold edgesB; rw [e0]; rfl
    have h1 : Inv t done (u :: rest) (ixOf lay1) (gs lay1.states) lay1.states.size lay1.h ∧
        lay1.idx = lay.idx ∧ lay1.h.usedB base = false ∧ base ≠ 0 := by
      rcases findBase_spec hfb with ⟨a, ub, hne0⟩ | hsz
      · rw [if_neg (Nat.not_le_of_lt (inv.active_lt a))] at hext
        obtain rfl := Except.ok.inj hext
        exact ⟨inv, rfl, ub, hne0⟩
      · rw [if_pos (Nat.le_of_eq hsz.symm)] at hext
        obtain ⟨i1, i2, i4⟩ := extend_inv hbytes inv hext
        have hix : ixOf lay1 = ixOf lay := by unfold ixOf; rw [i2]
        rw [hix]
        -- the root sits in the array, so its size is positive
        exact ⟨i1, i2, by rw [hsz]; exact i4,
          hsz ▸ Nat.ne_of_gt (Nat.lt_of_le_of_lt (Nat.zero_le _) (inv.lt [] (Or.inl rfl)))⟩
    obtain ⟨inv1, hidx, hfree, hne0⟩ := h1
    have hsidx : lay.idx.getD u deadIdx = ixOf lay1 u := by unfold ixOf; rw [hidx]
    rw [hsidx] at e1 e2
    obtain ⟨sb, sz⟩ := stepB_of_ops hsort inv1 hfree hne0 e1 e2 e3
    refine ⟨u :: done, ?_⟩
    rw [edgesB_map_snd]
    show Inv t (u :: done) _ (ixOf lay2) (gs states') states'.size h'
    rw [sz]
    exact stepB_inv inv1 sb hsort hk

theorem layoutLoop_inv {t : Trie V} (hsort : t.Sorted)
    (hbytes : ∀ u, t.hasNode u = true → ∀ c ∈ u, c < 256) {m : Mapper} :
    ∀ (fuel : Nat) (stack done : List (List Nat)) (lay lay' : Lay),
      Inv t done stack (ixOf lay) (gs lay.states) lay.states.size lay.h →
      layoutLoop .bytewise m t fuel stack lay = .ok lay' →
      ∃ done', Inv t done' [] (ixOf lay') (gs lay'.states) lay'.states.size lay'.h := by
  intro fuel stack done lay lay'
  fun_induction layoutLoop .bytewise m t fuel stack lay generalizing done <;> intro inv e
  case case1 => cases e; exact ⟨done, inv⟩
  case case2 => cases e
  case case3 => cases e
  case case4 hs ih =>
    obtain ⟨done1, inv1⟩ := layoutStep_inv hsort hbytes inv hs
    exact ih done1 inv1 e

section Final
variable {t : Trie V} {done : List (List Nat)} {ix : List Nat → Nat} {st : Nat → St} {n : Nat}
  {h : Helper}

theorem Inv.done_of_kid (inv : Inv t done [] ix st n h) {w : List Nat} (pl : Pl t done w)
    (hk : HasKid t w) : w ∈ done := by
  rcases inv.cover w pl with z | z | z
  · exact z
  · cases z
  · exact absurd hk z

theorem Inv.node_pl (inv : Inv t done [] ix st n h) {w : List Nat} (hn : t.hasNode w = true) :
    Pl t done w := by
  -- along the path to `w`: a placed node with a child has been processed, so the child is placed
  induction hk : w.length generalizing w with
  | zero => exact Or.inl (List.length_eq_zero_iff.1 hk)
  | succ k ih =>
    rcases List.eq_nil_or_concat w with rfl | ⟨p, c, rfl⟩
    · cases hk
    · rw [List.concat_eq_append] at hn hk ⊢
      rw [List.length_append] at hk
      have hp := ih (Trie.hasNode_of_snoc t _ _ hn) (Nat.succ.inj hk)
      exact Pl.kid (inv.done_of_kid hp ⟨c, hn⟩) hn

end Final

theorem init_inv (t : Trie V) {bl nfb : Nat} {h0 h1 h2 h3 : Helper} (hbl : bl = 256)
    (e0 : Helper.new bl nfb = .ok h0) (e1 : h0.pushBlock = .ok h1)
    (e2 : h1.useIndex 0 = .ok h2) (e3 : h2.useIndex 1 = .ok h3) :
    Inv t [] [[]] (ixOf (initLay .bytewise bl h3)) (gs (initLay .bytewise bl h3).states)
      (initLay .bytewise bl h3).states.size h3 := by
  subst hbl
  rw [show (initLay .bytewise 256 h3).states.size = 256 from Array.size_replicate]
  show Inv t [] [[]] (ixOf ⟨Array.replicate 256 stDefaultB, h3,
        ({} : Std.HashMap (List Nat) Nat).insert [] 0⟩)
      (gs (Array.replicate 256 stDefaultB)) 256 h3
  obtain ⟨wf, nb, bl, _, _, act, u0, u1, ufree, ub⟩ := Helper.init_ok e0 e1 e2 e3
  have hpl : ∀ w, Pl t [] w → w = [] := by
    rintro w (e | ⟨p, c, _, hp, _⟩)
    · exact e
    · cases hp
  have hocc : ∀ ix j, ¬ Occ t [] ix j := by
    rintro ix j ⟨p, c, hp, _⟩; cases hp
  have hroot : ixOf ⟨Array.replicate 256 stDefaultB, h3,
      ({} : Std.HashMap (List Nat) Nat).insert [] 0⟩ [] = 0 := Std.HashMap.getD_insert_self
  have hA : h3.activeStart = 0 := by
    unfold Helper.activeStart; rw [nb]; exact Nat.sub_eq_zero_of_le wf.nfb_pos
  refine
    { wf := wf, bl := bl, size := by rw [nb], nbpos := by rw [nb]; decide, root := hroot
      lt := fun w pl => by rw [hpl w pl, hroot]; decide
      inj := fun w w' pl pl' _ => by rw [hpl w pl, hpl w' pl']
      ne1 := fun w pl => by rw [hpl w pl, hroot]; decide
      usedI := ?_
      check := fun p c hp => by cases hp
      base0 := fun j hj => by rw [gs_replicate] at hj; exact absurd rfl hj
      baseK := fun u hu => by cases hu
      usedB := fun b _ => by
        rw [ub b]; exact ⟨fun hh => Bool.noConfusion hh, fun ⟨u, hu, _⟩ => by cases hu⟩
      baseInj := fun u u' hu => by cases hu
      closed := fun j hj => absurd hj (hA ▸ Nat.not_lt_zero _)
      doneKid := fun u hu => by cases hu
      donePl := fun u hu => by cases hu
      stackPl := fun u hu => Or.inl (List.mem_singleton.1 hu)
      stackND := List.nodup_cons.2 ⟨List.not_mem_nil, List.nodup_nil⟩
      stackDone := fun u _ hu => by cases hu
      cover := fun w pl => Or.inr (Or.inl (by rw [hpl w pl]; exact List.mem_singleton.2 rfl)) }
  intro j a
  by_cases h0 : j = 0
  · subst h0; exact ⟨fun _ => Or.inl rfl, fun _ => u0⟩
  by_cases h1 : j = 1
  · subst h1; exact ⟨fun _ => Or.inr (Or.inl rfl), fun _ => u1⟩
  rw [ufree j (by omega) ((act j).1 a)]
  refine ⟨fun hh => Bool.noConfusion hh, ?_⟩
  rintro (z | z | z)
  · exact absurd z h0
  · exact absurd z h1
  · exact absurd z (hocc _ _)

theorem labelOk_lt {da : DA V} (hv : da.variant = .bytewise) {c : Nat} (hc : LabelOk da c) :
    c < 256 := by
  unfold LabelOk DA.sigma DA.code at hc
  rw [hv] at hc
  simp only [List.mem_range, reduceCtorEq, or_false] at hc
  exact hc

theorem layoutSem_of_inv {t : Trie V} {nfa : Nfa V} {done : List (List Nat)} {ix : List Nat → Nat}
    {h : Helper} (da : DA V) (hv : da.variant = .bytewise) (hout : da.outputs = nfa.out.outs)
    (inv : Inv t done [] ix (gs da.states) da.states.size h)
    (hvac : ∀ j, VacOK t done ix (gs da.states) j)
    (hfo : ∀ u, t.hasNode u = true → (gs da.states (ix u)).opos = nfa.out.opos.getD u 0 ∧
      (gs da.states (ix u)).fail = failIdx nfa ix u) :
    LayoutSem da t nfa ix ∧ (∀ u, t.hasNode u = true → ix u < da.states.size) ∧
    (∀ u w, t.hasNode u = true → t.hasNode w = true → ix u = ix w → u = w) := by
  refine ⟨{ root := inv.root, nonroot := ?nonroot, node := ?node, child := ?child, outputs := hout },
    fun u hu => inv.lt u (inv.node_pl hu),
    fun u w hu hw e => inv.inj u w (inv.node_pl hu) (inv.node_pl hw) e⟩
  case nonroot =>
    intro u hu hne
    have pl := inv.node_pl hu
    exact ⟨fun e => hne (inv.inj u [] pl (Or.inl rfl) (e.trans inv.root.symm)), inv.ne1 u pl⟩
  case node =>
    intro u hu
    exact ⟨gs da.states (ix u), st_ok da (inv.lt u (inv.node_pl hu)), (hfo u hu).1,
      fun _ => (hfo u hu).2⟩
  case child =>
    intro u hu c hc
    have hc256 := labelOk_lt hv hc
    have pl := inv.node_pl hu
    have hcode : da.code c = some c := by unfold DA.code; rw [hv]
    simp only [DA.childL, hcode, DA.child, st_ok da (inv.lt u pl)]
    by_cases hk : HasKid t u
    · have hud := inv.done_of_kid pl hk
      obtain ⟨b0, blt, bk⟩ := inv.baseK u hud
      rw [if_neg b0]
      have hx : (gs da.states (ix u)).base ^^^ c < da.states.size := by
        rw [inv.size] at blt ⊢
        exact xor_lt_blocks hc256 blt
      simp only [st_ok da hx, hv]
      by_cases hn : t.hasNode (u ++ [c]) = true
      · rw [if_pos hn, ← bk c hn, inv.check u c hud hn, if_pos rfl]
      · rw [if_neg hn, if_neg]
        intro hchk
        by_cases ho : Occ t done ix ((gs da.states (ix u)).base ^^^ c)
        · obtain ⟨p, c', hp, hn', e⟩ := ho
          have e1 := inv.check p c' hp hn'
          rw [e, hchk] at e1
          subst e1
          rw [(inv.baseK p hp).2.2 c hn'] at e
          cases inv.baseInj p u hp hud (xor_right_inj e)
          exact hn hn'
        · have := hvac _ ho _ ⟨u, hud, rfl⟩ (xor_div_small hc256).symm
          rw [xor_cancel_left] at this
          exact this hchk
    · have hb : (gs da.states (ix u)).base = 0 := Classical.byContradiction fun hb => by
        obtain ⟨u0, h0, e⟩ := inv.base0 _ hb
        cases inv.inj u0 u (inv.donePl u0 h0) pl e
        exact hk (inv.doneKid _ h0)
      rw [if_pos hb, if_neg fun hn => hk ⟨c, hn⟩]

/-- At the end of a successful byte-wise `buildLayout` the invariant holds of the finished array,
every active element is safe, and the last pass has changed CHECK values only. -/
theorem buildLayout_inv {cfg : Cfg} {m : Mapper} {t : Trie V} {nfa : Nfa V} {states : Array St}
    (hb : buildLayout .bytewise cfg m t nfa = .ok states) (hsort : t.Sorted)
    (hbytes : ∀ u, t.hasNode u = true → ∀ c ∈ u, c < 256) :
    ∃ done lay1 lay2, setFailOut .bytewise nfa (t.paths []) lay1 = .ok lay2 ∧
      Inv t done [] (ixOf lay1) (gs lay1.states) lay1.states.size lay1.h ∧
      Inv t done [] (ixOf lay1) (gs states) states.size lay2.h ∧
      (∀ j, lay2.h.activeStart ≤ j / 256 → j / 256 < lay2.h.numBlocks →
        VacOK t done (ixOf lay1) (gs states) j) ∧
      (∀ j, (gs states j).base = (gs lay2.states j).base ∧
        (gs states j).fail = (gs lay2.states j).fail ∧
        (gs states j).opos = (gs lay2.states j).opos) := by
  obtain ⟨h0, h1, h2, h3, lay1, lay2, e0, e1, e2, e3, eloop, efo, esan⟩ := buildLayout_ok_stages hb
  obtain ⟨done, inv1⟩ := layoutLoop_inv hsort hbytes _ _ _ _ lay1 (init_inv t rfl e0 e1 e2 e3) eloop
  obtain ⟨_, r2, r3, r4, _, _⟩ := Daac.setFailOut_spec .bytewise nfa stDefaultB _ _ _ efo
  have inv2 : Inv t done [] (ixOf lay1) (gs lay2.states) lay2.states.size lay2.h := by
    rw [r2, r3]
    exact inv1.congr (fun j => (r4 j).1) (fun j _ => (r4 j).2) (fun j _ => (r4 j).2)
  have hA : lay2.h.activeStart + (lay2.h.numBlocks - lay2.h.activeStart) = lay2.h.numBlocks :=
    Nat.add_sub_cancel' (Nat.sub_le _ _)
  obtain ⟨q1, q2, q3, q4⟩ := sanitiseBlocks_spec hbytes _ _ _ _ inv2 (Nat.le_refl _)
    (Nat.le_of_eq hA) (fun j lo hi => absurd lo (Nat.not_le_of_lt hi)) esan
  rw [← q1] at q2
  rw [hA] at q3
  exact ⟨done, lay1, lay2, efo, inv1, q2, q3, q4⟩

theorem layoutSem_bytewise (cfg : Cfg) (m : Mapper) (t : Trie V) (nfa : Nfa V) (states : Array St)
    (hb : buildLayout .bytewise cfg m t nfa = .ok states) (hsort : t.Sorted)
    (hbytes : ∀ u, t.hasNode u = true → ∀ c ∈ u, c < 256) (kind numStates : Nat) :
    ∃ idx : List Nat → Nat,
      LayoutSem ({ variant := .bytewise, states := states, outputs := nfa.out.outs, mapTable := #[],
                   alphaSize := 0, kind := kind, numStates := numStates } : DA V) t nfa idx ∧
      (∀ u, t.hasNode u = true → idx u < states.size) ∧
      (∀ u w, t.hasNode u = true → t.hasNode w = true → idx u = idx w → u = w) := by
  obtain ⟨done, lay1, lay2, efo, inv1, q2, q3, q4⟩ := buildLayout_inv hb hsort hbytes
  obtain ⟨_, _, _, _, _, r6⟩ := Daac.setFailOut_spec .bytewise nfa stDefaultB _ _ _ efo
  have hnodes : ∀ u, u ∈ t.paths [] ↔ t.hasNode u = true := Trie.mem_paths_nil t hsort
  have hfo := r6 (List.Pairwise.imp_of_mem
    (fun ha hb hab heq => hab (inv1.inj _ _ (inv1.node_pl ((hnodes _).1 ha))
      (inv1.node_pl ((hnodes _).1 hb)) heq))
    (Trie.nodup_paths t hsort []))
  -- every element is safe: closed blocks by the invariant, active ones by the last pass, and
  -- beyond the array there is no BASE
  have hvac : ∀ j, VacOK t done (ixOf lay1) (gs states) j := by
    intro j
    by_cases hlo : j / 256 < lay2.h.activeStart
    · exact q2.closed j hlo
    · by_cases hhi : j / 256 < lay2.h.numBlocks
      · exact q3 j (Nat.le_of_not_lt hlo) hhi
      · intro _ b hb' hblk
        have := (q2.isBase_lt hb').2
        rw [q2.size, ← Nat.div_lt_iff_lt_mul (by decide), hblk] at this
        exact absurd this hhi
  refine ⟨ixOf lay1, layoutSem_of_inv _ rfl rfl q2 hvac fun u hu => ?_⟩
  obtain ⟨_, f1, f2⟩ := hfo u ((hnodes u).2 hu)
  show (gs states (ixOf lay1 u)).opos = _ ∧ (gs states (ixOf lay1 u)).fail = _
  rw [(q4 _).2.2, (q4 _).2.1]
  exact ⟨f1, f2⟩

end Daac.LayB

#print axioms Daac.LayB.layoutSem_bytewise
