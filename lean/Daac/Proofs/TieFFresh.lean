/-
`Fresh`: an invariant of the translated insertion code (`NfaBuilder::{new, add}` of Daac/Gen/Nfa.lean),
independent of `Tie.N.Rep`: the insertion phase writes nothing but `edges` / `output` (and pushes
default states), so every `fail` is still `ROOT_STATE_ID`, every `output_pos` is `None` and `outputs`
is empty.  Also: the queue of a built trie with at least one registered pattern is non-empty.
-/
import Daac.Proofs.TieFBase
namespace Daac.Tie.F
open Daac Daac.Gen Daac.Gen.N Daac.Tie.N
variable {V : Type}

def FreshSt (st : Array (NfaBuilderState V)) : Prop :=
  ∀ (i : Nat) (s : NfaBuilderState V), st[i]? = some s → s.fail = Gen.rootStateId ∧ s.output_pos = none

def Fresh (g : NfaBuilder V) : Prop := FreshSt g.states ∧ g.outputs = #[]

theorem FreshSt.set {st : Array (NfaBuilderState V)} (h : FreshSt st) (id : Nat) (x : NfaBuilderState V)
    (hx : x.fail = Gen.rootStateId ∧ x.output_pos = none) : FreshSt (st.setIfInBounds id x) := by
  intro i s hs
  rw [Array.getElem?_setIfInBounds] at hs
  split at hs
  · split at hs
    · cases hs; exact hx
    · cases hs
  · exact h i s hs

theorem FreshSt.push {st : Array (NfaBuilderState V)} (h : FreshSt st) :
    FreshSt (st.push NfaBuilderState.default) := by
  intro i s hs
  rw [Array.getElem?_push] at hs
  split at hs
  · cases hs; exact ⟨rfl, rfl⟩
  · exact h i s hs

theorem new_fresh (kind : Nat) : Fresh (NfaBuilder.new kind : NfaBuilder V) := by
  refine ⟨?_, rfl⟩
  have h0 : FreshSt (#[] : Array (NfaBuilderState V)) := fun i s hs => by cases hs
  exact (h0.push).push

theorem loop_fresh (pat : List Nat) (v : V) (pl : Nat) (cs : List Nat) (g g' : NfaBuilder V) (id : Nat)
    (u : Unit) (h : NfaBuilder.add.loop0 pat v pl cs g id = .ok (u, g')) (hf : Fresh g) : Fresh g' :=
  loop0_ok_induct pat v pl (I := fun _ g _ => Fresh g) (Q := Fresh)
    (fun _ _ _ _ _ _ _ _ hf => hf)
    (fun c _ g id s hs _ hf =>
      ⟨(FreshSt.set hf.1 id { s with edges := Rs.EdgeMap.insert s.edges c g.states.size } (hf.1 id s hs)).push, hf.2⟩)
    (fun _ _ _ _ hf => hf)
    (fun _ id s hs hf => ⟨FreshSt.set hf.1 id { s with output := some (v, pl) } (hf.1 id s hs), hf.2⟩)
    cs g id u g' h hf

theorem addAllGen_fresh (nb : Nat → Nat) : (ps : List (LPat V)) → (g g' : NfaBuilder V) →
    addAllGen nb g ps = .ok g' → Fresh g →
    Fresh g' ∧ g'.states.size ≤ g.states.size + (ps.map (·.key.length)).sum ∧ g'.match_kind = g.match_kind := by
  intro ps g g' h hf
  have hb := addAllGen_bounds nb ps g g' h ⟨rfl, Nat.le_refl _⟩
  refine ⟨?_, hb.2, hb.1⟩
  refine addAllGen_ok_induct nb (I := fun _ g => Fresh g) ?_ ps g g' h hf
  exact fun p _ g pl u g1 hl hf => loop_fresh _ _ pl _ g g1 0 u hl hf

theorem insert_root_child (lf : Bool) (o : V × Nat) (t t' : Trie V) (c : Nat) (cs : List Nat)
    (h : Trie.insert lf o t (c :: cs) = .ok t') : (t'.kids.find? c).isSome = true := by
  cases t with
  | node out kids =>
    rw [Trie.insert] at h
    split at h
    · cases h
    · split at h
      · cases h
        rw [Trie.kids, Kids.find?_set_self]; rfl
      · cases h
      · cases h

def HasKid (a : NfaAcc V) : Prop := a.len ≠ 0 → ∃ c, (a.trie.kids.find? c).isSome = true

theorem addAll_hasKid (lf : Bool) (ps : List (LPat V)) (a a' : NfaAcc V) (h : a.addAll lf ps = .ok a')
    (hk : ∀ p ∈ ps, p.key = [] → p.blen = 0) (hj : HasKid a) : HasKid a' := by
  induction ps generalizing a with
  | nil =>
    cases h
    exact hj
  | cons p ps ih =>
    rw [NfaAcc.addAll] at h
    cases h1 : a.add lf p with
    | error e => rw [h1] at h; cases h
    | ok a1 =>
      rw [h1] at h
      refine ih a1 h (fun q hq => hk q (List.mem_cons_of_mem _ hq)) ?_
      revert h1
      fun_cases NfaAcc.add lf a p <;> intro h1
      case case2 hb t hi =>
        -- registered: the first label of the (non-empty) key is a root child now
        rw [← Except.ok.inj h1]
        intro _
        cases hkey : p.key with
        | nil => exact absurd (hk p List.mem_cons_self hkey) hb
        | cons c cs => rw [hkey] at hi; exact ⟨c, insert_root_child lf _ _ _ c cs hi⟩
      case case5 =>
        -- skipped as shadowed: trie and count unchanged
        rw [← Except.ok.inj h1]
        exact hj
      all_goals cases h1

theorem queue_ne_nil_of_len (lf : Bool) (ps : List (LPat V)) (a : NfaAcc V)
    (h : (NfaAcc.init : NfaAcc V).addAll lf ps = .ok a) (hk : ∀ p ∈ ps, p.key = [] → p.blen = 0)
    (hl : a.len ≠ 0) : a.trie.queue ≠ [] := by
  have hj : HasKid a := addAll_hasKid lf ps NfaAcc.init a h hk (fun h0 => absurd rfl h0)
  obtain ⟨c, hc⟩ := hj hl
  have hm : [c] ∈ a.trie.queue := by
    rw [Trie.mem_queue]
    refine ⟨?_, by simp⟩
    simp only [Trie.hasNode, Trie.walk_singleton]
    exact hc
  intro e
  rw [e] at hm
  cases hm

theorem queue_ne_nil_of_keysOk (lf : Bool) (ps : List (LPat V)) (a : NfaAcc V)
    (h : (NfaAcc.init : NfaAcc V).addAll lf ps = .ok a) (hk : keysOk ps)
    (hl : a.len ≠ 0) : a.trie.queue ≠ [] :=
  queue_ne_nil_of_len lf ps a h (fun p hp e => (hk p hp).2 e) hl

theorem buildTrie_queue_ne_nil (kind : Nat) (ps : List (LPat V)) (t : Trie V)
    (h : buildTrie kind ps = .ok t) (hk : ∀ p ∈ ps, p.key = [] → p.blen = 0) : t.queue ≠ [] := by
  unfold buildTrie at h
  split at h
  · cases h
  · rename_i a ha
    split at h
    · cases h
    · rename_i hl
      cases h
      exact queue_ne_nil_of_len (kind == 2) ps a ha hk hl

end Daac.Tie.F
