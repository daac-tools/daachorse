/-
Truthfulness of the reported statistics of a built automaton (model level, Rung 2):
the reported number of states is the number of trie nodes; every one of them is reachable from the
root along its own path through the child lookups of the double array, at pairwise distinct
in-range element indices; hence `numStates ≤ states.size` (`num_elements`).
-/
import Daac.Proofs.Rung2
namespace Daac
variable {V : Type}

theorem states_reachable_of_layout (variant : Variant) (cfg : Cfg) (P P' : List (LPat V))
    (da : DA V) (hb : buildDA variant cfg P = .ok da)
    (hS : ∀ t, buildTrie cfg.kind P = .ok t → TrieSem t P')
    (hsub : ∀ p ∈ P', p ∈ P)
    (hlabels : variant = .bytewise → ∀ p ∈ P, ∀ c ∈ p.key, c < 256) :
    ∃ (nodes : List (List Nat)) (idx : List Nat → Nat),
      nodes.Nodup ∧ nodes.length = da.numStates ∧
      (∀ u ∈ nodes, da.walk u = some (idx u) ∧ idx u < da.states.size) ∧
      (∀ u ∈ nodes, ∀ w ∈ nodes, idx u = idx w → u = w) := by
  obtain ⟨t, idx, hT, hsort, hL, hlab, _, hlt, hinj, _, hnum⟩ :=
    build_layout_full variant cfg P P' da hb hS hsub hlabels
  have hmem : ∀ u, u ∈ t.paths [] → t.hasNode u = true := by
    intro u hu
    exact (Trie.mem_paths_nil t hsort u).1 hu
  refine ⟨t.paths [], idx, Trie.nodup_paths t hsort [], ?_, ?_, ?_⟩
  · rw [hnum, Trie.size_eq_length_paths t []]
  · intro u hu
    exact ⟨walk_eq_idx hL hT hlab u (hmem u hu), hlt u (hmem u hu)⟩
  · intro u hu w hw e
    exact hinj u w (hmem u hu) (hmem w hw) e

/-- **Reported state count is truthful.** `numStates` is the length of a duplicate-free list of
node paths, each of which is reachable from the root by following the child lookups along its own
path, at pairwise distinct in-range element indices. -/
theorem states_reachable (variant : Variant) (nfb kind : Nat) (P : List (LPat V)) (da : DA V)
    (hb : buildDA variant ⟨kind, nfb⟩ P = .ok da) (hk : keysOk P)
    (hlabels : variant = .bytewise → ∀ p ∈ P, ∀ c ∈ p.key, c < 256) :
    ∃ (nodes : List (List Nat)) (idx : List Nat → Nat),
      nodes.Nodup ∧ nodes.length = da.numStates ∧
      (∀ u ∈ nodes, da.walk u = some (idx u) ∧ idx u < da.states.size) ∧
      (∀ u ∈ nodes, ∀ w ∈ nodes, idx u = idx w → u = w) := by
  by_cases h2 : kind = 2
  · subst h2
    exact states_reachable_of_layout variant ⟨2, nfb⟩ P (retainedL P) da hb
      (fun t ht => buildTrie_trieSem_lf P t ht hk)
      (fun _ h => (retainedL_sublist P).subset h) hlabels
  · exact states_reachable_of_layout variant ⟨kind, nfb⟩ P P da hb
      (fun t ht => buildTrie_trieSem kind h2 P t ht hk) (fun _ h => h) hlabels

/-- **`num_elements() ≥ num_states()`**: the reported state count does not exceed the number of
double-array elements. -/
theorem num_elements_ge_num_states (variant : Variant) (nfb kind : Nat) (P : List (LPat V))
    (da : DA V) (hb : buildDA variant ⟨kind, nfb⟩ P = .ok da) (hk : keysOk P)
    (hlabels : variant = .bytewise → ∀ p ∈ P, ∀ c ∈ p.key, c < 256) :
    da.numStates ≤ da.states.size := by
  obtain ⟨nodes, idx, hnd, hlen, hw, hinj⟩ := states_reachable variant nfb kind P da hb hk hlabels
  rw [← hlen]
  exact length_le_of_inj nodes idx da.states.size hnd (fun u hu => (hw u hu).2) hinj

#print axioms states_reachable
#print axioms num_elements_ge_num_states

end Daac
