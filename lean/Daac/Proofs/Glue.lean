/-
Glue between the byte-level pattern list of the specification (`Pat`) and the label-level list
the invariants are evaluated on (`LPat`), for the byte-wise variant.
-/
import Daac.InvExtra
import Daac.Proofs.StdSem2
import Daac.Proofs.StdIter
namespace Daac
variable {V : Type} [DecidableEq V]

theorem stdSem_bytes (da : DA V) (Ps : List (Pat V)) (hV : ValidPats Ps)
    (hT : da.tableInv (Ps.map lp) = true) (hZ : da.sizeInv (Ps.map lp) = true) :
    StdSem da (Ps.map lp) := by
  obtain ⟨hne0, hne, hnd⟩ := hV
  refine stdSem_of_tableInv da (Ps.map lp) ?_ ?_ ?_ hT (DA.sizeInv_depth hZ)
  · simpa using hne0
  · rw [List.map_map]; exact hnd
  · intro p hp
    obtain ⟨q, hq, rfl⟩ := List.mem_map.1 hp
    exact hne q hq

end Daac
