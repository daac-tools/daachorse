/-
Translation tie, byte-wise: the definitions GENERATED from /repo's Rust source by
tools/rs2lean.py (`Daac/Gen/SearchB.lean`) are extensionally equal to the hand-written model
(`Daac/Model/Search.lean`) that every property theorem is about.
-/
import Daac.Gen.SearchB
import Daac.Proofs.TieCollect
import Daac.Proofs.Utf8
namespace Daac.Tie
open Daac Daac.Gen

variable {V : Type}

namespace B

theorem nonZero_none (x : Nat) : Rs.nonZero x = none ↔ x = 0 := by
  unfold Rs.nonZero; split <;> simp_all

theorem nonZero_some (x p : Nat) : Rs.nonZero x = some p ↔ (x ≠ 0 ∧ p = x) := by
  unfold Rs.nonZero; split <;> simp_all [eq_comm]

theorem child_eq (da : DA V) (hv : da.variant = .bytewise) (s c : Nat) :
    Gen.B.DA.child_index_unchecked da s c = da.child s c := by
  unfold Gen.B.DA.child_index_unchecked DA.child
  rw [getSt, hv]
  cases da.st s with
  | error e => rfl
  | ok st =>
    dsimp only [Rs.St.base, Rs.nonZero]
    by_cases hb : st.base = 0
    · rw [if_pos hb, if_pos hb]
    · rw [if_neg hb, if_neg hb]
      dsimp only
      rw [getSt]
      cases da.st (st.base ^^^ c) with
      | error e => rfl
      | ok ch =>
        dsimp only
        by_cases hc : ch.check = c
        · rw [if_pos (decide_eq_true hc), if_pos hc]
        · rw [if_neg (mt of_decide_eq_true hc), if_neg hc]

theorem next_loop_sim (da : DA V) (hv : da.variant = .bytewise) (c fuel s n : Nat) :
    Sim (fun t x => t = x.1) (Gen.B.DA.next_state_id_unchecked.loop0 da c fuel s)
      (da.nextLoop fuel s c n) := by
  induction fuel generalizing s n with
  | zero => exact rfl
  | succ fuel ih =>
    refine Sim.bind_ok_iff.1 ?_
    apply Sim.child (child_eq da hv s c)
    · intro t; exact rfl
    apply Sim.iteDecide
    · intro _; exact rfl
    intro _
    apply Sim.bindSt (getSt da s); intro st
    exact Sim.bind_ok_iff.2 (ih st.fail (n + 1))

theorem next_state_eq (da : DA V) (hv : da.variant = .bytewise) (s c : Nat) :
    Gen.B.DA.next_state_id_unchecked da s c = da.next s c := by
  unfold Gen.B.DA.next_state_id_unchecked DA.next DA.nextS DA.code
  rw [hv]
  exact (next_loop_sim da hv c _ s 0).eq_map

theorem next_loop_lm_sim (da : DA V) (hv : da.variant = .bytewise) (c fuel s n : Nat) :
    Sim (fun t x => t = x.1) (Gen.B.DA.next_state_id_leftmost_unchecked.loop0 da c fuel s)
      (da.nextLoopLm fuel s c n) := by
  induction fuel generalizing s n with
  | zero => exact rfl
  | succ fuel ih =>
    refine Sim.bind_ok_iff.1 ?_
    apply Sim.child (child_eq da hv s c)
    · intro t; exact rfl
    apply Sim.iteDecide
    · intro _; exact rfl
    intro _
    apply Sim.bindSt (getSt da s); intro st
    apply Sim.iteDecide
    · intro _; exact rfl
    · intro _; exact Sim.bind_ok_iff.2 (ih st.fail (n + 1))

theorem next_state_lm_eq (da : DA V) (hv : da.variant = .bytewise) (s c : Nat) :
    Gen.B.DA.next_state_id_leftmost_unchecked da s c = da.nextLm s c := by
  unfold Gen.B.DA.next_state_id_leftmost_unchecked DA.nextLm DA.nextLmS DA.code
  rw [hv]
  exact (next_loop_lm_sim da hv c _ s 0).eq_map

def concFind (da : DA V) (it : FindIt) : Gen.B.FindIterator V := ⟨da, it.src⟩
def concNoSuf (da : DA V) (it : NoSufIt) : Gen.B.FindOverlappingNoSuffixIterator V :=
  ⟨da, it.src, it.state⟩
def concOv (da : DA V) (it : OvIt) : Gen.B.FindOverlappingIterator V :=
  ⟨da, it.src, it.state, it.pos, Rs.nonZero it.opos⟩
def concLm (da : DA V) (it : LmIt) : Gen.B.LestmostFindIterator V := ⟨da, it.hay, it.pos⟩

theorem find_loop (da : DA V) (hv : da.variant = .bytewise) (fuel : Nat) (src : Src)
    (state : Nat) :
    Sim (fun p x => Shows (concFind da) (fun _ => True) p ⟨x.1, ⟨x.2.2⟩⟩)
      ((Gen.B.FindIterator.next.loop0 fuel ⟨da, src⟩ state).map (Ctl.out Prod.fst))
      (scanFirst da fuel state src) := by
  induction fuel generalizing src state with
  | zero => exact rfl
  | succ fuel ih =>
    obtain ⟨rest, p⟩ := src
    rw [scanFirst, hv]
    cases rest with
    | nil => exact ⟨rfl, trivial⟩
    | cons b r =>
      apply Sim.bindNat (next_state_eq da hv state b); intro state'
      apply Sim.bindSt (getSt da state'); intro st
      apply Sim.output da st.opos
      · intro o; exact ⟨rfl, trivial⟩
      · exact ih _ _

theorem find_next_fin (it : Gen.B.FindIterator V) :
    Gen.B.FindIterator.next it
      = (Gen.B.FindIterator.next.loop0 (it.haystack.rest.length + 1) it Gen.rootStateIdx).map
          (Ctl.out Prod.fst) := by
  unfold Gen.B.FindIterator.next
  dsimp only
  rcases Gen.B.FindIterator.next.loop0 _ it _ with _ | _ | _ <;> rfl

theorem find_next_eq (da : DA V) (hv : da.variant = .bytewise) (it : FindIt) :
    Sim (Shows (concFind da) fun _ => True) (Gen.B.FindIterator.next (concFind da it))
      (FindIt.next da it) := by
  rw [find_next_fin, FindIt.next_eq]
  exact (find_loop da hv _ _ _).map_right

theorem nosuf_loop (da : DA V) (hv : da.variant = .bytewise) (fuel : Nat) (src : Src)
    (state : Nat) :
    Sim (fun p x => Shows (concNoSuf da) (fun _ => True) p ⟨x.1, ⟨x.2.2, x.2.1⟩⟩)
      ((Gen.B.FindOverlappingNoSuffixIterator.next.loop0 fuel ⟨da, src, state⟩).map (Ctl.out id))
      (scanFirst da fuel state src) := by
  induction fuel generalizing src state with
  | zero => exact rfl
  | succ fuel ih =>
    obtain ⟨rest, p⟩ := src
    rw [scanFirst, hv]
    cases rest with
    | nil => exact ⟨rfl, trivial⟩
    | cons b r =>
      apply Sim.bindNat (next_state_eq da hv state b); intro state'
      apply Sim.bindSt (getSt da state'); intro st
      apply Sim.output da st.opos
      · intro o; exact ⟨rfl, trivial⟩
      · exact ih _ _

theorem nosuf_next_fin (it : Gen.B.FindOverlappingNoSuffixIterator V) :
    Gen.B.FindOverlappingNoSuffixIterator.next it
      = (Gen.B.FindOverlappingNoSuffixIterator.next.loop0 (it.haystack.rest.length + 1) it).map
          (Ctl.out id) := by
  unfold Gen.B.FindOverlappingNoSuffixIterator.next
  rcases Gen.B.FindOverlappingNoSuffixIterator.next.loop0 _ it with _ | _ | _ <;> rfl

theorem nosuf_next_eq (da : DA V) (hv : da.variant = .bytewise) (it : NoSufIt) :
    Sim (Shows (concNoSuf da) fun _ => True)
      (Gen.B.FindOverlappingNoSuffixIterator.next (concNoSuf da it)) (NoSufIt.next da it) := by
  rw [nosuf_next_fin, NoSufIt.next_eq]
  exact (nosuf_loop da hv _ _ _).map_right

theorem ov_loop (da : DA V) (hv : da.variant = .bytewise) (fuel : Nat) (it : OvIt) :
    Sim (Shows (concOv da) fun _ => True)
      ((Gen.B.FindOverlappingIterator.next.loop0 fuel (concOv da it)).map (Ctl.out id))
      (scanOv da fuel it) := by
  induction fuel generalizing it with
  | zero => exact rfl
  | succ fuel ih =>
    obtain ⟨⟨rest, p⟩, state, pos, opos⟩ := it
    rw [scanOv, hv]
    cases rest with
    | nil => exact ⟨rfl, trivial⟩
    | cons b r =>
      apply Sim.bindNat (next_state_eq da hv state b); intro state'
      apply Sim.bindSt (getSt da state'); intro st
      apply Sim.output da st.opos
      · intro o; exact ⟨rfl, trivial⟩
      · exact ih ⟨⟨r, p + 1⟩, state', pos, opos⟩

theorem ov_next_eq (da : DA V) (hv : da.variant = .bytewise) (it : OvIt) :
    Sim (Shows (concOv da) fun _ => True) (Gen.B.FindOverlappingIterator.next (concOv da it))
      (OvIt.next da it) := by
  refine Sim.bind_ok_iff.1 ?_
  apply Sim.output da it.opos
  · intro o; exact ⟨rfl, trivial⟩
  · have h := ov_loop da hv ((concOv da it).haystack.rest.length + 1) it
    revert h
    rcases Gen.B.FindOverlappingIterator.next.loop0 _ (concOv da it) with _ | _ | _ <;> exact id

theorem drop_enumerateFrom {α : Type} (k n : Nat) (l : List α) :
    List.drop k (Rs.enumerateFrom n l) = Rs.enumerateFrom (n + k) (l.drop k) := by
  induction k generalizing n l with
  | zero => rfl
  | succ k ih =>
    cases l with
    | nil => rfl
    | cons a l => rw [Rs.enumerateFrom, List.drop_succ_cons, ih, Nat.add_right_comm]; rfl

/-- an `(index, byte)` pair of the byte-wise leftmost loop as a model item -/
def toW (x : Nat × Nat) : WItem := ⟨x.2, 1, x.1 + 1⟩

theorem byteItems_eq (bs : List Nat) (p : Nat) :
    byteItems bs p = (Rs.enumerateFrom p bs).map toW := by
  induction bs generalizing p with
  | nil => rfl
  | cons b bs ih =>
    have := ih (p + 1)
    simp only [byteItems] at this
    simp [byteItems, Rs.enumerateFrom, List.zipIdx_cons, this, toW]

/-- What `LestmostFindIterator::next` does with the loop-carried variables after its loop: it
returns the match of the last candidate, if there is one. -/
def lmFin : Ctl (Option (Rs.Match V) × Gen.B.LestmostFindIterator V)
      (Gen.B.LestmostFindIterator V × Nat × Option Nat) →
    Except Fault (Option (Rs.Match V) × Gen.B.LestmostFindIterator V)
  | .ret r => .ok r
  | .done (self, _, cand) =>
    match cand with
    | some p =>
      match Rs.getUnchecked self.pma.outputs (p - 1) .oobOutputs with
      | .error e => .error e
      | .ok out => .ok (some ⟨out.length, self.pos, out.value⟩, self)
    | none => .ok (none, self)

theorem lm_loop (da : DA V) (hv : da.variant = .bytewise) (hay : List Nat)
    (items : List (Nat × Nat)) (state cand pos skips : Nat) :
    Sim (fun p x => Shows (concLm da) (fun _ => True) p ⟨x.1, ⟨hay, x.2⟩⟩)
      ((Gen.B.LestmostFindIterator.next.loop0 items ⟨da, hay, pos⟩ state
        (Rs.nonZero cand)).bind lmFin)
      (lmLoop da (items.map toW) state cand pos skips) := by
  induction items generalizing state cand pos skips with
  | nil =>
    rw [List.map_nil, lmLoop, ← ite_not]
    refine Sim.bind_ok_iff.1 ?_
    apply Sim.output da cand
    · intro o; exact ⟨rfl, trivial⟩
    · exact ⟨rfl, trivial⟩
  | cons x rest ih =>
    obtain ⟨idx, c⟩ := x
    rw [List.map_cons, lmLoop, hv]
    apply Sim.bindNat (next_state_lm_eq da hv state c); intro state'
    apply Sim.iteDecide
    · intro _
      apply Sim.output da cand
      · intro o; exact ⟨rfl, trivial⟩
      · exact ih _ _ _ _
    · intro _
      apply Sim.bindSt (getSt da state'); intro st
      apply Sim.newCand st.opos
      · intro h; rw [← nonZero_of_ne h]; exact ih _ _ _ _
      · exact ih _ _ _ _

theorem lm_next_fin (da : DA V) (it : LmIt) :
    Gen.B.LestmostFindIterator.next (concLm da it)
      = (Gen.B.LestmostFindIterator.next.loop0 (Rs.enumerateFrom it.pos (it.hay.drop it.pos))
          (concLm da it) Gen.rootStateIdx none).bind lmFin := by
  have hd : List.drop it.pos (Rs.enumerate it.hay) = Rs.enumerateFrom it.pos (it.hay.drop it.pos) :=
    (drop_enumerateFrom it.pos 0 it.hay).trans (by rw [Nat.zero_add])
  unfold Gen.B.LestmostFindIterator.next
  dsimp only [concLm]
  rw [hd]
  rcases Gen.B.LestmostFindIterator.next.loop0 _ _ _ _ with _ | _ | ⟨_, _, _ | _⟩ <;> rfl

theorem lm_next_eq (da : DA V) (hv : da.variant = .bytewise) (it : LmIt) :
    Sim (Shows (concLm da) fun _ => True) (Gen.B.LestmostFindIterator.next (concLm da it))
      (LmIt.next da it) := by
  have hi : lmItems da.variant it.hay it.pos
      = .ok ((Rs.enumerateFrom it.pos (it.hay.drop it.pos)).map toW) := by
    rw [hv, ← byteItems_eq]; exact allItems_bytewise _ _ _ (Nat.le_refl _)
  rw [lm_next_fin, LmIt.next_eq da it _ hi]
  exact (lm_loop da hv it.hay _ rootIdx 0 it.pos 0).map_right

theorem u8slice_next_eq (it : Gen.B.U8SliceIterator V) :
    (Gen.B.U8SliceIterator.next it) =
      (match it.inner.drop it.pos with
       | [] => (none, it)
       | b :: _ => (some b, { it with pos := it.pos + 1 })) := by
  unfold Gen.B.U8SliceIterator.next
  rw [← List.head?_drop]
  cases it.inner.drop it.pos <;> rfl

end B
end Daac.Tie
