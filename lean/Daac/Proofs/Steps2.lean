/-
Property C13 ("standard scans are linear") from the LAYOUT interface (Rung 2): the 2n transition
bound of Proofs/Steps.lean for a table with `LayoutSem da t (buildNfa t false) idx` instead of the
boolean table invariant `tableInv`. The counted transition is `TransSem.nextS_steps` (the layout
gives `TransSem`), the scan is `scanSteps_of_trans` of Steps.lean, which asks only for that.
-/
import Daac.Proofs.Steps
import Daac.Proofs.LayoutSem
namespace Daac
variable {V : Type}

theorem nextS_steps_pos_of_layout {da : DA V} {t : Trie V} {idx : List Nat → Nat}
    {P : List (LPat V)}
    (hL : LayoutSem da t (buildNfa t false) idx) (hS : TrieSem t P)
    (hlab : ∀ u, t.hasNode u = true → ∀ c ∈ u, LabelOk da c)
    (hD : ∀ u, t.hasNode u = true → u.length < da.states.size)
    {u : List Nat} (hu : u ∈ nodeList P) {c cc : Nat} (hc : LabelOk da c)
    (hcc : da.code c = some cc) :
    ∃ k, da.nextS (da.idx u) c = .ok (da.idx (lsuf (nodeList P) (u ++ [c])), k) ∧ 1 ≤ k ∧
      k + (lsuf (nodeList P) (u ++ [c])).length ≤ u.length + 2 := by
  rw [idx_eq_of_mem hL hS hlab hu, idx_eq_of_mem hL hS hlab (lsuf_mem_nodeList P (u ++ [c]))]
  obtain ⟨k, hk, hk1, hk2⟩ := (transSem_of_layout hL hS).nextS_steps
    (fun u hu => hD u ((hS.nodes u).2 hu)) hu hc
  exact ⟨k, hk, hk1 (hcc ▸ Option.some_ne_none cc), hk2⟩

theorem nextS_steps_of_layout {da : DA V} {t : Trie V} {idx : List Nat → Nat}
    {P : List (LPat V)}
    (hL : LayoutSem da t (buildNfa t false) idx) (hS : TrieSem t P)
    (hlab : ∀ u, t.hasNode u = true → ∀ c ∈ u, LabelOk da c)
    (hD : ∀ u, t.hasNode u = true → u.length < da.states.size) :
    ∀ u ∈ nodeList P, ∀ c, LabelOk da c →
      ∃ k, da.nextS (da.idx u) c = .ok (da.idx (lsuf (nodeList P) (u ++ [c])), k) ∧
        k + (lsuf (nodeList P) (u ++ [c])).length ≤ u.length + 2 := by
  intro u hu c hc
  rw [idx_eq_of_mem hL hS hlab hu, idx_eq_of_mem hL hS hlab (lsuf_mem_nodeList P (u ++ [c]))]
  obtain ⟨k, hk, _, hk2⟩ := (transSem_of_layout hL hS).nextS_steps
    (fun u hu => hD u ((hS.nodes u).2 hu)) hu hc
  exact ⟨k, hk, hk2⟩

theorem steps_le_2n_of_layout {da : DA V} {t : Trie V} {idx : List Nat → Nat}
    {P : List (LPat V)}
    (hL : LayoutSem da t (buildNfa t false) idx) (hS : TrieSem t P)
    (hlab : ∀ u, t.hasNode u = true → ∀ c ∈ u, LabelOk da c)
    (hD : ∀ u, t.hasNode u = true → u.length < da.states.size)
    {h : List Nat} {items : List WItem}
    (hi : allItems da.variant (h.length + 1) ⟨h, 0⟩ = .ok items)
    (hl : ∀ w ∈ items, LabelOk da w.label) :
    ∃ total, scanSteps da (h.length + 1) rootIdx (startSrc h) 0 = .ok total ∧
      total ≤ 2 * items.length ∧ total ≤ 2 * h.length :=
  steps_total_of_trans (lsuf_mem_nodeList P) (nextS_steps_of_layout hL hS hlab hD)
    (nodeList_prefClosed P).nil_mem hi hl

/-- Uniqueness form: whatever total the scan returns obeys the bound. -/
theorem steps_le_2n_of_layout' {da : DA V} {t : Trie V} {idx : List Nat → Nat}
    {P : List (LPat V)}
    (hL : LayoutSem da t (buildNfa t false) idx) (hS : TrieSem t P)
    (hlab : ∀ u, t.hasNode u = true → ∀ c ∈ u, LabelOk da c)
    (hD : ∀ u, t.hasNode u = true → u.length < da.states.size)
    {h : List Nat} {items : List WItem}
    (hi : allItems da.variant (h.length + 1) ⟨h, 0⟩ = .ok items)
    (hl : ∀ w ∈ items, LabelOk da w.label) {total : Nat}
    (hs : scanSteps da (h.length + 1) rootIdx (startSrc h) 0 = .ok total) :
    total ≤ 2 * items.length ∧ total ≤ 2 * h.length := by
  obtain ⟨total', h1, h2, h3⟩ := steps_le_2n_of_layout hL hS hlab hD hi hl
  rw [h1] at hs
  cases hs
  exact ⟨h2, h3⟩

#print axioms nextS_steps_of_layout
#print axioms steps_le_2n_of_layout
#print axioms steps_le_2n_of_layout'

end Daac
