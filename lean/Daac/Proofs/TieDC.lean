/-
Translation tie, construction side, CHAR-WISE builder:
`CharwiseDoubleArrayAhoCorasickBuilder::build_double_array` GENERATED from the repository's
`src/charwise/builder.rs` by tools/dbl2lean.py (`Daac/Gen/BuildC.lean`, keyed by the state ids of the
sparse NFA, `state_id_map : Array Nat`, edges mapped through `CodeMapper::get` and sorted by
`sort_by` on the code) against the hand-written model `buildLayout .charwise` (Daac/Model/Build.lean,
keyed by trie paths, edges inserted by `insertByCodeP`).

Same structure as Proofs/TieD.lean, whose `RelE`, `NfaRep`, `FailNodes`, `IdInj` and whose lemmas for
both variants (`place_sim`, `dfs_sim`, `init_stage`, `layoutStep_le`) are reused; `genStep`,
`loop0_succ`, `tail_sim` and the step are this builder's own (see the head of Proofs/TieD.lean for
why).  The generated loops are numbered one higher than the byte-wise ones (`loop1` builds `mapped`):
`loop1_sim_c` is about `loop2`, `loop2_sim_c` about `loop3`.  New here: the `mapped` list —
`Rs.sortByFst` (stable insertion sort, `≤`) of the mapped edges is the model's `edgeCodes .charwise`
(insertion with `<`) because the codes of the edges of a node are pairwise distinct.  The fail /
output_pos pass is in Proofs/TieDCFail.lean (`loop2_sim_c`).
-/
import Daac.Gen.BuildC
import Daac.Proofs.TieD
import Daac.Proofs.TieDCFail
namespace Daac.Tie.DC
open Daac Daac.Gen Daac.Tie.H Daac.Tie.D
variable {V : Type}

/-- The prelude's `CodeMapper.get` (textually the definition generated from src/charwise/mapper.rs) is
the model's `Mapper.get`. -/
theorem codeMapper_get_eq (m : Mapper) (c : Nat) : Rs.CodeMapper.get m c = m.get c := by
  unfold Rs.CodeMapper.get Mapper.get
  cases m.table[c]? with
  | none => rfl
  | some code =>
    simp only [invalidCode]
    by_cases h : code = Gen.invalidCode
    · simp [h]
    · simp [h]

def toId (ido : List Nat → Nat) (e : Nat × List Nat) : Nat × Nat := (e.1, ido e.2)

/-- Insertion with `<` (model) = insertion with `≤` (stable sort) when the key is new. -/
theorem map_insertByCodeP (ido : List Nat → Nat) (x : Nat × List Nat) :
    ∀ (l : List (Nat × List Nat)), x.1 ∉ l.map (·.1) →
      (insertByCodeP x l).map (toId ido) = Rs.insertByFst (toId ido x) (l.map (toId ido)) := by
  intro l
  induction l with
  | nil => intro _; rfl
  | cons y r ih =>
    intro hx
    simp only [List.map_cons, List.mem_cons, not_or] at hx
    unfold insertByCodeP
    simp only [List.map_cons, Rs.insertByFst, toId]
    by_cases hlt : x.1 < y.1
    · have hle : x.1 ≤ y.1 := Nat.le_of_lt hlt
      simp only [hlt, hle, if_true, List.map_cons, toId]
    · have hle : ¬ x.1 ≤ y.1 := by
        intro h
        have := hx.1
        omega
      simp only [hlt, hle, if_false, List.map_cons, toId]
      have := ih hx.2
      simp only [toId] at this
      rw [this]

/-- The model's edge list as a pure fold (all labels mapped; `kf w` is the code of the last label). -/
def edgesOf (kf : List Nat → Nat) (cp : List (List Nat)) : List (Nat × List Nat) :=
  cp.foldr (fun w acc => insertByCodeP (kf w, w) acc) []

theorem edgesOf_perm (kf : List Nat → Nat) (cp : List (List Nat)) :
    (edgesOf kf cp).Perm (cp.map (fun w => (kf w, w))) := by
  induction cp with
  | nil => exact List.Perm.refl _
  | cons w r ih =>
    simp only [edgesOf, List.foldr_cons, List.map_cons]
    exact (LayC.insertByCodeP_perm _ _).trans (List.Perm.cons _ ih)

theorem sortByFst_map_eq (ido : List Nat → Nat) (kf : List Nat → Nat) :
    ∀ (cp : List (List Nat)), (cp.map kf).Nodup →
      Rs.sortByFst (cp.map (fun w => (kf w, ido w))) = (edgesOf kf cp).map (toId ido) := by
  intro cp
  induction cp with
  | nil => intro _; rfl
  | cons w r ih =>
    intro hnd
    simp only [List.map_cons, List.nodup_cons] at hnd
    have hr := ih hnd.2
    simp only [Rs.sortByFst, List.map_cons, List.foldr_cons] at hr ⊢
    rw [hr]
    simp only [edgesOf, List.foldr_cons]
    rw [map_insertByCodeP]
    · rfl
    · intro hmem
      apply hnd.1
      have hp := ((edgesOf_perm kf r).map (·.1))
      have := hp.mem_iff.1 hmem
      simpa [List.map_map, Function.comp_def] using this

theorem ecStep_foldl_eq (m : Mapper) (kf : List Nat → Nat) (L : List (List Nat))
    (h : ∀ w ∈ L, m.get (w.getLastD 0) = some (kf w)) : ∀ (l0 : List (Nat × List Nat)),
    L.foldl (LayC.ecStep m) (.ok l0) = .ok (L.foldl (fun acc w => insertByCodeP (kf w, w) acc) l0) := by
  induction L with
  | nil => intro l0; rfl
  | cons w L ih =>
    intro l0
    rw [List.foldl_cons, LayC.ecStep_ok_some (h w List.mem_cons_self),
      ih (fun w' hw' => h w' (List.mem_cons_of_mem _ hw'))]
    rfl

theorem edgeCodes_eq_edgesOf (m : Mapper) (t : Trie V) (u : List Nat) (kf : List Nat → Nat)
    (h : ∀ w ∈ t.childPaths u, m.get (w.getLastD 0) = some (kf w)) :
    edgeCodes .charwise m t u = .ok (edgesOf kf (t.childPaths u)) := by
  rw [LayC.edgeCodes_eq, ecStep_foldl_eq m kf _ (fun w hw => h w (List.mem_reverse.1 hw)), List.foldl_reverse]
  rfl

/-- `for (&label, &child_id) in &s.edges { mapped.push((mapper.get(label).unwrap(), child_id)) }` -/
theorem loop1_eq (b : LC.Builder) (ido : List Nat → Nat) (kf : List Nat → Nat) :
    ∀ (cp : List (List Nat)), (∀ w ∈ cp, b.mapper.get (w.getLastD 0) = some (kf w)) →
    ∀ (acc : List (Nat × Nat)),
      DC.Builder.build_double_array.loop1 b (cp.map (fun w => (w.getLastD 0, ido w))) acc
        = .ok (acc ++ cp.map (fun w => (kf w, ido w))) := by
  intro cp
  induction cp with
  | nil => intro _ acc; simp [DC.Builder.build_double_array.loop1]
  | cons w r ih =>
    intro h acc
    simp only [List.map_cons, DC.Builder.build_double_array.loop1]
    rw [codeMapper_get_eq, h w List.mem_cons_self]
    simp only
    rw [ih (fun w' hw' => h w' (List.mem_cons_of_mem _ hw'))]
    simp

structure Sim (m : Mapper) (BL : Nat) (t : Trie V) (ido : List Nat → Nat) (b : LC.Builder) (g : H.BuildHelper)
    (sm : Array Nat) (lay : Lay) : Prop where
  states : b.states = lay.states
  helper : repr g = lay.h
  wf : Wf g
  map : ∀ u, t.hasNode u = true → sm[ido u]? = some (lay.idx.getD u deadIdx)
  mp : b.mapper = m
  blk : b.block_len = BL

theorem loop1_sim_c (m : Mapper) (BL : Nat) (t : Trie V) (ido : List Nat → Nat) (hinj : IdInj t ido) (sidx base : Nat) :
    ∀ (edges : List (Nat × List Nat)), (∀ e ∈ edges, t.hasNode e.2 = true) →
    ∀ (b : LC.Builder) (g : H.BuildHelper) (sm : Array Nat) (stk : List Nat) (lay : Lay),
    Sim m BL t ido b g sm lay →
    RelE (fun r lay' => Sim m BL t ido r.1 r.2.1 r.2.2.1 lay' ∧
            r.2.2.2 = (edges.map (fun e => ido e.2)).reverse ++ stk)
      (DC.Builder.build_double_array.loop2 sidx base (edges.map (toId ido)) b g sm stk)
      (placeChildren .charwise sidx base edges lay) :=
  place_sim (·.states) (fun b A => { b with states := A }) (Sim m BL t ido) t ido
    (fun S => ⟨S.states, S.helper, S.wf, S.map⟩)
    (fun S _ _ _ _ h1 h2 h3 h4 => ⟨h1, h2, h3, h4, S.mp, S.blk⟩)
    .charwise hinj sidx base (DC.Builder.build_double_array.loop2 sidx base) (fun _ _ _ _ => rfl)
    (fun _ _ _ _ _ _ _ => rfl)

/-- The body of the generated DFS loop (proof-internal; `loop0_succ` shows that the generated loop is
exactly this body followed by the recursive call). -/
def genStep (nfa : N.NfaBuilder V) (b : LC.Builder) (g : H.BuildHelper) (sm : Array Nat) (sid : Nat)
    (stk : List Nat) (mapped : List (Nat × Nat)) :
    Except BuildErr (LC.Builder × H.BuildHelper × Array Nat × List Nat × List (Nat × Nat)) :=
  match Rs.index nfa.states sid with
  | .error e => .error e
  | .ok s =>
    match Rs.index sm sid with
    | .error e => .error e
    | .ok sidx =>
      if List.isEmpty s.edges then .ok (b, g, sm, stk, mapped) else
      match DC.Builder.build_double_array.loop1 b s.edges [] with
      | .error e => .error e
      | .ok mapped =>
        let mapped := Rs.sortByFst mapped
        match LC.Builder.find_base b mapped g with
        | .error e => .error e
        | .ok base =>
          match ((if decide (b.states.size ≤ base) then
              match LC.Builder.extend_array b g with
              | .error e => .error e
              | .ok (_, b, g) => .ok (b, g)
            else .ok (b, g)) : Except BuildErr (LC.Builder × H.BuildHelper)) with
          | .error e => .error e
          | .ok (b, g) =>
            match DC.Builder.build_double_array.loop2 sidx base mapped b g sm stk with
            | .error e => .error e
            | .ok (b, g, sm, stk) =>
              match Rs.index b.states sidx with
              | .error e => .error e
              | .ok el =>
                .ok ({ b with states := b.states.setIfInBounds sidx (Rs.StC.set_base el base) }, g, sm, stk, mapped)

theorem loop0_nil (nfa : N.NfaBuilder V) (fuel : Nat) (b : LC.Builder) (g : H.BuildHelper) (sm : Array Nat)
    (mapped : List (Nat × Nat)) :
    DC.Builder.build_double_array.loop0 nfa (fuel + 1) b g sm [] mapped = .ok (b, g, sm, [], mapped) := by
  simp only [DC.Builder.build_double_array.loop0]

theorem loop0_succ (nfa : N.NfaBuilder V) (fuel : Nat) (b : LC.Builder) (g : H.BuildHelper) (sm : Array Nat)
    (sid : Nat) (stk : List Nat) (mapped : List (Nat × Nat)) :
    DC.Builder.build_double_array.loop0 nfa (fuel + 1) b g sm (sid :: stk) mapped =
      match genStep nfa b g sm sid stk mapped with
      | .error e => .error e
      | .ok (b', g', sm', stk', mapped') => DC.Builder.build_double_array.loop0 nfa fuel b' g' sm' stk' mapped' := by
  rw [DC.Builder.build_double_array.loop0]
  unfold genStep
  cases Rs.index nfa.states sid with
  | error e => rfl
  | ok s =>
    dsimp only
    cases Rs.index sm sid with
    | error e => rfl
    | ok sidx =>
      dsimp only
      cases hE : List.isEmpty s.edges with
      | true => simp only [if_true]
      | false =>
        simp only [Bool.false_eq_true, if_false]
        cases DC.Builder.build_double_array.loop1 b s.edges [] with
        | error e => rfl
        | ok mp =>
          dsimp only
          cases LC.Builder.find_base b (Rs.sortByFst mp) g with
          | error e => rfl
          | ok base =>
            dsimp only
            generalize (if decide (b.states.size ≤ base) then _ else _ :
              Except BuildErr (LC.Builder × H.BuildHelper)) = X
            cases X with
            | error e => rfl
            | ok p =>
              obtain ⟨b1, g1⟩ := p
              dsimp only
              cases DC.Builder.build_double_array.loop2 sidx base (Rs.sortByFst mp) b1 g1 sm stk with
              | error e => rfl
              | ok q =>
                obtain ⟨b2, g2, sm2, stk2⟩ := q
                dsimp only
                cases Rs.index b2.states sidx with
                | error e => rfl
                | ok el => rfl

theorem extend_array_fields {b b1 : LC.Builder} {g g1 : H.BuildHelper} {u : Unit} (hw : Wf g)
    (h : LC.Builder.extend_array b g = .ok (u, b1, g1)) :
    Wf g1 ∧ b1.mapper = b.mapper ∧ b1.block_len = b.block_len := by
  unfold LC.Builder.extend_array at h
  split at h
  · cases h
  · split at h
    · cases h
    · rename_i r1 s2 hp
      simp only [Except.ok.injEq, Prod.mk.injEq] at h
      obtain ⟨_, rfl, rfl⟩ := h
      exact ⟨wf_of_size hw (push_block_size hw hp), rfl, rfl⟩

theorem tail_sim (m : Mapper) (BL : Nat) (t : Trie V) (ido : List Nat → Nat) (hinj : IdInj t ido)
    (edges : List (Nat × List Nat)) (hnode : ∀ e ∈ edges, t.hasNode e.2 = true)
    (b1 : LC.Builder) (g1 : H.BuildHelper) (sm : Array Nat) (lay1 : Lay) (S1 : Sim m BL t ido b1 g1 sm lay1)
    (sidx base : Nat) (pstk : List (List Nat)) (mapped : List (Nat × Nat)) :
    RelE (fun r p => Sim m BL t ido r.1 r.2.1 r.2.2.1 p.2 ∧ r.2.2.2.1 = p.1.map ido)
      (match DC.Builder.build_double_array.loop2 sidx base (edges.map (toId ido)) b1 g1 sm (pstk.map ido) with
        | .error e => .error e
        | .ok (b, g, sm, stk) =>
          match Rs.index b.states sidx with
          | .error e => .error e
          | .ok el =>
            (.ok ({ b with states := b.states.setIfInBounds sidx (Rs.StC.set_base el base) }, g, sm, stk, mapped) :
              Except BuildErr (LC.Builder × H.BuildHelper × Array Nat × List Nat × List (Nat × Nat))))
      (stepTail .charwise sidx base edges pstk lay1) := by
  unfold stepTail
  rcases (loop1_sim_c m BL t ido hinj sidx base edges hnode b1 g1 sm (pstk.map ido) lay1 S1).inv with
    ⟨⟨b2, g2, sm2, stk2⟩, lay2, hl, hp, S2, hstk⟩ | ⟨e1, e2, hl, hp, he⟩
  · rw [hl, hp]
    dsimp only
    rw [S2.states]
    rcases index_setSt' lay2.states sidx (fun st => { st with base := base }) with ⟨el, i1, i2⟩ | ⟨s1, s2, i1, i2⟩
    · rw [i1, i2]
      exact ⟨⟨rfl, S2.helper, S2.wf, S2.map, S2.mp, S2.blk⟩, hstk.trans (stack_map ido edges pstk)⟩
    · rw [i1, i2]
      exact RelE.err (SameErr.panic _ _)
  · rw [hl, hp]
    exact RelE.err he

theorem edgesOf_length (kf : List Nat → Nat) (cp : List (List Nat)) : (edgesOf kf cp).length = cp.length := by
  have := (edgesOf_perm kf cp).length_eq
  simpa using this

theorem edgesOf_node (kf : List Nat → Nat) (t : Trie V) (u : List Nat) :
    ∀ e ∈ edgesOf kf (t.childPaths u), t.hasNode e.2 = true := by
  intro e he
  have := (edgesOf_perm kf (t.childPaths u)).mem_iff.1 he
  obtain ⟨w, hw, rfl⟩ := List.mem_map.1 this
  obtain ⟨c, rfl, hc, _⟩ := (Trie.mem_childPaths t u w).1 hw
  exact hc

/-- `kf` gives the code of the last label of a child path. -/
theorem step_sim_c (m : Mapper) (BL : Nat) (t : Trie V) (ido : List Nat → Nat) (hinj : IdInj t ido)
    (nfa : N.NfaBuilder V) (u : List Nat) (hu : t.hasNode u = true) (s : N.NfaBuilderState V)
    (hs : nfa.states[ido u]? = some s)
    (he : s.edges = (LayB.edgesB t u).map (fun e => (e.1, ido e.2)))
    (kf : List Nat → Nat) (hk : ∀ w ∈ t.childPaths u, m.get (w.getLastD 0) = some (kf w))
    (hnd : ((t.childPaths u).map kf).Nodup)
    (b : LC.Builder) (g : H.BuildHelper) (sm : Array Nat) (lay : Lay) (S : Sim m BL t ido b g sm lay)
    (vac : List Nat) (mwf : lay.h.WF) (ll : lay.h.LL vac) (hbl : lay.h.blockLen = BL)
    (hsz : lay.states.size ≤ 4294967295)
    (hz : ∀ e ∈ edgesOf kf (t.childPaths u), lay.states.size ^^^ e.1 ≠ 0)
    (pstk : List (List Nat)) (mapped : List (Nat × Nat)) :
    RelE (fun r p => Sim m BL t ido r.1 r.2.1 r.2.2.1 p.2 ∧ r.2.2.2.1 = p.1.map ido)
      (genStep nfa b g sm (ido u) (pstk.map ido) mapped)
      (layoutStep .charwise m t u pstk lay) := by
  have hec := edgeCodes_eq_edgesOf m t u kf hk
  have hnode := edgesOf_node kf t u
  have hse : s.edges = (t.childPaths u).map (fun w => (w.getLastD 0, ido w)) := by
    rw [he]; unfold LayB.edgesB; rw [List.map_map]; rfl
  have hl1 : DC.Builder.build_double_array.loop1 b s.edges []
      = .ok ((t.childPaths u).map (fun w => (kf w, ido w))) := by
    rw [hse, loop1_eq b ido kf _ (by rw [S.mp]; exact hk)]
    rfl
  have hsort := sortByFst_map_eq ido kf (t.childPaths u) hnd
  have hlen := edgesOf_length kf (t.childPaths u)
  unfold genStep
  rw [index_ok' _ _ _ hs, index_ok' _ _ _ (S.map u hu)]
  simp only [hl1, hsort]
  cases hE : edgesOf kf (t.childPaths u) with
  | nil =>
    rw [hE] at hec hlen
    have hcp : t.childPaths u = [] := List.eq_nil_of_length_eq_zero (by simpa using hlen.symm)
    rw [layoutStep_nil pstk lay hec, hse, hcp]
    simp only [List.map_nil, List.isEmpty_nil, if_true, RelE]
    exact ⟨S, trivial⟩
  | cons e0 rest =>
    rw [hE] at hec hnode hlen hz
    rw [layoutStep_cons pstk lay hec]
    have hne : List.isEmpty s.edges = false := by
      rw [hse]
      cases hcp : t.childPaths u with
      | nil => rw [hcp] at hlen; simp at hlen
      | cons w r => rfl
    rw [hne]
    simp only [Bool.false_eq_true, if_false]
    have hcodes : ((e0 :: rest).map (toId ido)).map (·.1) = (e0 :: rest).map (·.1) := by
      rw [List.map_map]; rfl
    have hfb := Props.TieBuild.generated_find_base_charwise b g vac
      ⟨S.wf, by rw [S.helper]; exact mwf, by rw [S.helper]; exact ll⟩ lay.idx ((e0 :: rest).map (toId ido))
      (List.cons_ne_nil _ _) (by rw [S.states]; exact hsz)
      (by rw [hcodes, S.states]; exact hz e0 List.mem_cons_self)
    rw [S.states, S.helper, hcodes, show (⟨lay.states, lay.h, lay.idx⟩ : Lay) = lay from rfl] at hfb
    rcases norm_cases' _ _ hfb with ⟨base, f1, f2⟩ | ⟨e1, e2, f1, f2, hee⟩
    · rw [f1, f2]
      dsimp only
      by_cases hge : lay.states.size ≤ base
      · rw [if_pos hge, S.states, decide_eq_true hge, if_pos rfl]
        have hx := Tie.L.C.extend_array_eq b g S.wf
          (by rw [S.blk, ← hbl, ← S.helper]; rfl) lay.idx
        rw [S.states, S.helper, show (⟨lay.states, lay.h, lay.idx⟩ : Lay) = lay from rfl] at hx
        rcases (RelE.of_norm hx).inv with ⟨⟨uu, b1, g1⟩, lay1, x1, x2, xr⟩ | ⟨e1, e2, x1, x2, hee⟩
        · rw [x1, x2]
          obtain ⟨r1, r2⟩ := Prod.mk.inj xr
          obtain ⟨f1', f2', f3'⟩ := extend_array_fields S.wf x1
          exact tail_sim m BL t ido hinj (e0 :: rest) hnode b1 g1 sm lay1
            ⟨r1, r2, f1', by rw [D.extendArray_idx _ _ _ x2]; exact S.map,
              f2'.trans S.mp, f3'.trans S.blk⟩ _ base pstk _
        · rw [x1, x2]
          exact RelE.err hee
      · rw [if_neg hge, S.states, decide_eq_false hge, if_neg Bool.false_ne_true]
        exact tail_sim m BL t ido hinj (e0 :: rest) hnode b g sm lay S _ base pstk _
    · rw [f1, f2]
      exact RelE.err hee

/-- The code of the last label of a child path (`0` if unmapped; never used then). -/
def codeOf (m : Mapper) (w : List Nat) : Nat := (m.get (w.getLastD 0)).getD 0

theorem loop_sim_c (m : Mapper) (BL n : Nat) (hpow : BL = 2 ^ n) (hBL2 : 2 ≤ BL) (hα : m.alphaSize ≤ BL)
    (hm : LayC.MapperOk m) (t : Trie V) (ido : List Nat → Nat) (nfa : N.NfaBuilder V)
    (hinj : IdInj t ido)
    (hnode : ∀ u, t.hasNode u = true → ∃ s, nfa.states[ido u]? = some s ∧
      s.edges = (LayB.edgesB t u).map (fun e => (e.1, ido e.2)))
    (hsort : t.Sorted) (hmap : ∀ u, t.hasNode u = true → ∀ c ∈ u, ∃ k, m.get c = some k) :
    ∀ (fm fg : Nat) (pstk : List (List Nat)) (lay : Lay) (seen : List (List Nat)) (vac : List Nat)
      (b : LC.Builder) (g : H.BuildHelper) (sm : Array Nat) (mapped : List (Nat × Nat)),
      LayC.Inv m t BL lay pstk → lay.h.LL vac → T t seen pstk → t.size + 1 ≤ fm + seen.length → fm + 1 ≤ fg →
      lay.states.size ≤ 4294967295 → Sim m BL t ido b g sm lay →
      RelE (fun r lay' => Sim m BL t ido r.1 r.2.1 r.2.2.1 lay' ∧ LayC.Inv m t BL lay' [] ∧
              lay'.states.size ≤ 4294967295)
        (DC.Builder.build_double_array.loop0 nfa fg b g sm (pstk.map ido) mapped)
        (layoutLoop .charwise m t fm pstk lay) := by
  refine dfs_sim .charwise m t ido hsort (DC.Builder.build_double_array.loop0 nfa) (genStep nfa)
    (loop0_nil nfa) (fun _ _ _ _ _ _ _ _ _ _ _ _ h => by rw [loop0_succ, h])
    (fun _ _ _ _ _ _ _ _ h => by rw [loop0_succ, h]) (Sim m BL t ido) (LayC.Inv m t BL) ?_
  intro u rest lay vac b g sm mapped hu I ll hle S
  obtain ⟨edges, hec, nd1, hclt, nd2, hsub⟩ := edgesOK_charwise (BL := BL) hsort hm hα hmap hu
  have hk : ∀ w ∈ t.childPaths u, m.get (w.getLastD 0) = some (codeOf m w) := by
    intro w hw
    obtain ⟨c, rfl, hc, _⟩ := (Trie.mem_childPaths t u w).1 hw
    obtain ⟨k, hk⟩ := hmap _ hc c (by simp)
    unfold codeOf
    rw [List.getLastD_concat, hk]
    rfl
  obtain rfl : edges = edgesOf (codeOf m) (t.childPaths u) :=
    Except.ok.inj (hec.symm.trans (edgeCodes_eq_edgesOf m t u (codeOf m) hk))
  have hnd : ((t.childPaths u).map (codeOf m)).Nodup := by
    have := ((edgesOf_perm (codeOf m) (t.childPaths u)).map (·.1)).nodup_iff.1 nd1
    simpa [List.map_map, Function.comp_def] using this
  obtain ⟨s, hs, hse⟩ := hnode u hu
  have hpos : 0 < lay.states.size := Nat.zero_lt_of_lt (I.ixLt [] I.hasRoot)
  -- the array holds at least one block, so `len ^^^ code` is not 0 for a code below the block length
  have hge : BL ≤ lay.states.size := by
    rw [I.size]
    exact Nat.le_mul_of_pos_left _ (Nat.pos_of_mul_pos_right (I.size ▸ hpos))
  have hz : ∀ e ∈ edgesOf (codeOf m) (t.childPaths u), lay.states.size ^^^ e.1 ≠ 0 := by
    intro e he
    have := hclt e he
    exact LayC.xor_ne_zero (by omega)
  refine ⟨step_sim_c m BL t ido hinj nfa u hu s hs hse (codeOf m) hk hnd b g sm lay S vac I.wf ll
    I.bl hle hz rest mapped, ?_⟩
  intro stack' lay' es
  rcases layoutStep_progress (v := .charwise) hpow (fun h => nomatch h)
      ⟨I.wf, I.bl, I.size, fun w hw => I.ixLt w (I.stackHas w hw)⟩ ll hec nd1 hclt with ⟨lay'', es', hll⟩ | hsc
  · obtain ⟨rfl, rfl⟩ := Prod.mk.inj (Except.ok.inj (es.symm.trans es'))
    exact ⟨⟨_, nd2, hsub, rfl⟩, LayC.layoutStep_inv hBL2 hα hm hsort I es, hll, layoutStep_le hpos hle es⟩
  · rw [hsc] at es
    cases es

theorem map_states_match (X : Except BuildErr LC.Builder) :
    (match X with
      | .error e => (.error e : Except BuildErr (Unit × LC.Builder))
      | .ok self => .ok ((), self)).map (fun p : Unit × LC.Builder => p.2.states)
      = X.map (fun b : LC.Builder => b.states) := by
  cases X <;> rfl

/-- The char-wise `build_double_array` as translated from the Rust text computes the
table of the model's `buildLayout .charwise` (up to panic texts), for every `NfaBuilder` that represents
the model NFA (`NfaRep`; `FailNodes`: the model's fail targets are trie nodes), on a sorted trie all of
whose labels are mapped by the builder's code mapper (codes below the alphabet size and injective:
`LayC.MapperOk`, which Proofs/MapperFacts.lean proves of `Mapper.build P`), starting from an empty
builder with the configured number of free blocks. -/
theorem build_double_array_refines_charwise (cfg : Cfg) (mapper : Mapper) (t : Trie V) (nfa : Nfa V)
    (g : N.NfaBuilder V) (ido : List Nat → Nat) (R : NfaRep g t nfa ido) (hfn : FailNodes t nfa)
    (hsort : t.Sorted) (hm : LayC.MapperOk mapper)
    (hmap : ∀ u, t.hasNode u = true → ∀ c ∈ u, ∃ k, mapper.get c = some k) (hnfb : 1 ≤ cfg.nfb)
    (b : LC.Builder) (hb : b.states = #[]) (hn : b.num_free_blocks = cfg.nfb) (hmp : b.mapper = mapper) :
    norm ((DC.Builder.build_double_array b g).map (·.2.states))
      = norm (buildLayout .charwise cfg mapper t nfa) := by
  have hi := Tie.L.C.init_array_eq b hb
  rw [hn, hmp, show max 2 (Nat.nextPowerOfTwo mapper.alphaSize) = blOf .charwise mapper from rfl] at hi
  obtain ⟨⟨n, hpow⟩, hBL2, hα⟩ := LayC.blockLen_facts mapper.alphaSize
  unfold DC.Builder.build_double_array
  rcases init_stage LC.Builder.states .charwise cfg mapper t nfa hBL2 hnfb _ hi with
    ⟨e, x1, he, hbl⟩ | ⟨gh, b1, h0, h1, h2, h3, x1, e0, e1, e2, e3, ll3, xs, xh, hcap, heq⟩
  · rw [x1, hbl]
    exact he _
  · have hfields : Wf gh ∧ b1.mapper = mapper ∧ b1.block_len = blOf .charwise mapper := by
      rw [Tie.L.C.init_array_unfold] at x1
      cases hgi : Tie.L.genInit (max (Nat.nextPowerOfTwo b.mapper.alphaSize) 2) b.num_free_blocks with
      | error e => rw [hgi] at x1; cases x1
      | ok gh' =>
        rw [hgi] at x1
        cases x1
        refine ⟨genInit_wf _ _ _ hgi, hmp, ?_⟩
        show max (Nat.nextPowerOfTwo b.mapper.alphaSize) 2 = max 2 (Nat.nextPowerOfTwo mapper.alphaSize)
        rw [hmp, Nat.max_comm]
    have hgpos : 0 < g.states.size := by rw [R.size]; omega
    rw [x1, heq]
    dsimp only
    rw [root_indexSet _ hgpos]
    dsimp only
    have hsz0 : (initLay .charwise (blOf .charwise mapper) h3).states.size ≤ 4294967295 := by
      show (Array.replicate (blOf .charwise mapper) (stDefault .charwise)).size ≤ 4294967295
      rw [Array.size_replicate]
      exact Nat.le_trans (Nat.le_mul_of_pos_right _ hnfb) hcap
    have L := loop_sim_c mapper (blOf .charwise mapper) n hpow hBL2 hα hm t ido g R.inj
      (fun u hu => (R.node u hu).imp fun s h => ⟨h.1, h.2.1⟩) hsort hmap
      (t.size + 1) (g.states.size + 1) [[]]
      (initLay .charwise (blOf .charwise mapper) h3) [] _ b1 gh _ []
      (LayC.inv_init e0 e1 e2 e3) ll3 (T.init t) (Nat.le_refl _) (by rw [R.size]; omega) hsz0
      ⟨xs, xh, hfields.1, init_map .charwise _ h3 R, hfields.2.1, hfields.2.2⟩
    simp only [List.map_cons, List.map_nil, R.root] at L
    rcases L.inv with ⟨⟨b2, gh2, sm2, stk2, mapped2⟩, lay1, hx, hy, S2, J2, _⟩ | ⟨e1, e2, hx, hy, he⟩
    · rw [hx, hy]
      unfold afterLoop
      dsimp only
      rcases (loop2_sim_c mapper (blOf .charwise mapper) t nfa g ido R hfn hsort b2 sm2 lay1
        S2.states S2.map J2).inv with ⟨b3, lay2, hx2, hy2, hst⟩ | ⟨e1, e2, hx2, hy2, he⟩
      · rw [hx2, hy2]
        exact congrArg (fun A => norm (.ok A)) hst
      · rw [hx2, hy2]
        exact he _
    · rw [hx, hy]
      exact he _

end Daac.Tie.DC

#print axioms Daac.Tie.DC.sortByFst_map_eq
#print axioms Daac.Tie.DC.loop1_sim_c
#print axioms Daac.Tie.DC.step_sim_c
#print axioms Daac.Tie.DC.loop_sim_c
#print axioms Daac.Tie.DC.loop2_sim_c
#print axioms Daac.Tie.DC.build_double_array_refines_charwise
