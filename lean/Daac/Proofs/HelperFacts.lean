/-
Facts about the ring-buffer free-slot manager `Helper` (Model/Build.lean, `BuildHelper`):
window arithmetic, flag queries and what every mutator writes to the four per-slot fields
(`next`, `prev`, `usedIndex`, `usedBase`) as read at the active indices.
-/
import Daac.Model.Build
namespace Daac

-- The fields of the `ListItem` of index `i` (kept in four arrays by the model), read at its
-- slot `i % cap`.
def Helper.usedI (h : Helper) (i : Nat) : Bool := h.usedIndex.getD (i % h.cap) false
def Helper.usedB (h : Helper) (i : Nat) : Bool := h.usedBase.getD (i % h.cap) false
def Helper.nextOf (h : Helper) (i : Nat) : Nat := h.next.getD (i % h.cap) 0
def Helper.prevOf (h : Helper) (i : Nat) : Nat := h.prev.getD (i % h.cap) 0
def Helper.Active (h : Helper) (i : Nat) : Prop :=
  h.activeStart * h.blockLen ≤ i ∧ i < h.numBlocks * h.blockLen

structure Helper.WF (h : Helper) : Prop where
  blockLen_pos : 0 < h.blockLen
  nfb_pos : 0 < h.nfb
  size_next : h.next.size = h.blockLen * h.nfb
  size_prev : h.prev.size = h.blockLen * h.nfb
  size_usedBase : h.usedBase.size = h.blockLen * h.nfb
  size_usedIndex : h.usedIndex.size = h.blockLen * h.nfb

section
variable {h h' : Helper}

theorem mod_inj_of_le {c i j : Nat} (hij : i ≤ j) (hlt : j < i + c) (h : i % c = j % c) :
    i = j := by
  have h0 : (j - i) % c = 0 := Nat.sub_mod_eq_zero_of_mod_eq h.symm
  rw [Nat.mod_eq_of_lt (Nat.sub_lt_left_of_lt_add hij hlt)] at h0
  exact Nat.le_antisymm hij (Nat.le_of_sub_eq_zero h0)

theorem Helper.WF.cap_eq (wf : h.WF) : h.cap = h.blockLen * h.nfb := wf.size_next

theorem Helper.WF.window_le (wf : h.WF) :
    h.numBlocks * h.blockLen ≤ h.activeStart * h.blockLen + h.cap := by
  rw [wf.cap_eq, Nat.mul_comm h.blockLen h.nfb, ← Nat.add_mul]
  exact Nat.mul_le_mul_right _ (Nat.le_add_of_sub_le (Nat.le_refl _))

theorem Helper.WF.full_iff (wf : h.WF) :
    h.cap ≤ h.numElements ↔ h.nfb ≤ h.numBlocks := by
  rw [wf.cap_eq, Helper.numElements, Nat.mul_comm h.numBlocks]
  exact ⟨fun le => Nat.le_of_mul_le_mul_left le wf.blockLen_pos, Nat.mul_le_mul_left _⟩

/-- Pushing a block raises the lower end of the window by at most one block and never past
the old upper end. -/
theorem Helper.WF.shift_le (wf : h.WF) :
    h.activeStart * h.blockLen ≤ (h.numBlocks + 1 - h.nfb) * h.blockLen ∧
      (h.numBlocks + 1 - h.nfb) * h.blockLen ≤ h.numBlocks * h.blockLen :=
  ⟨Nat.mul_le_mul_right _ (Nat.sub_le_sub_right (Nat.le_succ _) _),
    Nat.mul_le_mul_right _ (Nat.sub_le_of_le_add (Nat.add_le_add_left wf.nfb_pos _))⟩

/-- The active window is at most one capacity wide, so `% cap` is injective on it. -/
theorem Helper.active_mod_inj (wf : h.WF) {i j : Nat}
    (hi : h.Active i) (hj : h.Active j) (e : i % h.cap = j % h.cap) : i = j := by
  have win : ∀ {i j}, h.Active i → h.Active j → j < i + h.cap := fun hi hj =>
    Nat.lt_of_lt_of_le hj.2 (Nat.le_trans wf.window_le (Nat.add_le_add_right hi.1 _))
  rcases Nat.le_total i j with le | le
  · exact mod_inj_of_le le (win hi hj) e
  · exact (mod_inj_of_le le (win hj hi) e.symm).symm

theorem Helper.mod_cap_lt (wf : h.WF) (i : Nat) : i % h.cap < h.cap :=
  Nat.mod_lt _ (wf.cap_eq ▸ Nat.mul_pos wf.blockLen_pos wf.nfb_pos)

end

theorem Helper.off_active {h : Helper} {i : Nat} (a : h.Active i) : h.off i = .ok (i % h.cap) := by
  unfold Helper.off
  rw [if_pos (by simp only [Bool.and_eq_true, decide_eq_true_eq]; exact a)]

theorem Helper.off_not_active {h : Helper} {i : Nat} (na : ¬ h.Active i) :
    h.off i = .error (.panic "assert!(active_index_range().contains(&idx))") := by
  unfold Helper.off
  rw [if_neg (by simp only [Bool.and_eq_true, decide_eq_true_eq]; exact na)]

theorem Helper.off_ok {h : Helper} {i o : Nat} :
    h.off i = .ok o ↔ h.Active i ∧ o = i % h.cap := by
  by_cases a : h.Active i
  · rw [Helper.off_active a, Except.ok.injEq, eq_comm]; exact (and_iff_right a).symm
  · rw [Helper.off_not_active a]; exact ⟨nofun, fun c => absurd c.1 a⟩

theorem Helper.off_lt_cap {h : Helper} (wf : h.WF) {i o : Nat} (e : h.off i = .ok o) :
    o < h.cap := by
  rw [(Helper.off_ok.1 e).2]; exact h.mod_cap_lt wf i

section
variable {h h' : Helper}

theorem Helper.isUsedIndex_ok {i : Nat} {b : Bool} :
    h.isUsedIndex i = .ok b ↔ h.Active i ∧ b = h.usedI i := by
  unfold Helper.isUsedIndex
  by_cases a : h.Active i
  · rw [Helper.off_active a, Except.ok.injEq, eq_comm]; exact (and_iff_right a).symm
  · rw [Helper.off_not_active a]; exact ⟨nofun, fun c => absurd c.1 a⟩

theorem Helper.isUsedBase_ok {i : Nat} {b : Bool} :
    h.isUsedBase i = .ok b ↔ h.Active i ∧ b = h.usedB i := by
  unfold Helper.isUsedBase
  by_cases a : h.Active i
  · rw [Helper.off_active a, Except.ok.injEq, eq_comm]; exact (and_iff_right a).symm
  · rw [Helper.off_not_active a]; exact ⟨nofun, fun c => absurd c.1 a⟩

theorem getD_set_self {α} (a : Array α) (o : Nat) (v d : α) (h : o < a.size) :
    (a.setIfInBounds o v).getD o d = v := by
  simp [Array.getD_eq_getD_getElem?, h]

theorem getD_set_ne {α} (a : Array α) (o k : Nat) (v d : α) (h : o ≠ k) :
    (a.setIfInBounds o v).getD k d = a.getD k d := by
  simp [Array.getD_eq_getD_getElem?, h]

/-- Writing the slot of an active index and reading the slot of another: slots of distinct
active indices are distinct. All four arrays have the size `blockLen * nfb`. -/
theorem Helper.getD_set_active {α} (wf : h.WF) {arr : Array α}
    (hs : arr.size = h.blockLen * h.nfb) {i x : Nat} (ai : h.Active i) (ax : h.Active x)
    (v d : α) :
    (arr.setIfInBounds (i % h.cap) v).getD (x % h.cap) d =
      if x = i then v else arr.getD (x % h.cap) d := by
  have hlt : i % h.cap < arr.size := by rw [hs, ← wf.cap_eq]; exact h.mod_cap_lt wf i
  by_cases e : x = i
  · rw [if_pos e, e]; exact getD_set_self _ _ _ _ hlt
  · rw [if_neg e]
    exact getD_set_ne _ _ _ _ _ (fun em => e (Helper.active_mod_inj wf ax ai em.symm))

theorem Helper.Active_congr (e1 : h'.blockLen = h.blockLen) (e2 : h'.nfb = h.nfb)
    (e3 : h'.numBlocks = h.numBlocks) (j : Nat) : h'.Active j ↔ h.Active j := by
  unfold Helper.Active Helper.activeStart; rw [e1, e2, e3]

structure Helper.Same (h h' : Helper) : Prop where
  blockLen : h'.blockLen = h.blockLen
  nfb : h'.nfb = h.nfb
  numBlocks : h'.numBlocks = h.numBlocks
  size_next : h'.next.size = h.next.size
  size_prev : h'.prev.size = h.prev.size
  size_usedBase : h'.usedBase.size = h.usedBase.size
  size_usedIndex : h'.usedIndex.size = h.usedIndex.size

theorem Helper.Same.refl (h : Helper) : h.Same h := ⟨rfl, rfl, rfl, rfl, rfl, rfl, rfl⟩

theorem Helper.Same.trans {h h' h'' : Helper} (s : h.Same h') (t : h'.Same h'') : h.Same h'' :=
  ⟨t.blockLen.trans s.blockLen, t.nfb.trans s.nfb, t.numBlocks.trans s.numBlocks,
    t.size_next.trans s.size_next, t.size_prev.trans s.size_prev,
    t.size_usedBase.trans s.size_usedBase, t.size_usedIndex.trans s.size_usedIndex⟩

theorem Helper.Same.cap (s : h.Same h') : h'.cap = h.cap := s.size_next

theorem Helper.Same.wf (s : h.Same h') (wf : h.WF) : h'.WF := by
  refine ⟨?_, ?_, ?_, ?_, ?_, ?_⟩
  · rw [s.blockLen]; exact wf.blockLen_pos
  · rw [s.nfb]; exact wf.nfb_pos
  · rw [s.size_next, s.blockLen, s.nfb]; exact wf.size_next
  · rw [s.size_prev, s.blockLen, s.nfb]; exact wf.size_prev
  · rw [s.size_usedBase, s.blockLen, s.nfb]; exact wf.size_usedBase
  · rw [s.size_usedIndex, s.blockLen, s.nfb]; exact wf.size_usedIndex

theorem Helper.Same.active (s : h.Same h') (j : Nat) : h'.Active j ↔ h.Active j :=
  Helper.Active_congr s.blockLen s.nfb s.numBlocks j

theorem Helper.useBase_ok (wf : h.WF) {i : Nat} (e : h.useBase i = .ok h') :
    h.Active i ∧ h'.usedB i = true ∧
    (∀ j, h.Active j → j ≠ i → h'.usedB j = h.usedB j) ∧
    (∀ j, h'.usedI j = h.usedI j) ∧
    h'.blockLen = h.blockLen ∧ h'.nfb = h.nfb ∧ h'.numBlocks = h.numBlocks ∧ h'.WF := by
  unfold Helper.useBase at e
  by_cases a : h.Active i
  · rw [Helper.off_active a] at e
    rw [← Except.ok.inj e]
    refine ⟨a, ?_, fun j aj ne => ?_, fun _ => rfl, rfl, rfl, rfl, ?_⟩
    · exact (Helper.getD_set_active wf wf.size_usedBase a a true false).trans (if_pos rfl)
    · exact (Helper.getD_set_active wf wf.size_usedBase a aj true false).trans (if_neg ne)
    · exact ⟨wf.blockLen_pos, wf.nfb_pos, wf.size_next, wf.size_prev,
        Array.size_setIfInBounds.trans wf.size_usedBase, wf.size_usedIndex⟩
  · rw [Helper.off_not_active a] at e; cases e

def Helper.unlink (h : Helper) (i hd : Nat) : Helper :=
  { h with usedIndex := h.usedIndex.setIfInBounds (i % h.cap) true,
           next := h.next.setIfInBounds (h.prevOf i % h.cap) (h.nextOf i),
           prev := h.prev.setIfInBounds (h.nextOf i % h.cap) (h.prevOf i),
           head := if hd = i then (if h.nextOf i ≠ i then some (h.nextOf i) else none)
                   else some hd }

theorem Helper.useIndex_iff {i : Nat} :
    h.useIndex i = .ok h' ↔
      ∃ hd, h.head = some hd ∧ h.Active i ∧ h.usedI i = false ∧ h.Active (h.prevOf i) ∧
        h.Active (h.nextOf i) ∧ h' = h.unlink i hd := by
  constructor
  · intro e
    revert e
    fun_cases Helper.useIndex h i <;> intro e
    case case6 =>
      rename_i o eo hu nx pv po epo no eno hd ehd
      obtain ⟨a, rfl⟩ := Helper.off_ok.1 eo
      obtain ⟨ap, rfl⟩ := Helper.off_ok.1 epo
      obtain ⟨an, rfl⟩ := Helper.off_ok.1 eno
      exact ⟨hd, ehd, a, Bool.eq_false_iff.2 hu, ap, an, (Except.ok.inj e).symm⟩
    all_goals cases e
  · rintro ⟨hd, ehd, a, u, ap, an, rfl⟩
    have ap' : h.off (h.prev.getD (i % h.cap) 0) = .ok (h.prevOf i % h.cap) := Helper.off_active ap
    have an' : h.off (h.next.getD (i % h.cap) 0) = .ok (h.nextOf i % h.cap) := Helper.off_active an
    unfold Helper.usedI at u
    unfold Helper.useIndex
    rw [Helper.off_active a]
    simp only [u, Bool.false_eq_true, if_false, ap', an', ehd]
    rfl

theorem Helper.unlink_same (h : Helper) (i hd : Nat) : h.Same (h.unlink i hd) := by
  unfold Helper.unlink
  exact ⟨rfl, rfl, rfl, Array.size_setIfInBounds, Array.size_setIfInBounds, rfl,
    Array.size_setIfInBounds⟩

theorem Helper.unlink_head (h : Helper) (i hd : Nat) :
    (h.unlink i hd).head =
      if hd = i then (if h.nextOf i ≠ i then some (h.nextOf i) else none) else some hd := rfl

theorem Helper.unlink_usedI {i hd x : Nat} (wf : h.WF) (ai : h.Active i)
    (ax : h.Active x) : (h.unlink i hd).usedI x = if x = i then true else h.usedI x := by
  unfold Helper.usedI
  rw [(h.unlink_same i hd).cap]
  unfold Helper.unlink
  exact Helper.getD_set_active wf wf.size_usedIndex ai ax true false

theorem Helper.unlink_links {i hd x : Nat} (wf : h.WF)
    (ap : h.Active (h.prevOf i)) (an : h.Active (h.nextOf i)) (ax : h.Active x) :
    (h.unlink i hd).nextOf x = (if x = h.prevOf i then h.nextOf i else h.nextOf x) ∧
    (h.unlink i hd).prevOf x = (if x = h.nextOf i then h.prevOf i else h.prevOf x) := by
  unfold Helper.nextOf Helper.prevOf
  rw [(h.unlink_same i hd).cap]
  unfold Helper.unlink
  exact ⟨Helper.getD_set_active wf wf.size_next ap ax _ 0,
    Helper.getD_set_active wf wf.size_prev an ax _ 0⟩

theorem Helper.useIndex_ok (wf : h.WF) {i : Nat} (e : h.useIndex i = .ok h') :
    h.Active i ∧ h.usedI i = false ∧ h'.usedI i = true ∧
    (∀ j, h.Active j → j ≠ i → h'.usedI j = h.usedI j) ∧
    (∀ j, h'.usedB j = h.usedB j) ∧
    h'.blockLen = h.blockLen ∧ h'.nfb = h.nfb ∧ h'.numBlocks = h.numBlocks ∧ h'.WF := by
  obtain ⟨hd, _, a, u, _, _, rfl⟩ := Helper.useIndex_iff.1 e
  have s := h.unlink_same i hd
  refine ⟨a, u, ?_, ?_, ?_, s.blockLen, s.nfb, s.numBlocks, s.wf wf⟩
  · rw [Helper.unlink_usedI wf a a, if_pos rfl]
  · intro j aj ne; rw [Helper.unlink_usedI wf a aj, if_neg ne]
  · intro j; unfold Helper.usedB; rw [s.cap]; rfl

theorem Helper.useIndex_same {h h' : Helper} {i : Nat} (e : h.useIndex i = .ok h') : h.Same h' := by
  obtain ⟨hd, _, _, _, _, _, rfl⟩ := Helper.useIndex_iff.1 e
  exact h.unlink_same i hd

theorem Helper.closeLoop_ok {fuel endIdx : Nat} (wf : h.WF)
    (e : Helper.closeLoop fuel endIdx h = .ok h') :
    h.Same h' ∧ (∀ j, h.Active j → endIdx ≤ j → h'.usedI j = h.usedI j) ∧
    (∀ j, h'.usedB j = h.usedB j) := by
  revert e
  fun_induction Helper.closeLoop fuel endIdx h <;> intro e
  case case2 | case3 =>
    rw [← Except.ok.inj e]
    exact ⟨Helper.Same.refl _, fun _ _ _ => rfl, fun _ => rfl⟩
  case case5 endIdx h hd _ hlt h1 e1 ih =>
    obtain ⟨_, _, _, fr, fb, _, _, _, wf1⟩ := Helper.useIndex_ok wf e1
    have s1 := Helper.useIndex_same e1
    obtain ⟨s, c1, c2⟩ := ih wf1 e
    refine ⟨s1.trans s, fun j aj le => ?_, fun j => (c2 j).trans (fb j)⟩
    rw [c1 j ((s1.active j).2 aj) le]
    exact fr j aj (fun e => hlt (e ▸ le))
  all_goals cases e

def Helper.resetAt (h : Helper) (idx : Nat) : Helper :=
  { h with next := h.next.setIfInBounds (idx % h.cap) (idx + 1),
           prev := h.prev.setIfInBounds (idx % h.cap) (if idx = 0 then u32Max else idx - 1),
           usedBase := h.usedBase.setIfInBounds (idx % h.cap) false,
           usedIndex := h.usedIndex.setIfInBounds (idx % h.cap) false }

theorem Helper.resetLoop_succ_eq {n idx : Nat} (a : h.Active idx) :
    Helper.resetLoop (n + 1) idx h = Helper.resetLoop n (idx + 1) (h.resetAt idx) := by
  rw [Helper.resetLoop, Helper.off_active a]
  rfl

theorem Helper.resetAt_same (h : Helper) (idx : Nat) : h.Same (h.resetAt idx) := by
  unfold Helper.resetAt
  exact ⟨rfl, rfl, rfl, Array.size_setIfInBounds, Array.size_setIfInBounds,
    Array.size_setIfInBounds, Array.size_setIfInBounds⟩

structure Helper.Fresh (h : Helper) (x : Nat) : Prop where
  nextOf : h.nextOf x = x + 1
  prevOf : h.prevOf x = if x = 0 then u32Max else x - 1
  usedI : h.usedI x = false
  usedB : h.usedB x = false

structure Helper.SameAt (h h' : Helper) (x : Nat) : Prop where
  nextOf : h'.nextOf x = h.nextOf x
  prevOf : h'.prevOf x = h.prevOf x
  usedI : h'.usedI x = h.usedI x
  usedB : h'.usedB x = h.usedB x

theorem Helper.SameAt.trans {h h' h'' : Helper} {x : Nat} (s : h.SameAt h' x)
    (t : h'.SameAt h'' x) : h.SameAt h'' x :=
  ⟨t.nextOf.trans s.nextOf, t.prevOf.trans s.prevOf, t.usedI.trans s.usedI, t.usedB.trans s.usedB⟩

theorem Helper.Fresh.of_sameAt {x : Nat} (f : h.Fresh x) (s : h.SameAt h' x) :
    h'.Fresh x :=
  ⟨s.nextOf.trans f.nextOf, s.prevOf.trans f.prevOf, s.usedI.trans f.usedI, s.usedB.trans f.usedB⟩

theorem Helper.Fresh.prevOf_succ {x : Nat} (f : h.Fresh (x + 1)) :
    h.prevOf (x + 1) = x := by
  rw [f.prevOf, if_neg (Nat.succ_ne_zero x)]; rfl

theorem Helper.resetAt_self (wf : h.WF) (idx : Nat) : (h.resetAt idx).Fresh idx := by
  have hlt : ∀ {α} {arr : Array α}, arr.size = h.blockLen * h.nfb → idx % h.cap < arr.size :=
    fun hs => by rw [hs, ← wf.cap_eq]; exact h.mod_cap_lt wf idx
  have c := (h.resetAt_same idx).cap
  constructor
  · unfold Helper.nextOf; rw [c]; exact getD_set_self _ _ _ _ (hlt wf.size_next)
  · unfold Helper.prevOf; rw [c]; exact getD_set_self _ _ _ _ (hlt wf.size_prev)
  · unfold Helper.usedI; rw [c]; exact getD_set_self _ _ _ _ (hlt wf.size_usedIndex)
  · unfold Helper.usedB; rw [c]; exact getD_set_self _ _ _ _ (hlt wf.size_usedBase)

theorem Helper.resetAt_other {idx x : Nat} (ne : idx % h.cap ≠ x % h.cap) :
    h.SameAt (h.resetAt idx) x := by
  have c := (h.resetAt_same idx).cap
  constructor
  · unfold Helper.nextOf; rw [c]; exact getD_set_ne _ _ _ _ _ ne
  · unfold Helper.prevOf; rw [c]; exact getD_set_ne _ _ _ _ _ ne
  · unfold Helper.usedI; rw [c]; exact getD_set_ne _ _ _ _ _ ne
  · unfold Helper.usedB; rw [c]; exact getD_set_ne _ _ _ _ _ ne

theorem Helper.resetLoop_spec {n idx : Nat} (wf : h.WF)
    (ha : ∀ m, idx ≤ m → m < idx + n → h.Active m) :
    ∃ h', Helper.resetLoop n idx h = .ok h' ∧ h.Same h' ∧ h'.head = h.head ∧
      (∀ x, h.Active x →
        (idx ≤ x → x < idx + n → h'.Fresh x) ∧ (¬ (idx ≤ x ∧ x < idx + n) → h.SameAt h' x)) ∧
      ∀ k, h'.usedB k = true → h.usedB k = true := by
  induction n generalizing idx h with
  | zero =>
    exact ⟨h, rfl, Helper.Same.refl h, rfl, fun x _ =>
      ⟨fun lo hi => absurd hi (Nat.not_lt.2 lo), fun _ => ⟨rfl, rfl, rfl, rfl⟩⟩, fun _ u => u⟩
  | succ n ih =>
    have a' : idx < idx + (n + 1) := Nat.lt_add_of_pos_right (Nat.succ_pos n)
    have a := ha idx (Nat.le_refl _) a'
    have comm : idx + 1 + n = idx + (n + 1) := Nat.add_right_comm idx 1 n
    have s1 := h.resetAt_same idx
    obtain ⟨h', e, s, ehd, spec, mono⟩ := ih (h := h.resetAt idx) (idx := idx + 1) (s1.wf wf)
      (fun m lo hi => (s1.active m).2 (ha m (Nat.le_of_succ_le lo) (comm ▸ hi)))
    refine ⟨h', (Helper.resetLoop_succ_eq a).trans e, s1.trans s, ehd, fun x ax => ?_,
      fun k u => ?_⟩
    · have later := spec x ((s1.active x).2 ax)
      by_cases ex : x = idx
      · subst ex
        -- the slot written first is not written again
        have same := later.2 (fun c => Nat.not_succ_le_self x c.1)
        exact ⟨fun _ _ => (Helper.resetAt_self wf x).of_sameAt same,
          fun o => absurd ⟨Nat.le_refl x, a'⟩ o⟩
      · have ne : idx % h.cap ≠ x % h.cap := fun em =>
          ex (Helper.active_mod_inj wf ax a em.symm)
        exact ⟨fun lo hi => later.1 (Nat.lt_of_le_of_ne lo (Ne.symm ex)) (comm ▸ hi),
          fun o => (Helper.resetAt_other ne).trans
            (later.2 (fun c => o ⟨Nat.le_of_succ_le c.1, comm ▸ c.2⟩))⟩
    · have u1 := mono k u
      by_cases em : idx % h.cap = k % h.cap
      · -- the slot of `k` has just been cleared
        have f := (Helper.resetAt_self wf idx).usedB
        unfold Helper.usedB at f u1
        rw [s1.cap, em] at f
        rw [s1.cap, f] at u1
        cases u1
      · exact (Helper.resetAt_other em).usedB.symm.trans u1

def Helper.closedOf (h0 : Helper) : Except BuildErr Helper :=
  match h0.droppedBlock with
  | some cb => h0.closeLoop (h0.blockLen + 1) ((cb + 1) * h0.blockLen)
  | none => .ok h0

def Helper.splice (h2 : Helper) (oldLen newLen : Nat) : Except BuildErr Helper :=
  match h2.head with
  | some hd =>
    match h2.off hd, h2.off oldLen, h2.off (newLen - 1) with
    | .ok ho, .ok oo, .ok no =>
      let tail := h2.prev.getD ho 0
      match h2.off tail with
      | .error e => .error e
      | .ok to =>
        let prev1 := h2.prev.setIfInBounds oo tail
        let next1 := h2.next.setIfInBounds to oldLen
        let next2 := next1.setIfInBounds no hd
        let prev2 := prev1.setIfInBounds ho (newLen - 1)
        .ok { h2 with next := next2, prev := prev2 }
    | .error e, _, _ => .error e
    | _, .error e, _ => .error e
    | _, _, .error e => .error e
  | none =>
    match h2.off oldLen, h2.off (newLen - 1) with
    | .ok oo, .ok no =>
      .ok { h2 with prev := h2.prev.setIfInBounds oo (newLen - 1),
                    next := h2.next.setIfInBounds no oldLen,
                    head := some oldLen }
    | .error e, _ => .error e
    | _, .error e => .error e

theorem Helper.pushBlock_eq (h0 : Helper) :
    h0.pushBlock =
      if h0.numElements > u32Max - h0.blockLen then .error .automatonScale else
      match h0.closedOf with
      | .error e => .error e
      | .ok h1 =>
        match Helper.resetLoop h1.blockLen h1.numElements { h1 with numBlocks := h1.numBlocks + 1 } with
        | .error e => .error e
        | .ok h2 => h2.splice h1.numElements (h1.numElements + h1.blockLen) := by
  unfold Helper.pushBlock Helper.closedOf Helper.splice
  rfl

theorem Helper.pushBlock_iff :
    h.pushBlock = .ok h' ↔ h.numElements ≤ u32Max - h.blockLen ∧
      ∃ h1 h2, h.closedOf = .ok h1 ∧
        Helper.resetLoop h1.blockLen h1.numElements { h1 with numBlocks := h1.numBlocks + 1 }
          = .ok h2 ∧
        h2.splice h1.numElements (h1.numElements + h1.blockLen) = .ok h' := by
  rw [Helper.pushBlock_eq]
  constructor
  · intro e
    split at e
    · cases e
    · rename_i hsz
      split at e
      · cases e
      · rename_i h1 ec
        split at e
        · cases e
        · rename_i h2 er
          exact ⟨Nat.le_of_not_gt hsz, h1, h2, ec, er, e⟩
  · rintro ⟨hsz, h1, h2, ec, er, es⟩
    rw [if_neg (Nat.not_lt.2 hsz), ec]
    simp only
    rw [er]
    exact es

theorem Helper.closedOf_eq (wf : h.WF) :
    h.closedOf = if h.nfb ≤ h.numBlocks then
        h.closeLoop (h.blockLen + 1) ((h.numBlocks + 1 - h.nfb) * h.blockLen)
      else .ok h := by
  unfold Helper.closedOf Helper.droppedBlock
  by_cases hf : h.nfb ≤ h.numBlocks
  · have e : h.activeStart + 1 = h.numBlocks + 1 - h.nfb := (Nat.sub_add_comm hf).symm
    rw [if_pos (wf.full_iff.2 hf), if_pos hf, ← e]
  · rw [if_neg (fun c => hf (wf.full_iff.1 c)), if_neg hf]

theorem Helper.closedOf_ok {h0 h1 : Helper} (wf : h0.WF) (e : h0.closedOf = .ok h1) :
    h0.Same h1 ∧
    (∀ j, (h0.numBlocks + 1 - h0.nfb) * h0.blockLen ≤ j → j < h0.numBlocks * h0.blockLen →
      h1.usedI j = h0.usedI j) ∧
    (∀ j, h1.usedB j = h0.usedB j) := by
  rw [Helper.closedOf_eq wf] at e
  split at e
  · rename_i hf
    obtain ⟨s, c1, c2⟩ := Helper.closeLoop_ok wf e
    exact ⟨s, fun j lo hi => c1 j ⟨Nat.le_trans wf.shift_le.1 lo, hi⟩ lo, c2⟩
  · cases e
    exact ⟨Helper.Same.refl h0, fun _ _ _ => rfl, fun _ => rfl⟩

theorem Helper.newBlock_spec {h1 : Helper} (wf : h1.WF) :
    ∃ h2, Helper.resetLoop h1.blockLen h1.numElements { h1 with numBlocks := h1.numBlocks + 1 }
        = .ok h2 ∧
      h2.blockLen = h1.blockLen ∧ h2.nfb = h1.nfb ∧ h2.numBlocks = h1.numBlocks + 1 ∧ h2.WF ∧
      h2.head = h1.head ∧
      (∀ x, h2.Active x →
        (h1.numBlocks * h1.blockLen ≤ x → h2.Fresh x) ∧
        (x < h1.numBlocks * h1.blockLen → h1.SameAt h2 x)) ∧
      ∀ k, h2.usedB k = true → h1.usedB k = true := by
  have wfb : ({ h1 with numBlocks := h1.numBlocks + 1 } : Helper).WF :=
    ⟨wf.blockLen_pos, wf.nfb_pos, wf.size_next, wf.size_prev, wf.size_usedBase, wf.size_usedIndex⟩
  have top : h1.numElements + h1.blockLen = (h1.numBlocks + 1) * h1.blockLen := by
    rw [Helper.numElements, Nat.add_mul, Nat.one_mul]
  obtain ⟨h2, e, s, ehd, spec, mono⟩ := Helper.resetLoop_spec (n := h1.blockLen)
    (idx := h1.numElements) wfb (fun m lo hi => ⟨Nat.le_trans wf.shift_le.2 lo, top ▸ hi⟩)
  refine ⟨h2, e, s.blockLen, s.nfb, s.numBlocks, s.wf wfb, ehd, fun x ax => ?_, mono⟩
  have axb := (s.active x).1 ax
  have hi : x < h1.numElements + h1.blockLen := by rw [top]; exact axb.2
  refine ⟨fun lo => (spec x axb).1 lo hi, fun lt => ?_⟩
  have k := (spec x axb).2 (fun c => Nat.lt_irrefl _ (Nat.lt_of_lt_of_le lt c.1))
  exact ⟨k.nextOf, k.prevOf, k.usedI, k.usedB⟩

theorem Helper.splice_ok {h2 h' : Helper} {a b : Nat} (e : h2.splice a b = .ok h') :
    h2.Same h' ∧ h'.usedIndex = h2.usedIndex ∧ h'.usedBase = h2.usedBase := by
  unfold Helper.splice at e
  split at e
  · split at e
    · simp only at e
      split at e
      · cases e
      · rw [← Except.ok.inj e]
        exact ⟨⟨rfl, rfl, rfl, by simp only [Array.size_setIfInBounds],
          by simp only [Array.size_setIfInBounds], rfl, rfl⟩, rfl, rfl⟩
    · cases e
    · cases e
    · cases e
  · split at e
    · rw [← Except.ok.inj e]
      exact ⟨⟨rfl, rfl, rfl, Array.size_setIfInBounds, Array.size_setIfInBounds, rfl, rfl⟩,
        rfl, rfl⟩
    · cases e
    · cases e

/-- The last part holds for arbitrary, also non-active, indices. -/
theorem Helper.pushBlock_spec (wf : h.WF) (e : h.pushBlock = .ok h') :
    h'.numBlocks = h.numBlocks + 1 ∧ h'.blockLen = h.blockLen ∧ h'.nfb = h.nfb ∧ h'.WF ∧
    (∀ j, h.numBlocks * h.blockLen ≤ j → j < (h.numBlocks + 1) * h.blockLen →
      h'.usedI j = false ∧ h'.usedB j = false) ∧
    (∀ j, h'.Active j → j < h.numBlocks * h.blockLen →
      h'.usedI j = h.usedI j ∧ h'.usedB j = h.usedB j) ∧
    (∀ k, h'.usedB k = true → h.usedB k = true) := by
  obtain ⟨_, h1, h2, ec, er, es⟩ := Helper.pushBlock_iff.1 e
  obtain ⟨s1, c1, c2⟩ := Helper.closedOf_ok wf ec
  obtain ⟨h2', er', ebl, enfb, enb, wf2, _, spec, mono⟩ := Helper.newBlock_spec (s1.wf wf)
  cases er.symm.trans er'
  obtain ⟨s2, eI, eB⟩ := Helper.splice_ok es
  have hI : ∀ j, h'.usedI j = h2.usedI j := fun j => by unfold Helper.usedI; rw [eI, s2.cap]
  have hB : ∀ j, h'.usedB j = h2.usedB j := fun j => by unfold Helper.usedB; rw [eB, s2.cap]
  rw [s1.numBlocks, s1.blockLen] at spec
  have enb' : h'.numBlocks = h.numBlocks + 1 := by rw [s2.numBlocks, enb, s1.numBlocks]
  have enfb' : h'.nfb = h.nfb := by rw [s2.nfb, enfb, s1.nfb]
  have ebl' : h'.blockLen = h.blockLen := by rw [s2.blockLen, ebl, s1.blockLen]
  have act' : ∀ j, h'.Active j ↔
      (h.numBlocks + 1 - h.nfb) * h.blockLen ≤ j ∧ j < (h.numBlocks + 1) * h.blockLen := by
    intro j
    unfold Helper.Active Helper.activeStart
    rw [enb', enfb', ebl']
  refine ⟨enb', ebl', enfb', s2.wf wf2, fun j lo hi => ?_, fun j aj hi => ?_, fun k u => ?_⟩
  · have aj := (act' j).2 ⟨Nat.le_trans wf.shift_le.2 lo, hi⟩
    have f := (spec j ((s2.active j).1 aj)).1 lo
    exact ⟨(hI j).trans f.usedI, (hB j).trans f.usedB⟩
  · have k := (spec j ((s2.active j).1 aj)).2 hi
    exact ⟨(hI j).trans (k.usedI.trans (c1 j ((act' j).1 aj).1 hi)),
      (hB j).trans (k.usedB.trans (c2 j))⟩
  · exact (c2 k).symm.trans (mono k ((hB k).symm.trans u))

theorem Helper.pushBlock_ok (wf : h.WF) (e : h.pushBlock = .ok h') :
    h'.numBlocks = h.numBlocks + 1 ∧ h'.blockLen = h.blockLen ∧ h'.nfb = h.nfb ∧ h'.WF ∧
    (∀ j, h.numBlocks * h.blockLen ≤ j → j < (h.numBlocks + 1) * h.blockLen →
      h'.usedI j = false ∧ h'.usedB j = false) ∧
    (∀ j, h'.Active j → j < h.numBlocks * h.blockLen →
      h'.usedI j = h.usedI j ∧ h'.usedB j = h.usedB j) :=
  let ⟨enb, ebl, enfb, wf', new, old, _⟩ := Helper.pushBlock_spec wf e
  ⟨enb, ebl, enfb, wf', new, old⟩

theorem Helper.new_ok {bl nfb : Nat} (e : Helper.new bl nfb = .ok h) :
    h.WF ∧ h.numBlocks = 0 ∧ h.blockLen = bl ∧ h.nfb = nfb ∧ h.head = none ∧
    (∀ j, h.usedI j = false) ∧ (∀ j, h.usedB j = false) := by
  revert e
  fun_cases Helper.new bl nfb <;> intro e
  case case3 cap _ hne =>
    rw [← Except.ok.inj e]
    have hb : 0 < bl := Nat.pos_of_ne_zero (fun z => hne (show bl * nfb = 0 by rw [z, Nat.zero_mul]))
    have hn : 0 < nfb := Nat.pos_of_ne_zero (fun z => hne (show bl * nfb = 0 by rw [z, Nat.mul_zero]))
    have clear : ∀ k, (Array.replicate (bl * nfb) false).getD k false = false := by
      intro k
      simp only [Array.getD_eq_getD_getElem?, Array.getElem?_replicate]
      split <;> rfl
    exact ⟨⟨hb, hn, Array.size_replicate, Array.size_replicate, Array.size_replicate,
      Array.size_replicate⟩, rfl, rfl, rfl, rfl, fun _ => clear _, fun _ => clear _⟩
  all_goals cases e

theorem Helper.init_ok {bl nfb : Nat} {h0 h1 h2 h3 : Helper}
    (e0 : Helper.new bl nfb = .ok h0) (e1 : h0.pushBlock = .ok h1)
    (e2 : h1.useIndex 0 = .ok h2) (e3 : h2.useIndex 1 = .ok h3) :
    h3.WF ∧ h3.numBlocks = 1 ∧ h3.blockLen = bl ∧ h3.nfb = nfb ∧ 2 ≤ bl ∧
    (∀ j, h3.Active j ↔ j < bl) ∧
    h3.usedI 0 = true ∧ h3.usedI 1 = true ∧
    (∀ j, 2 ≤ j → j < bl → h3.usedI j = false) ∧
    (∀ j, h3.usedB j = false) := by
  obtain ⟨wf0, n0, b0, f0, _, _, ub0⟩ := Helper.new_ok e0
  obtain ⟨n1, b1, f1, wf1, fresh, _, mono⟩ := Helper.pushBlock_spec wf0 e1
  obtain ⟨a2, _, u2, i2, ub2, b2, f2, n2, wf2⟩ := Helper.useIndex_ok wf1 e2
  obtain ⟨a3, _, u3, i3, ub3, b3, f3, n3, wf3⟩ := Helper.useIndex_ok wf2 e3
  rw [n0, b0, Nat.zero_mul, Nat.zero_add, Nat.one_mul] at fresh
  have hnfb : 0 < nfb := by have := wf0.nfb_pos; rwa [f0] at this
  have act1 : ∀ j, h1.Active j ↔ j < bl := by
    intro j
    unfold Helper.Active Helper.activeStart
    rw [n1, n0, f1, f0, b1, b0, Nat.zero_add, Nat.sub_eq_zero_of_le hnfb, Nat.zero_mul, Nat.one_mul]
    exact and_iff_right (Nat.zero_le j)
  have act2 : ∀ j, h2.Active j ↔ j < bl := fun j =>
    (Helper.Active_congr b2 f2 n2 j).trans (act1 j)
  have act3 : ∀ j, h3.Active j ↔ j < bl := fun j =>
    (Helper.Active_congr b3 f3 n3 j).trans (act2 j)
  have h2bl : 2 ≤ bl := (act2 1).1 a3
  refine ⟨wf3, by rw [n3, n2, n1, n0], by rw [b3, b2, b1, b0], by rw [f3, f2, f1, f0], h2bl, act3,
    ?_, u3, ?_, ?_⟩
  · rw [i3 0 ((act2 0).2 (Nat.zero_lt_of_lt h2bl)) Nat.zero_ne_one]; exact u2
  · intro j lo hi
    rw [i3 j ((act2 j).2 hi) (Nat.ne_of_gt lo),
      i2 j ((act1 j).2 hi) (Nat.ne_of_gt (Nat.zero_lt_of_lt lo))]
    exact (fresh j (Nat.zero_le _) hi).1
  · intro j
    rw [ub3, ub2, ← Bool.not_eq_true]
    exact fun u => Bool.false_ne_true ((ub0 j).symm.trans (mono j u))

theorem Helper.unusedBaseFrom_ok {n base : Nat} {r : Option Nat}
    (e : h.unusedBaseFrom n base = .ok r) :
    (∀ j, base ≤ j → j < r.getD (base + n) → h.Active j ∧ h.usedB j = true) ∧
    (∀ ub, r = some ub → base ≤ ub ∧ ub < base + n ∧ h.Active ub ∧ h.usedB ub = false) := by
  revert e
  fun_induction Helper.unusedBaseFrom h n base generalizing r <;> intro e
  case case1 =>
    rw [← Except.ok.inj e]
    exact ⟨fun j lo hi => absurd hi (Nat.not_lt.2 lo), nofun⟩
  case case3 n base eq =>
    obtain ⟨a, hb⟩ := Helper.isUsedBase_ok.1 eq
    rw [← Except.ok.inj e]
    exact ⟨fun j lo hi => absurd hi (Nat.not_lt.2 lo), fun ub eu =>
      Option.some.inj eu ▸ ⟨Nat.le_refl _, Nat.lt_add_of_pos_right (Nat.succ_pos n), a, hb.symm⟩⟩
  case case4 n base eq ih =>
    obtain ⟨a, hb⟩ := Helper.isUsedBase_ok.1 eq
    obtain ⟨c1, c2⟩ := ih e
    rw [Nat.add_right_comm] at c1 c2
    refine ⟨fun j lo hi => ?_, fun ub eu => ?_⟩
    · by_cases ej : j = base
      · subst ej; exact ⟨a, hb.symm⟩
      · exact c1 j (Nat.lt_of_le_of_ne lo (Ne.symm ej)) hi
    · obtain ⟨d1, d2⟩ := c2 ub eu
      exact ⟨Nat.le_of_succ_le d1, d2⟩
  all_goals cases e

theorem Helper.unusedBaseInBlock_ok {b ub : Nat}
    (e : h.unusedBaseInBlock b = .ok (some ub)) :
    b * h.blockLen ≤ ub ∧ ub < (b + 1) * h.blockLen ∧ h.Active ub ∧ h.usedB ub = false ∧
    (∀ j, b * h.blockLen ≤ j → j < ub → h.Active j ∧ h.usedB j = true) := by
  obtain ⟨c1, c2⟩ := Helper.unusedBaseFrom_ok e
  obtain ⟨d1, d2, d3⟩ := c2 ub rfl
  exact ⟨d1, Nat.succ_mul b h.blockLen ▸ d2, d3.1, d3.2, c1⟩

theorem Helper.unusedBaseInBlock_none {b : Nat}
    (e : h.unusedBaseInBlock b = .ok none) :
    ∀ j, b * h.blockLen ≤ j → j < (b + 1) * h.blockLen → h.Active j ∧ h.usedB j = true :=
  fun j lo hi => (Helper.unusedBaseFrom_ok e).1 j lo (Nat.succ_mul b h.blockLen ▸ hi)

theorem Helper.vacantFrom_active {hd fuel cur : Nat} {l : List Nat}
    (e : h.vacantFrom hd fuel cur = .ok l) : ∀ i ∈ l, h.Active i := by
  revert e
  fun_induction Helper.vacantFrom h hd fuel cur generalizing l <;> intro e
  case case1 => rw [← Except.ok.inj e]; exact fun i hi => nomatch hi
  case case3 cur o eo _ _ =>
    rw [← Except.ok.inj e]
    exact fun i hi => List.mem_singleton.1 hi ▸ (Helper.off_ok.1 eo).1
  case case5 cur o eo _ _ l' el ih =>
    rw [← Except.ok.inj e]
    exact fun i hi => (List.mem_cons.1 hi).elim (fun ei => ei ▸ (Helper.off_ok.1 eo).1) (ih el i)
  all_goals cases e

end

theorem Helper.vacant_active {h : Helper} {l : List Nat} (e : h.vacant = .ok l) :
    ∀ i ∈ l, h.Active i := by
  unfold Helper.vacant at e
  split at e
  · cases e
    exact fun i hi => nomatch hi
  · exact Helper.vacantFrom_active e

#print axioms Helper.useIndex_ok
#print axioms Helper.pushBlock_ok
#print axioms Helper.init_ok
#print axioms Helper.unusedBaseInBlock_ok
#print axioms Helper.vacant_active

end Daac
