/-
Translation tie, fail-link / output passes — shared infrastructure for `Daac/Proofs/TieF.lean`.

`idAt st i u`: the state id reached from state `i` by following the labels `u` through the edge lists
of `st` (the inverse of the ghost labelling `pth` of `Tie.N.Rep` on the nodes of the trie).
`SameShape st st'`: `st'` differs from `st` only in the `fail` / `output_pos` fields (what the three
passes write); `Rep` and `idAt` are invariant under it.
-/
import Daac.Proofs.TieN
import Daac.Model.Nfa
import Daac.Proofs.NfaQueue
import Daac.Proofs.NfaStd
namespace Daac.Tie.F
open Daac Daac.Gen Daac.Gen.N Daac.Tie.N

variable {V : Type}

def idAt (st : Tie.N.St V) : Nat → List Nat → Option Nat
  | i, [] => some i
  | i, c :: cs =>
    match st[i]? with
    | none => none
    | some s =>
      match Rs.EdgeMap.get s.edges c with
      | none => none
      | some j => idAt st j cs

theorem idAt_append (st : Tie.N.St V) (u w : List Nat) :
    ∀ i : Nat, idAt st i (u ++ w) = (idAt st i u).bind (fun j => idAt st j w) := by
  induction u with
  | nil => exact fun i => rfl
  | cons c u ih =>
    intro i
    simp only [List.cons_append, idAt]
    cases st[i]? with
    | none => rfl
    | some s =>
      cases hg : Rs.EdgeMap.get s.edges c with
      | none => simp only [hg]; rfl
      | some j => simp only [hg]; exact ih j

theorem set_self (st : Tie.N.St V) (i : Nat) (s x : NfaBuilderState V) (h : st[i]? = some s) :
    (st.setIfInBounds i x)[i]? = some x :=
  Array.getElem?_setIfInBounds_self_of_lt (lt_of_get h)

def SameShape (st st' : Tie.N.St V) : Prop :=
  st'.size = st.size ∧
    ∀ (i : Nat) (s : NfaBuilderState V), st[i]? = some s → ∃ s' : NfaBuilderState V, st'[i]? = some s' ∧ s'.edges = s.edges ∧ s'.output = s.output

theorem SameShape.refl (st : Tie.N.St V) : SameShape st st := ⟨rfl, fun _ s h => ⟨s, h, rfl, rfl⟩⟩

theorem SameShape.trans {a b c : Tie.N.St V} (h1 : SameShape a b) (h2 : SameShape b c) : SameShape a c := by
  refine ⟨by rw [h2.1, h1.1], fun i s hs => ?_⟩
  obtain ⟨s', e1, e2, e3⟩ := h1.2 i s hs
  obtain ⟨s'', f1, f2, f3⟩ := h2.2 i s' e1
  exact ⟨s'', f1, by rw [f2, e2], by rw [f3, e3]⟩

theorem SameShape.set (st : Tie.N.St V) (i : Nat) (s x : NfaBuilderState V) (h : st[i]? = some s)
    (he : x.edges = s.edges) (ho : x.output = s.output) : SameShape st (st.setIfInBounds i x) := by
  refine ⟨by simp, fun j sj hj => ?_⟩
  by_cases e : i = j
  · subst e
    rw [h] at hj; cases hj
    exact ⟨x, set_self st i s x h, he, ho⟩
  · exact ⟨sj, write_keep st i j x sj hj (fun e' => e e'.symm), rfl, rfl⟩

theorem SameShape.symm {a b : Tie.N.St V} (h : SameShape a b) : SameShape b a := by
  refine ⟨h.1.symm, fun i s' hs' => ?_⟩
  have hlt : i < a.size := h.1 ▸ lt_of_get hs'
  have ha : a[i]? = some a[i] := Array.getElem?_eq_getElem hlt
  obtain ⟨s'', e1, e2, e3⟩ := h.2 i _ ha
  rw [hs'] at e1; cases e1
  exact ⟨_, ha, e2.symm, e3.symm⟩

def Kept {α : Type} (f : NfaBuilderState V → α) (st st' : Tie.N.St V) : Prop :=
  ∀ (i : Nat) (s : NfaBuilderState V), st[i]? = some s → ∃ s' : NfaBuilderState V, st'[i]? = some s' ∧ f s' = f s

theorem Kept.refl {α : Type} (f : NfaBuilderState V → α) (st : Tie.N.St V) : Kept f st st :=
  fun _ s h => ⟨s, h, rfl⟩

theorem Kept.trans {α : Type} {f : NfaBuilderState V → α} {a b c : Tie.N.St V} (h1 : Kept f a b)
    (h2 : Kept f b c) : Kept f a c := by
  intro i s hs
  obtain ⟨s', e1, e2⟩ := h1 i s hs
  obtain ⟨s'', f1, f2⟩ := h2 i s' e1
  exact ⟨s'', f1, f2.trans e2⟩

theorem Kept.set {α : Type} (f : NfaBuilderState V → α) (st : Tie.N.St V) (i : Nat)
    (s x : NfaBuilderState V) (h : st[i]? = some s) (hf : f x = f s) : Kept f st (st.setIfInBounds i x) := by
  intro j sj hj
  by_cases e : i = j
  · subst e
    rw [h] at hj; cases hj
    exact ⟨x, set_self st i s x h, hf⟩
  · exact ⟨sj, write_keep st i j x sj hj (fun e' => e e'.symm), rfl⟩

theorem rep_repK_shape {st st' : Tie.N.St V} {pth : Pth} (hs : SameShape st st') :
    (∀ (t : Trie V) (id : Nat) (pre : List Nat), Rep st pth t id pre → Rep st' pth t id pre) ∧
    ∀ (ks : Kids V) (pre : List Nat) (lo : Nat) (es : List (Nat × Nat)),
      RepK st pth ks pre lo es → RepK st' pth ks pre lo es := by
  refine Trie.induction ?_ ?_ ?_
  · intro out kids ih id pre h
    unfold Rep at h ⊢
    obtain ⟨s, h1, h2, h3, h4⟩ := h
    obtain ⟨s', e1, e2, e3⟩ := hs.2 id s h1
    exact ⟨s', e1, h2, e3.trans h3, e2 ▸ ih pre 0 s.edges h4⟩
  · intro pre lo es h
    unfold RepK at h ⊢; exact h
  · intro l t r iht ihr pre lo es h
    unfold RepK at h ⊢
    obtain ⟨cid, es', h1, h2, h3, h4⟩ := h
    exact ⟨cid, es', h1, h2, iht cid _ h3, ihr pre (l + 1) es' h4⟩

theorem rep_shape {st st' : Tie.N.St V} {pth : Pth} (t : Trie V) (id : Nat) (pre : List Nat)
    (h : Rep st pth t id pre) (hs : SameShape st st') : Rep st' pth t id pre :=
  (rep_repK_shape hs).1 t id pre h

theorem idAt_shape {st st' : Tie.N.St V} (hs : SameShape st st') : (u : List Nat) → (i j : Nat) →
    idAt st i u = some j → idAt st' i u = some j := by
  intro u
  induction u with
  | nil => exact fun i j h => h
  | cons c u ih =>
    intro i j h
    simp only [idAt] at h ⊢
    cases hi : st[i]? with
    | none => rw [hi] at h; cases h
    | some s =>
      obtain ⟨s', e1, e2, _⟩ := hs.2 i s hi
      rw [hi] at h
      rw [e1]
      simp only [e2] at h ⊢
      cases hg : Rs.EdgeMap.get s.edges c with
      | none => rw [hg] at h; cases h
      | some k =>
        simp only [hg] at h ⊢
        exact ih k j h

theorem rep_walk {st : Tie.N.St V} {pth : Pth} : (u : List Nat) → (t : Trie V) → (id : Nat) → (pre : List Nat) →
    Rep st pth t id pre →
    (t.walk u = none ∧ idAt st id u = none) ∨
      ∃ n i, t.walk u = some n ∧ idAt st id u = some i ∧ Rep st pth n i (pre ++ u) := by
  intro u
  induction u with
  | nil => exact fun t id pre h => Or.inr ⟨t, id, rfl, rfl, by rw [List.append_nil]; exact h⟩
  | cons c u ih =>
    intro t id pre h
    obtain ⟨out, kids⟩ := t
    have h' := h
    unfold Rep at h'
    obtain ⟨s, h1, _, _, h4⟩ := h'
    simp only [Trie.walk_cons, idAt, h1]
    rcases RepK.find_cases c kids pre 0 s.edges h4 with ⟨hf, hg⟩ | ⟨tc, cid, hf, hg, hc, _⟩
    · rw [hf, hg]; exact Or.inl ⟨rfl, rfl⟩
    · rw [hf, hg, List.append_cons]
      exact ih tc cid _ hc

theorem rep_pth {st : Tie.N.St V} {pth : Pth} {t : Trie V} {id : Nat} {pre : List Nat}
    (h : Rep st pth t id pre) : pth id = some pre := by
  cases t with
  | node out kids => unfold Rep at h; obtain ⟨s, _, h2, _⟩ := h; exact h2

theorem rep_get {st : Tie.N.St V} {pth : Pth} {t : Trie V} {id : Nat} {pre : List Nat}
    (h : Rep st pth t id pre) : ∃ s, st[id]? = some s ∧ s.output = t.out ∧ RepK st pth t.kids pre 0 s.edges := by
  cases t with
  | node out kids => unfold Rep at h; obtain ⟨s, h1, _, h3, h4⟩ := h; exact ⟨s, h1, h3, h4⟩

section root
variable {st : Tie.N.St V} {pth : Pth} {t : Trie V}

theorem idAt_some_of_walk (hrep : Rep st pth t 0 []) {u : List Nat} {n : Trie V} (hw : t.walk u = some n) :
    ∃ i, idAt st 0 u = some i ∧ Rep st pth n i u := by
  rcases rep_walk u t 0 [] hrep with ⟨h, _⟩ | ⟨n', i, h1, h2, hr⟩
  · rw [hw] at h; cases h
  · rw [hw] at h1; cases h1; exact ⟨i, h2, hr⟩

theorem walk_some_of_idAt (hrep : Rep st pth t 0 []) {u : List Nat} {i : Nat} (hi : idAt st 0 u = some i) :
    ∃ n, t.walk u = some n ∧ Rep st pth n i u := by
  rcases rep_walk u t 0 [] hrep with ⟨_, h⟩ | ⟨n, i', h1, h2, hr⟩
  · rw [hi] at h; cases h
  · rw [hi] at h2; cases h2; exact ⟨n, h1, hr⟩

theorem hasNode_eq_idAt (hrep : Rep st pth t 0 []) (u : List Nat) :
    t.hasNode u = (idAt st 0 u).isSome := by
  unfold Trie.hasNode
  rcases rep_walk u t 0 [] hrep with ⟨h1, h2⟩ | ⟨n, i, h1, h2, _⟩
  · rw [h1, h2]; rfl
  · rw [h1, h2]; rfl

theorem idAt_pth (hrep : Rep st pth t 0 []) {u : List Nat} {i : Nat} (hi : idAt st 0 u = some i) :
    pth i = some u := by
  obtain ⟨n, _, hr⟩ := walk_some_of_idAt hrep hi
  exact rep_pth hr

theorem idAt_inj (hrep : Rep st pth t 0 []) {u w : List Nat} {i : Nat} (hu : idAt st 0 u = some i)
    (hw : idAt st 0 w = some i) : u = w := by
  have a := idAt_pth hrep hu
  have b := idAt_pth hrep hw
  rw [a] at b; exact Option.some.inj b

theorem idAt_eq_zero (hrep : Rep st pth t 0 []) {u : List Nat} {i : Nat} (hi : idAt st 0 u = some i) :
    i = 0 ↔ u = [] :=
  ⟨fun e => idAt_inj hrep hi (e ▸ rfl), fun e => by subst e; exact (Option.some.inj hi).symm⟩

theorem idAt_lt (hrep : Rep st pth t 0 []) {u : List Nat} {i : Nat} (hi : idAt st 0 u = some i) :
    i < st.size := by
  obtain ⟨n, _, hr⟩ := walk_some_of_idAt hrep hi
  obtain ⟨s, hs, _⟩ := rep_get hr
  exact lt_of_get hs

theorem idAt_snoc (u : List Nat) (c : Nat) (i : Nat) (s : NfaBuilderState V) (hi : idAt st 0 u = some i)
    (hs : st[i]? = some s) : idAt st 0 (u ++ [c]) = Rs.EdgeMap.get s.edges c := by
  rw [idAt_append, hi]
  simp only [Option.bind_some, idAt, hs]
  cases Rs.EdgeMap.get s.edges c <;> rfl

end root

def FailRel (st : Tie.N.St V) (f : FailTo) (x : Nat) : Prop :=
  match f with
  | .dead => x = Gen.deadStateId
  | .node w => idAt st 0 w = some x

/-- `Option<NonZeroU32>` vs the model's `Nat` (0 = None). -/
def OposRel (o : Option Nat) (n : Nat) : Prop := o = if n = 0 then none else some n

def OutRel (o : Rs.Output V) (m : Out V) : Prop :=
  o.value = m.value ∧ o.length = m.length ∧ OposRel o.parent m.parent

def OutsRel (a : Array (Rs.Output V)) (b : Array (Out V)) : Prop :=
  a.size = b.size ∧ ∀ (k : Nat) (o : Rs.Output V), a[k]? = some o → ∃ m, b[k]? = some m ∧ OutRel o m

theorem FailRel.shape {st st' : Tie.N.St V} (hs : SameShape st st') {f : FailTo} {x : Nat}
    (h : FailRel st f x) : FailRel st' f x := by
  cases f with
  | dead => exact h
  | node w => exact idAt_shape hs w 0 x h

end Daac.Tie.F
