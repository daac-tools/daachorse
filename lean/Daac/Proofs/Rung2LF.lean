/-
Rung 2, end to end, char-wise leftmost-FIRST: the leftmost iterator of a char-wise double array
built with kind 2 from valid-UTF-8 patterns returns the byte-level leftmost-first specification
on valid-UTF-8 haystacks.
-/
import Daac.Proofs.Rung2
namespace Daac
variable {V : Type}

/-- The scalar patterns that survive the leftmost-first filter: no earlier scalar list is a proper
prefix. The retained label patterns and the retained byte patterns are both its images. -/
def retainedQ (Q : List (List Nat × V)) : List (List Nat × V) := retainedBy (·.1) [] Q

theorem retainedQ_sublist (Q : List (List Nat × V)) : List.Sublist (retainedQ Q) Q :=
  retainedBy_sublist _ [] Q

theorem retainedL_map_charPat (Q : List (List Nat × V)) :
    retainedL (Q.map charPat) = (retainedQ Q).map charPat := by
  unfold retainedL
  rw [retainedLGo_eq]
  exact retainedBy_map charPat (·.key) [] Q

theorem encAll_properPrefix_iff {a b : List Nat} (ha : Scalars a) (hb : Scalars b) :
    (encAll a <+: encAll b ∧ encAll a ≠ encAll b) ↔ (a <+: b ∧ a ≠ b) := by
  constructor
  · rintro ⟨h1, h2⟩
    exact ⟨encAll_prefix a b ha hb h1, fun h => h2 (by rw [h])⟩
  · rintro ⟨⟨z, rfl⟩, h2⟩
    refine ⟨by rw [encAll_append]; exact List.prefix_append _ _, fun h => h2 ?_⟩
    exact CharSpec.encAll_inj ha hb h

theorem retained_map_bytePat {Q : List (List Nat × V)} (hQ : ScalarPats Q) :
    retained (Q.map bytePat) = (retainedQ Q).map bytePat := by
  unfold retained retainedQ
  rw [retainedGo_eq, ← retainedBy_congr (key := fun q => encAll q.1) (key' := (·.1)) [] Q
    (fun a ha b hb => encAll_properPrefix_iff (hQ a ha).2 (hQ b hb).2)]
  exact retainedBy_map bytePat (·.key) [] Q

theorem retainedQ_scalarPats {Q : List (List Nat × V)} (hQ : ScalarPats Q) :
    ScalarPats (retainedQ Q) :=
  fun q hq => hQ q ((retainedQ_sublist Q).subset hq)

theorem retainedQ_nodup {Q : List (List Nat × V)} (hnd : (Q.map (·.1)).Nodup) :
    ((retainedQ Q).map (·.1)).Nodup :=
  List.Nodup.sublist ((retainedQ_sublist Q).map _) hnd

theorem charwise_leftmost_first_correct (nfb : Nat) (Q : List (List Nat × V)) (hQ : ScalarPats Q)
    (hQ0 : Q ≠ []) (hnd : (Q.map (·.1)).Nodup) (da : DA V)
    (hb : buildDA .charwise ⟨2, nfb⟩ (Q.map charPat) = .ok da) (t : List Nat) (ht : Scalars t) :
    ∃ l, lmAll da (encAll t) = .ok (l, 0) ∧ l.map (·.1) = specLF (Q.map bytePat) (encAll t) := by
  have hS := build_lmSem_lf .charwise nfb (Q.map charPat) da hb (keysOk_map_charPat Q)
    (fun h => nomatch h)
  rw [retainedL_map_charPat] at hS
  rw [specLF_eq_specLL_retained (bytePat_valid hQ hQ0 hnd), retained_map_bytePat hQ]
  exact lmAll_of_lmSem_charwise (retainedQ_scalarPats hQ) (retainedQ_nodup hnd)
    (buildDA_kind_variant _ _ _ _ hb).2 hS ht

#print axioms charwise_leftmost_first_correct

end Daac
