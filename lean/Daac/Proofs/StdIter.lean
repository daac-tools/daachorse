/-
Second half of the Rung-1 proof for the standard kind: given the table semantics `StdSem da P`
(Daac/Proofs/StdIface.lean), the three standard-kind iterators of the model return exactly the
item-level specification (`specOvItems`, `specNoSufItems`, `specFindItems`), and for the
byte-wise variant the byte-level specification of Daac/Spec.lean.
Core Lean only. Helper lemmas live in the namespace `Daac.StdIter`.
-/
import Daac.Proofs.StdSem2
import Daac.Proofs.IterFacts
namespace Daac
namespace StdIter
variable {V : Type}

inductive Feeds (da : DA V) : Src → List Item → Prop where
  | nil {s : Src} : nextItem da.variant s = .ok none → Feeds da s []
  | cons {s s' : Src} {it : Item} {rest : List Item} :
      nextItem da.variant s = .ok (some (it, s')) → LabelOk da it.label → Feeds da s' rest →
      Feeds da s (it :: rest)

theorem Feeds.length_le {da : DA V} {s : Src} {items : List Item} (h : Feeds da s items) :
    items.length ≤ s.rest.length := by
  induction h with
  | nil _ => exact Nat.zero_le _
  | cons hi _ _ ih => exact Nat.le_trans (Nat.succ_le_succ ih) (nextItem_spec hi).2.2.1

theorem allItems_feeds {da : DA V} {fuel : Nat} {s : Src} {ws : List WItem}
    (h : allItems da.variant fuel s = .ok ws) (hL : ∀ w ∈ ws, LabelOk da w.label) :
    Feeds da s (ws.map fun w => ⟨w.label, w.stop⟩) := by
  induction fuel generalizing s ws with
  | zero => cases h
  | succ fuel ih =>
    rw [allItems] at h
    split at h
    · cases h
    · next hi => cases h; exact Feeds.nil hi
    · next item s1 hi =>
      split at h
      · cases h
      · next l hl =>
        cases h
        obtain ⟨h1, h2⟩ := List.forall_mem_cons.1 hL
        exact Feeds.cons hi h1 (ih hl h2)

theorem itemsOfHay_feeds {da : DA V} {h : List Nat} {items : List Item}
    (hi : itemsOfHay da.variant h = .ok items) (hL : ∀ it ∈ items, LabelOk da it.label) :
    Feeds da (startSrc h) items := by
  unfold itemsOfHay at hi
  split at hi
  · cases hi
  · next ws hw =>
    cases hi
    exact allItems_feeds hw fun w hw => hL _ (List.mem_map_of_mem hw)

/-- Patterns with a key longer than `x` play no part in `sufLPats P x`. -/
theorem sufLPats_filter (P : List (LPat V)) (q : LPat V → Bool) (x : List Nat)
    (hq : ∀ p ∈ P, p.key.length ≤ x.length → q p = true) :
    sufLPats (P.filter q) x = sufLPats P x := by
  induction x with
  | nil => rw [sufLPats_nil, sufLPats_nil]
  | cons a l ih =>
    rw [sufLPats_cons, sufLPats_cons, ih fun p hp hl => hq p hp (Nat.le_succ_of_le hl),
      List.filter_filter]
    congr 1
    refine List.filter_congr fun p hp => ?_
    by_cases hk : p.key = a :: l
    · rw [hq p hp (Nat.le_of_eq (congrArg List.length hk)), Bool.and_true]
    · rw [decide_eq_false hk, Bool.false_and]

theorem sufLPats_length_le (P : List (LPat V)) (x : List Nat) :
    (sufLPats P x).length ≤ P.length := by
  induction x generalizing P with
  | nil => rw [sufLPats_nil]; exact Nat.zero_le _
  | cons a l ih =>
    -- the patterns with key `a :: l` are too long to be found again among the suffixes of `l`
    have hl : sufLPats (P.filter fun p => !decide (p.key = a :: l)) l = sufLPats P l := by
      refine sufLPats_filter P _ l fun p _ hp => ?_
      have hk : p.key ≠ a :: l := fun e => Nat.not_succ_le_self _ (congrArg List.length e ▸ hp)
      rw [decide_eq_false hk]; rfl
    have hsplit := (List.filter_append_perm (fun p => decide (p.key = a :: l)) P).length_eq
    rw [List.length_append] at hsplit
    rw [sufLPats_cons, List.length_append, ← hl, ← hsplit]
    exact Nat.add_le_add_left (ih _) _

theorem chain_nil {da : DA V} {p : Nat} (h : ChainIs da p []) : p = 0 := by
  cases h; rfl

theorem chain_cons {da : DA V} {p : Nat} {x : V × Nat} {l : List (V × Nat)}
    (h : ChainIs da p (x :: l)) :
    p ≠ 0 ∧ ∃ o, da.out p = .ok o ∧ x = (o.value, o.length) ∧ ChainIs da o.parent l := by
  cases h with
  | cons h1 h2 h3 => exact ⟨h1, _, h2, rfl, h3⟩

/-- The state reached after the labels `pre`. -/
def stOf (da : DA V) (P : List (LPat V)) (pre : List Nat) : Nat :=
  da.idx (lsuf (nodeList P) pre)

theorem stOf_nil {da : DA V} {P : List (LPat V)} (hS : StdSem da P) : stOf da P [] = rootIdx := by
  rw [stOf, lsuf_nil, hS.root]

def recs (ps : List (LPat V)) : List (V × Nat) := ps.map fun p => (p.value, p.blen)

theorem step_ok {da : DA V} {P : List (LPat V)} (hS : StdSem da P) (pre : List Nat) {c : Nat}
    (hc : LabelOk da c) :
    da.next (stOf da P pre) c = .ok (stOf da P (pre ++ [c])) ∧
    ∃ st, da.st (stOf da P (pre ++ [c])) = .ok st ∧
      ChainIs da st.opos (recs (sufLPats P (pre ++ [c]))) := by
  refine ⟨?_, ?_⟩
  · rw [stOf, hS.next_ok _ (lsuf_mem_nodeList P pre) c hc, lsuf_step (nodeList_prefClosed P)]; rfl
  · obtain ⟨st, h1, h2⟩ := hS.chain_ok _ (lsuf_mem_nodeList P (pre ++ [c]))
    refine ⟨st, h1, ?_⟩
    rw [sufLPats_lsuf]
    exact h2

theorem mkMatch_eq {o : Out V} {p : LPat V} (e : Nat) (h : (p.value, p.blen) = (o.value, o.length)) :
    mkMatch o e = lmatchAt p e := by
  have h1 : p.value = o.value := congrArg Prod.fst h
  have h2 : p.blen = o.length := congrArg Prod.snd h
  rw [mkMatch, lmatchAt, h1, h2]

/-- Where a scan from the state after `pre` stops: the labels consumed up to and including the
item, where the item ends, the remaining items, and the patterns ending there. -/
structure Hit (V : Type) where
  pre : List Nat
  stop : Nat
  rest : List Item
  first : LPat V
  others : List (LPat V)

def firstHit (P : List (LPat V)) : List Nat → List Item → Option (Hit V)
  | _, [] => none
  | pre, it :: rest =>
    match sufLPats P (pre ++ [it.label]) with
    | p :: ps => some ⟨pre ++ [it.label], it.stop, rest, p, ps⟩
    | [] => firstHit P (pre ++ [it.label]) rest

theorem specs_firstHit (P : List (LPat V)) (pre : List Nat) (items : List Item) :
    match firstHit P pre items with
    | none => specOvItems P pre items = [] ∧ specNoSufItems P pre items = [] ∧
        specFindItems P pre items = []
    | some hit =>
      specOvItems P pre items = lmatchAt hit.first hit.stop ::
        (hit.others.map (fun q => lmatchAt q hit.stop) ++ specOvItems P hit.pre hit.rest) ∧
      specNoSufItems P pre items =
        lmatchAt hit.first hit.stop :: specNoSufItems P hit.pre hit.rest ∧
      specFindItems P pre items = lmatchAt hit.first hit.stop :: specFindItems P [] hit.rest := by
  induction items generalizing pre with
  | nil => exact ⟨rfl, rfl, rfl⟩
  | cons it rest ih =>
    rw [firstHit, specOvItems, specNoSufItems, specFindItems]
    cases sufLPats P (pre ++ [it.label]) with
    | nil => exact ih _
    | cons p ps => exact ⟨rfl, rfl, rfl⟩

section scan
variable {da : DA V} {src src' : Src} {state state' pos opos : Nat} {item : Item} {st : St}

theorem scanOv_stop (fuel : Nat) (hi : nextItem da.variant src = .ok none) :
    scanOv da (fuel + 1) ⟨src, state, pos, opos⟩ = .ok ⟨none, ⟨src, state, pos, opos⟩⟩ := by
  simp only [scanOv, hi]

theorem scanOv_skip (fuel : Nat) (hi : nextItem da.variant src = .ok (some (item, src')))
    (hn : da.next state item.label = .ok state') (hst : da.st state' = .ok st)
    (h0 : st.opos = 0) :
    scanOv da (fuel + 1) ⟨src, state, pos, opos⟩ =
      scanOv da fuel ⟨src', state', (match da.variant with
        | .bytewise => pos
        | .charwise => item.stop), opos⟩ := by
  simp only [scanOv, hi, hn, hst, h0, ne_eq, not_true_eq_false, if_false]
  rfl

theorem scanOv_found (fuel : Nat) (hi : nextItem da.variant src = .ok (some (item, src')))
    (hn : da.next state item.label = .ok state') (hst : da.st state' = .ok st)
    (h0 : st.opos ≠ 0) {o : Out V} (ho : da.out st.opos = .ok o) :
    scanOv da (fuel + 1) ⟨src, state, pos, opos⟩ =
      .ok ⟨some (mkMatch o item.stop), ⟨src', state', item.stop, o.parent⟩⟩ := by
  simp only [scanOv, hi, hn, hst, h0, ne_eq, not_false_eq_true, if_true, ho]

/-- The loop of `find_iter` and of the no-suffix iterator is the overlapping one with the
position and the pending chain forgotten. -/
theorem scanFirst_eq_scanOv (da : DA V) (fuel : Nat) (src : Src) (state pos opos : Nat) :
    scanFirst da fuel state src =
      (scanOv da fuel ⟨src, state, pos, opos⟩).map fun r => (r.result, r.it.state, r.it.src) := by
  induction fuel generalizing src state pos with
  | zero => rfl
  | succ fuel ih =>
    rw [scanFirst, scanOv]
    dsimp only
    split
    · rfl
    · rfl
    · split
      · rfl
      · split
        · rfl
        · split
          · split <;> rfl
          · exact ih _ _ _

end scan

theorem scanOv_hit {da : DA V} {P : List (LPat V)} (hS : StdSem da P) {src : Src}
    {items : List Item} (hF : Feeds da src items) (pre : List Nat) (pos opos fuel : Nat)
    (hf : items.length < fuel) :
    match firstHit P pre items with
    | none => ∃ it', scanOv da fuel ⟨src, stOf da P pre, pos, opos⟩ = .ok ⟨none, it'⟩
    | some hit =>
      ∃ src' op, scanOv da fuel ⟨src, stOf da P pre, pos, opos⟩ =
          .ok ⟨some (lmatchAt hit.first hit.stop), ⟨src', stOf da P hit.pre, hit.stop, op⟩⟩ ∧
        ChainIs da op (recs hit.others) ∧ Feeds da src' hit.rest := by
  induction hF generalizing pre pos fuel with
  | nil hi =>
    obtain ⟨fuel, rfl⟩ := Nat.exists_eq_add_one_of_ne_zero (Nat.ne_zero_of_lt hf)
    exact ⟨_, scanOv_stop fuel hi⟩
  | @cons _ _ it rest hi hl hF' ih =>
    obtain ⟨fuel, rfl⟩ := Nat.exists_eq_add_one_of_ne_zero (Nat.ne_zero_of_lt hf)
    obtain ⟨hn, st, hst, hch⟩ := step_ok hS pre hl
    rw [firstHit]
    cases hs : sufLPats P (pre ++ [it.label]) with
    | nil =>
      rw [hs] at hch
      rw [scanOv_skip fuel hi hn hst (chain_nil hch)]
      exact ih _ _ fuel (Nat.lt_of_succ_lt_succ hf)
    | cons q qs =>
      rw [hs] at hch
      obtain ⟨hop, o, ho, hq, hpar⟩ := chain_cons hch
      rw [scanOv_found fuel hi hn hst hop ho, mkMatch_eq _ hq]
      exact ⟨_, _, rfl, hpar, hF'⟩

/-- The plan shared by the three iterators. `R it ms` says that the iterator in state `it` still
owes exactly the matches `ms`; if every `next` returns the first of them (or `none` when nothing
is owed) and re-establishes `R` for the others, `collectWith` returns `ms`. -/
theorem collectWith_of_sim {σ : Type} {next : σ → Except Fault (Step σ V)} (pulled : σ → Nat)
    (R : σ → List (Match V) → Prop)
    (hR : ∀ it ms, R it ms → ∃ it', next it = .ok ⟨ms.head?, it'⟩ ∧ (ms ≠ [] → R it' ms.tail))
    {ms : List (Match V)} {it : σ} {fuel : Nat} (h : R it ms) (hf : ms.length < fuel) :
    ∃ l fin, collectWith next pulled fuel it = .ok (l, fin) ∧ l.map (·.1) = ms := by
  induction ms generalizing it fuel with
  | nil =>
    obtain ⟨fuel, rfl⟩ := Nat.exists_eq_add_one_of_ne_zero (Nat.ne_zero_of_lt hf)
    obtain ⟨it', hn, _⟩ := hR it [] h
    exact ⟨[], pulled it', by simp only [collectWith, hn, List.head?_nil], rfl⟩
  | cons m ms ih =>
    obtain ⟨fuel, rfl⟩ := Nat.exists_eq_add_one_of_ne_zero (Nat.ne_zero_of_lt hf)
    obtain ⟨it', hn, h'⟩ := hR it (m :: ms) h
    obtain ⟨l, fin, hc, hm⟩ := ih (h' (List.cons_ne_nil m ms)) (Nat.lt_of_succ_lt_succ hf)
    exact ⟨(m, pulled it') :: l, fin, by simp only [collectWith, hn, List.head?_cons, hc],
      by rw [List.map_cons, hm]⟩

inductive NoSufRel (da : DA V) (P : List (LPat V)) : NoSufIt → List (Match V) → Prop where
  | mk {src : Src} {pre : List Nat} {items : List Item} : Feeds da src items →
      NoSufRel da P ⟨src, stOf da P pre⟩ (specNoSufItems P pre items)

theorem noSuf_step {da : DA V} {P : List (LPat V)} (hS : StdSem da P) (it : NoSufIt)
    (ms : List (Match V)) (h : NoSufRel da P it ms) :
    ∃ it', NoSufIt.next da it = .ok ⟨ms.head?, it'⟩ ∧ (ms ≠ [] → NoSufRel da P it' ms.tail) := by
  obtain @⟨src, pre, items, hF⟩ := h
  have hsc := scanOv_hit hS hF pre 0 0 (src.rest.length + 1) (Nat.lt_succ_of_le hF.length_le)
  have hsp := specs_firstHit P pre items
  rw [NoSufIt.next, scanFirst_eq_scanOv da _ src _ 0 0]
  generalize firstHit P pre items = r at hsc hsp
  cases r with
  | none =>
    obtain ⟨it', hsc⟩ := hsc
    rw [hsc, hsp.2.1]
    exact ⟨_, rfl, fun h => absurd rfl h⟩
  | some hit =>
    obtain ⟨src', op, hsc, _, hF'⟩ := hsc
    rw [hsc, hsp.2.1]
    exact ⟨_, rfl, fun _ => .mk hF'⟩

/-- `find_iter` with `items` still to come: every call starts again at the root. -/
inductive FindRel (da : DA V) (P : List (LPat V)) : FindIt → List (Match V) → Prop where
  | mk {src : Src} {items : List Item} : Feeds da src items →
      FindRel da P ⟨src⟩ (specFindItems P [] items)

theorem find_step {da : DA V} {P : List (LPat V)} (hS : StdSem da P) (it : FindIt)
    (ms : List (Match V)) (h : FindRel da P it ms) :
    ∃ it', FindIt.next da it = .ok ⟨ms.head?, it'⟩ ∧ (ms ≠ [] → FindRel da P it' ms.tail) := by
  obtain @⟨src, items, hF⟩ := h
  have hsc := scanOv_hit hS hF [] 0 0 (src.rest.length + 1) (Nat.lt_succ_of_le hF.length_le)
  have hsp := specs_firstHit P [] items
  rw [FindIt.next, scanFirst_eq_scanOv da _ src _ 0 0, ← stOf_nil hS]
  generalize firstHit P [] items = r at hsc hsp
  cases r with
  | none =>
    obtain ⟨it', hsc⟩ := hsc
    rw [hsc, hsp.2.2]
    exact ⟨_, rfl, fun h => absurd rfl h⟩
  | some hit =>
    obtain ⟨src', op, hsc, _, hF'⟩ := hsc
    rw [hsc, hsp.2.2]
    exact ⟨_, rfl, fun _ => .mk hF'⟩

def pendMatches (pend : List (V × Nat)) (pos : Nat) : List (Match V) :=
  pend.map (fun x => ⟨pos - x.2, pos, x.1⟩)

inductive OvRel (da : DA V) (P : List (LPat V)) : OvIt → List (Match V) → Prop where
  | mk {src : Src} {pre : List Nat} {items : List Item} {pend : List (V × Nat)} {pos opos : Nat} :
      ChainIs da opos pend → Feeds da src items →
      OvRel da P ⟨src, stOf da P pre, pos, opos⟩ (pendMatches pend pos ++ specOvItems P pre items)

theorem ov_step {da : DA V} {P : List (LPat V)} (hS : StdSem da P) (it : OvIt)
    (ms : List (Match V)) (h : OvRel da P it ms) :
    ∃ it', OvIt.next da it = .ok ⟨ms.head?, it'⟩ ∧ (ms ≠ [] → OvRel da P it' ms.tail) := by
  obtain @⟨src, pre, items, pend, pos, opos, hC, hF⟩ := h
  cases pend with
  | cons x pend' =>
    obtain ⟨hop, o, ho, rfl, hpar⟩ := chain_cons hC
    rw [OvIt.next, if_pos hop, ho]
    exact ⟨_, rfl, fun _ => .mk hpar hF⟩
  | nil =>
    cases chain_nil hC
    have hsc := scanOv_hit hS hF pre pos 0 (src.rest.length + 1) (Nat.lt_succ_of_le hF.length_le)
    have hsp := specs_firstHit P pre items
    rw [OvIt.next, if_neg (fun h => h rfl), pendMatches, List.map_nil, List.nil_append]
    generalize firstHit P pre items = r at hsc hsp
    cases r with
    | none =>
      obtain ⟨it', hsc⟩ := hsc
      rw [hsc, hsp.1]
      exact ⟨_, rfl, fun h => absurd rfl h⟩
    | some hit =>
      obtain ⟨src', op, hsc, hch, hF'⟩ := hsc
      rw [hsc, hsp.1]
      refine ⟨_, rfl, fun _ => ?_⟩
      have := OvRel.mk (P := P) (pre := hit.pre) (pos := hit.stop) hch hF'
      rw [recs, pendMatches, List.map_map] at this
      exact this

theorem specOv_length (P : List (LPat V)) (pre : List Nat) (items : List Item) :
    (specOvItems P pre items).length ≤ items.length * P.length := by
  induction items generalizing pre with
  | nil => exact Nat.zero_le _
  | cons it rest ih =>
    rw [specOvItems, List.length_append, List.length_map, List.length_cons, Nat.succ_mul,
      Nat.add_comm]
    exact Nat.add_le_add (ih _) (sufLPats_length_le P _)

theorem specNoSuf_length (P : List (LPat V)) (pre : List Nat) (items : List Item) :
    (specNoSufItems P pre items).length ≤ items.length := by
  induction items generalizing pre with
  | nil => exact Nat.zero_le _
  | cons it rest ih =>
    rw [specNoSufItems, List.length_append, List.length_cons, Nat.add_comm]
    refine Nat.add_le_add (ih _) ?_
    cases (sufLPats P (pre ++ [it.label])).head? <;> simp

theorem specFind_length (P : List (LPat V)) (seen : List Nat) (items : List Item) :
    (specFindItems P seen items).length ≤ items.length := by
  induction items generalizing seen with
  | nil => exact Nat.zero_le _
  | cons it rest ih =>
    rw [specFindItems]
    split
    · exact Nat.succ_le_succ (ih _)
    · exact Nat.le_succ_of_le (ih _)

/-- `collectFuel` covers `a * b` calls when `a ≤ |h|` and `b ≤ |outputs| + 1`. -/
theorem lt_collectFuel (da : DA V) (h : List Nat) {a b : Nat} (ha : a ≤ h.length)
    (hb : b ≤ da.outputs.size + 1) : a * b < collectFuel da h :=
  Nat.lt_succ_of_le (Nat.mul_le_mul (Nat.le_succ_of_le ha) hb)

variable {da : DA V} {P : List (LPat V)} {h : List Nat} {items : List Item}

theorem ovAll_of_feeds (hS : StdSem da P) (hF : Feeds da (startSrc h) items)
    (hO : P.length ≤ da.outputs.size) :
    ∃ l fin, ovAll da h = .ok (l, fin) ∧ l.map (·.1) = specOvItems P [] items := by
  have hR := OvRel.mk (P := P) (pre := []) (pos := 0) ChainIs.nil hF
  rw [stOf_nil hS] at hR
  refine collectWith_of_sim _ _ (ov_step hS) hR ?_
  exact Nat.lt_of_le_of_lt (Nat.le_trans (specOv_length P [] items)
      (Nat.mul_le_mul_right _ hF.length_le))
    (lt_collectFuel da h (Nat.le_refl _) (Nat.le_succ_of_le hO))

theorem noSufAll_of_feeds (hS : StdSem da P) (hF : Feeds da (startSrc h) items) :
    ∃ l fin, noSufAll da h = .ok (l, fin) ∧ l.map (·.1) = specNoSufItems P [] items := by
  have hR := NoSufRel.mk (P := P) (pre := []) hF
  rw [stOf_nil hS] at hR
  refine collectWith_of_sim _ _ (noSuf_step hS) hR ?_
  exact Nat.lt_of_le_of_lt (Nat.le_trans (specNoSuf_length P [] items) hF.length_le)
    (collectFuel_gt da h)

theorem findAll_of_feeds (hS : StdSem da P) (hF : Feeds da (startSrc h) items) :
    ∃ l fin, findAll da h = .ok (l, fin) ∧ l.map (·.1) = specFindItems P [] items := by
  refine collectWith_of_sim _ _ (find_step hS) (FindRel.mk (P := P) hF) ?_
  exact Nat.lt_of_le_of_lt (Nat.le_trans (specFind_length P [] items) hF.length_le)
    (collectFuel_gt da h)

end StdIter

open StdIter

variable {V : Type}

/-- `find_overlapping_iter` returns exactly the item-level specification. -/
theorem ovAll_eq_spec {da : DA V} {P : List (LPat V)} (hS : StdSem da P) {h : List Nat}
    {items : List Item} (hI : itemsOfHay da.variant h = .ok items)
    (hL : ∀ it ∈ items, LabelOk da it.label) (hO : P.length ≤ da.outputs.size) :
    ∃ l fin, ovAll da h = .ok (l, fin) ∧ l.map (·.1) = specOvItems P [] items :=
  ovAll_of_feeds hS (itemsOfHay_feeds hI hL) hO

/-- `find_overlapping_no_suffix_iter` returns exactly the item-level specification. -/
theorem noSufAll_eq_spec {da : DA V} {P : List (LPat V)} (hS : StdSem da P) {h : List Nat}
    {items : List Item} (hI : itemsOfHay da.variant h = .ok items)
    (hL : ∀ it ∈ items, LabelOk da it.label) :
    ∃ l fin, noSufAll da h = .ok (l, fin) ∧ l.map (·.1) = specNoSufItems P [] items :=
  noSufAll_of_feeds hS (itemsOfHay_feeds hI hL)

/-- `find_iter` returns exactly the item-level specification. -/
theorem findAll_eq_spec {da : DA V} {P : List (LPat V)} (hS : StdSem da P) {h : List Nat}
    {items : List Item} (hI : itemsOfHay da.variant h = .ok items)
    (hL : ∀ it ∈ items, LabelOk da it.label) :
    ∃ l fin, findAll da h = .ok (l, fin) ∧ l.map (·.1) = specFindItems P [] items :=
  findAll_of_feeds hS (itemsOfHay_feeds hI hL)

/-- A byte pattern as a label-level pattern of the byte-wise automaton. -/
def lp (p : Pat V) : LPat V := ⟨p.key, p.key.length, p.value⟩

def byteItemsI : List Nat → Nat → List Item
  | [], _ => []
  | b :: bs, p => ⟨b, p + 1⟩ :: byteItemsI bs (p + 1)

theorem feeds_bytewise {da : DA V} (hv : da.variant = .bytewise) (bs : List Nat) (p : Nat)
    (hb : ∀ b ∈ bs, b < 256) : Feeds da ⟨bs, p⟩ (byteItemsI bs p) := by
  induction bs generalizing p with
  | nil => exact .nil (by rw [hv]; rfl)
  | cons b bs ih =>
    obtain ⟨h1, h2⟩ := List.forall_mem_cons.1 hb
    exact .cons (by rw [hv]; rfl) (labelOk_of_bytewise hv h1) (ih _ h2)

theorem sufLPats_map_lp (Ps : List (Pat V)) (x : List Nat) :
    sufLPats (Ps.map lp) x = (sufPats Ps x).map lp := by
  unfold sufLPats sufPats patsWithKey
  rw [List.map_flatMap]
  congr 1
  funext s
  split
  · rfl
  · rw [List.filter_map]
    rfl

theorem lmatchAt_lp (p : Pat V) (e : Nat) : lmatchAt (lp p) e = matchAt p e := rfl

theorem specOvItems_bytes (Ps : List (Pat V)) (bs pre : List Nat) :
    specOvItems (Ps.map lp) pre (byteItemsI bs pre.length) = specOverlappingFrom Ps pre bs := by
  induction bs generalizing pre with
  | nil => rfl
  | cons b bs ih =>
    have := ih (pre ++ [b])
    rw [List.length_append, List.length_singleton] at this
    simp only [byteItemsI, specOvItems, specOverlappingFrom, sufLPats_map_lp, List.map_map, this]
    rfl

theorem specNoSufItems_bytes (Ps : List (Pat V)) (bs pre : List Nat) :
    specNoSufItems (Ps.map lp) pre (byteItemsI bs pre.length) = specNoSuffixFrom Ps pre bs := by
  induction bs generalizing pre with
  | nil => rfl
  | cons b bs ih =>
    have := ih (pre ++ [b])
    rw [List.length_append, List.length_singleton] at this
    simp only [byteItemsI, specNoSufItems, specNoSuffixFrom, sufLPats_map_lp, List.head?_map,
      Option.map_map, this]
    rfl

theorem specFindItems_bytes (Ps : List (Pat V)) (bs seen : List Nat) (pos : Nat) :
    specFindItems (Ps.map lp) seen (byteItemsI bs (pos + seen.length)) =
      specFindFrom Ps pos seen bs := by
  induction bs generalizing seen pos with
  | nil => rfl
  | cons b bs ih =>
    have h1 := ih (seen ++ [b]) pos
    have h2 := ih [] (pos + seen.length + 1)
    rw [List.length_append] at h1
    rw [byteItemsI, specFindItems, specFindFrom, sufLPats_map_lp, List.head?_map]
    cases (sufPats Ps (seen ++ [b])).head? with
    | none => exact h1
    | some p => exact congrArg _ h2

/-- Byte-wise automaton: `find_overlapping_iter` = byte-level specification. -/
theorem ovAll_bytewise_eq_spec {da : DA V} {Ps : List (Pat V)} (hv : da.variant = .bytewise)
    (hS : StdSem da (Ps.map lp)) {h : List Nat} (hb : ∀ b ∈ h, b < 256)
    (hO : Ps.length ≤ da.outputs.size) :
    ∃ l fin, ovAll da h = .ok (l, fin) ∧ l.map (·.1) = specOverlapping Ps h := by
  rw [specOverlapping, ← specOvItems_bytes]
  exact ovAll_of_feeds hS (feeds_bytewise hv h 0 hb) (by rwa [List.length_map])

/-- Byte-wise automaton: `find_overlapping_no_suffix_iter` = byte-level specification. -/
theorem noSufAll_bytewise_eq_spec {da : DA V} {Ps : List (Pat V)} (hv : da.variant = .bytewise)
    (hS : StdSem da (Ps.map lp)) {h : List Nat} (hb : ∀ b ∈ h, b < 256) :
    ∃ l fin, noSufAll da h = .ok (l, fin) ∧ l.map (·.1) = specNoSuffix Ps h := by
  rw [specNoSuffix, ← specNoSufItems_bytes]
  exact noSufAll_of_feeds hS (feeds_bytewise hv h 0 hb)

/-- Byte-wise automaton: `find_iter` = byte-level specification. -/
theorem findAll_bytewise_eq_spec {da : DA V} {Ps : List (Pat V)} (hv : da.variant = .bytewise)
    (hS : StdSem da (Ps.map lp)) {h : List Nat} (hb : ∀ b ∈ h, b < 256) :
    ∃ l fin, findAll da h = .ok (l, fin) ∧ l.map (·.1) = specFind Ps h := by
  rw [specFind, ← specFindItems_bytes Ps h [] 0]
  exact findAll_of_feeds hS (feeds_bytewise hv h 0 hb)

#print axioms ovAll_eq_spec
#print axioms noSufAll_eq_spec
#print axioms findAll_eq_spec
#print axioms ovAll_bytewise_eq_spec
#print axioms noSufAll_bytewise_eq_spec
#print axioms findAll_bytewise_eq_spec

end Daac
