/-
Property C13 ("standard scans are linear"): the number of automaton transitions taken while a
standard-kind automaton scans a haystack is at most twice the number of items (hence at most
twice the number of bytes) — for every input. Potential argument: every fail step strictly
shortens the current node, a goto lengthens it by one.
Core Lean only.
-/
import Daac.Proofs.StdSem2
import Daac.Proofs.IterFacts
namespace Daac
set_option linter.unusedSectionVars false
variable {V : Type} [DecidableEq V]

theorem fail_rank {da : DA V} {P : List (LPat V)} (hT : da.tableInv P = true) {u : List Nat}
    (hu : u ∈ nodeList P) (hu0 : u ≠ []) :
    ∃ st, da.st (da.idx u) = .ok st ∧ st.fail = da.idx (lps (nodeList P) u) ∧
      lps (nodeList P) u ∈ nodeList P ∧ (lps (nodeList P) u).length < u.length := by
  obtain ⟨st, hst, hfail⟩ := (transSem_of_tableInv hT).fail u hu hu0
  exact ⟨st, hst, hfail, lps_mem_lt hu0⟩

theorem nextLoop_steps {da : DA V} {P : List (LPat V)} (hT : da.tableInv P = true) {c cc : Nat}
    (hc : LabelOk da c) (hcc : da.code c = some cc) :
    ∀ (fuel : Nat) (u : List Nat), u ∈ nodeList P → u.length < fuel → ∀ n,
      ∃ k, da.nextLoop fuel (da.idx u) cc n
          = .ok (da.idx (lsuf (nodeList P) (u ++ [c])), n + k) ∧
        1 ≤ k ∧ k + (lsuf (nodeList P) (u ++ [c])).length ≤ u.length + 2 :=
  (transSem_of_tableInv hT).nextLoop_steps hc hcc

theorem nextS_steps_pos {da : DA V} {P : List (LPat V)} (hT : da.tableInv P = true)
    (hD : maxKeyLen P < da.states.size) {u : List Nat} (hu : u ∈ nodeList P) {c cc : Nat}
    (hc : LabelOk da c) (hcc : da.code c = some cc) :
    ∃ k, da.nextS (da.idx u) c = .ok (da.idx (lsuf (nodeList P) (u ++ [c])), k) ∧ 1 ≤ k ∧
      k + (lsuf (nodeList P) (u ++ [c])).length ≤ u.length + 2 := by
  obtain ⟨k, hk, hk1, hk2⟩ := (transSem_of_tableInv hT).nextS_steps
    (fun _ hu => Nat.lt_of_le_of_lt (node_length_le hu) hD) hu hc
  exact ⟨k, hk, hk1 (hcc ▸ Option.some_ne_none cc), hk2⟩

theorem nextS_steps {da : DA V} {P : List (LPat V)} (hT : da.tableInv P = true)
    (hD : maxKeyLen P < da.states.size) {u : List Nat} (hu : u ∈ nodeList P) {c : Nat}
    (hc : LabelOk da c) :
    ∃ k, da.nextS (da.idx u) c = .ok (da.idx (lsuf (nodeList P) (u ++ [c])), k) ∧
      k + (lsuf (nodeList P) (u ++ [c])).length ≤ u.length + 2 := by
  obtain ⟨k, hk, _, hk2⟩ := (transSem_of_tableInv hT).nextS_steps
    (fun _ hu => Nat.lt_of_le_of_lt (node_length_le hu) hD) hu hc
  exact ⟨k, hk, hk2⟩

def ItemsOk (da : DA V) : Nat → Src → Prop
  | 0, _ => True
  | fuel + 1, s =>
    match nextItem da.variant s with
    | .ok (some (item, s')) => LabelOk da item.label ∧ ItemsOk da fuel s'
    | _ => True

section
omit [DecidableEq V]

theorem itemsOk_of_forall {da : DA V} (h : ∀ c, LabelOk da c) :
    ∀ (fuel : Nat) (s : Src), ItemsOk da fuel s
  | 0, _ => trivial
  | fuel + 1, s => by
    unfold ItemsOk
    split
    · exact ⟨h _, itemsOk_of_forall h fuel _⟩
    · trivial

theorem itemsOk_of_allItems {da : DA V} :
    ∀ (fuel : Nat) (s : Src) (items : List WItem), allItems da.variant fuel s = .ok items →
      (∀ w ∈ items, LabelOk da w.label) → ItemsOk da fuel s := by
  intro fuel s
  fun_induction allItems da.variant fuel s with
  | case1 => exact fun _ _ _ => trivial
  | case2 _ _ _ hi | case3 _ _ hi => intro _ _ _; simp only [ItemsOk, hi]
  | case4 => nofun
  | case5 _ _ _ _ hi l hl ih =>
    intro _ h hlab
    cases h
    obtain ⟨h1, h2⟩ := List.forall_mem_cons.1 hlab
    simp only [ItemsOk, hi]
    exact ⟨h1, ih l hl h2⟩

theorem allItems_length_le {v : Variant} :
    ∀ (fuel : Nat) (s : Src) (items : List WItem), allItems v fuel s = .ok items →
      items.length ≤ s.rest.length := by
  intro fuel s
  fun_induction allItems v fuel s with
  | case1 | case2 | case4 => nofun
  | case3 => intro _ h; cases h; exact Nat.zero_le _
  | case5 _ _ _ _ hi l hl ih =>
    intro _ h
    cases h
    exact Nat.succ_le_of_lt (Nat.lt_of_le_of_lt (ih l hl) (nextItem_spec hi).2.2.1)

theorem allItems_ne_fuel {v : Variant} (fuel : Nat) (s : Src) (hf : s.rest.length < fuel) :
    allItems v fuel s ≠ .error .fuel := by
  fun_induction allItems v fuel s with
  | case1 => exact absurd hf (Nat.not_lt_zero _)
  | case2 _ _ e hi => exact fun h => nextItem_ne_fuel _ _ (Except.error.inj h ▸ hi)
  | case3 | case5 => nofun
  | case4 _ _ _ _ hi e he ih =>
    exact fun h => ih (Nat.lt_of_lt_of_le (nextItem_spec hi).2.2.1 (Nat.le_of_lt_succ hf))
      (he.trans h)

theorem scanSteps_item {da : DA V} {fuel state n : Nat} {src src' : Src} {item : Item}
    {state' k : Nat} (hi : nextItem da.variant src = .ok (some (item, src')))
    (hk : da.nextS state item.label = .ok (state', k)) :
    scanSteps da (fuel + 1) state src n = scanSteps da fuel state' src' (n + k) := by
  simp only [scanSteps, hi, hk]

/-- The scan from the node `u`, given only a one-transition fact `hstep` over a node set `N`
closed under `lsuf N`: a decoding fault is passed on unchanged; otherwise the scan succeeds and
`total + |final node| ≤ n + |u| + 2 * #items` (`t` is the node the scan ends in). -/
theorem scanSteps_of_trans {da : DA V} {N : List (List Nat)} (hN : ∀ x, lsuf N x ∈ N)
    (hstep : ∀ u ∈ N, ∀ c, LabelOk da c →
      ∃ k, da.nextS (da.idx u) c = .ok (da.idx (lsuf N (u ++ [c])), k) ∧
        k + (lsuf N (u ++ [c])).length ≤ u.length + 2)
    (fuel : Nat) (u : List Nat) (src : Src) (n : Nat) (hu : u ∈ N) (hok : ItemsOk da fuel src) :
    Holds (fun e => scanSteps da fuel (da.idx u) src n = .error e)
      (fun items => ∃ total t, scanSteps da fuel (da.idx u) src n = .ok total ∧ t ∈ N ∧
        total + t.length ≤ n + u.length + 2 * items.length)
      (allItems da.variant fuel src) := by
  fun_induction allItems da.variant fuel src generalizing u n with
  | case1 => rfl
  | case2 _ _ e hi => simp only [Holds, scanSteps, hi]
  | case3 _ _ hi => exact ⟨n, u, by simp only [scanSteps, hi], hu, Nat.le_refl _⟩
  | case4 _ _ item _ hi e ha ih =>
    obtain ⟨hl, hok'⟩ : LabelOk da item.label ∧ _ := by simpa only [ItemsOk, hi] using hok
    obtain ⟨k, hk, _⟩ := hstep u hu item.label hl
    exact (scanSteps_item hi hk).trans ((ih _ (n + k) (hN _) hok').of_error ha)
  | case5 _ _ item _ hi l ha ih =>
    obtain ⟨hl, hok'⟩ : LabelOk da item.label ∧ _ := by simpa only [ItemsOk, hi] using hok
    obtain ⟨k, hk, hk2⟩ := hstep u hu item.label hl
    obtain ⟨total, t, h1, h2, h3⟩ := (ih _ (n + k) (hN _) hok').of_ok ha
    refine ⟨total, t, (scanSteps_item hi hk).trans h1, h2, Nat.le_trans h3 ?_⟩
    rw [List.length_cons, Nat.mul_succ, ← Nat.add_assoc, Nat.add_right_comm _ _ 2]
    refine Nat.add_le_add_right ?_ _
    rw [Nat.add_assoc, Nat.add_assoc]
    exact Nat.add_le_add_left hk2 n

/-- The scan of a whole haystack from the root succeeds with at most `2 * #items` transitions. -/
theorem steps_total_of_trans {da : DA V} {N : List (List Nat)} (hN : ∀ x, lsuf N x ∈ N)
    (hstep : ∀ u ∈ N, ∀ c, LabelOk da c →
      ∃ k, da.nextS (da.idx u) c = .ok (da.idx (lsuf N (u ++ [c])), k) ∧
        k + (lsuf N (u ++ [c])).length ≤ u.length + 2)
    (hnil : [] ∈ N) {h : List Nat} {items : List WItem}
    (hi : allItems da.variant (h.length + 1) ⟨h, 0⟩ = .ok items)
    (hl : ∀ w ∈ items, LabelOk da w.label) :
    ∃ total, scanSteps da (h.length + 1) rootIdx (startSrc h) 0 = .ok total ∧
      total ≤ 2 * items.length ∧ total ≤ 2 * h.length := by
  obtain ⟨total, t, h1, _, h3⟩ := (scanSteps_of_trans hN hstep _ [] ⟨h, 0⟩ 0 hnil
    (itemsOk_of_allItems _ _ items hi hl)).of_ok hi
  rw [List.length_nil, Nat.zero_add] at h3
  have h4 := Nat.le_trans (Nat.le_add_right _ _) h3
  exact ⟨total, h1, h4, Nat.le_trans h4 (Nat.mul_le_mul_left 2 (allItems_length_le _ _ _ hi))⟩

end

theorem scanSteps_spec {da : DA V} {P : List (LPat V)} (hT : da.tableInv P = true)
    (hD : maxKeyLen P < da.states.size) (fuel : Nat) (u : List Nat) (src : Src) (n : Nat)
    (hu : u ∈ nodeList P) (hok : ItemsOk da fuel src) :
    Holds (fun e => scanSteps da fuel (da.idx u) src n = .error e)
      (fun items => ∃ total t, scanSteps da fuel (da.idx u) src n = .ok total ∧ t ∈ nodeList P ∧
        total + t.length ≤ n + u.length + 2 * items.length)
      (allItems da.variant fuel src) :=
  scanSteps_of_trans (lsuf_mem_nodeList P)
    (fun _ hu _ hc => nextS_steps hT hD hu hc)
    fuel u src n hu hok

/-- Termination of every transition: with enough fuel for the source, a scan never reports
`.fuel` — neither from its own loop nor from the transition loop. -/
theorem scanSteps_ne_fuel {da : DA V} {P : List (LPat V)} (hT : da.tableInv P = true)
    (hD : maxKeyLen P < da.states.size) {fuel : Nat} {u : List Nat} {src : Src} {n : Nat}
    (hu : u ∈ nodeList P) (hok : ItemsOk da fuel src) (hf : src.rest.length < fuel) :
    scanSteps da fuel (da.idx u) src n ≠ .error .fuel := by
  have h := scanSteps_spec hT hD fuel u src n hu hok
  have hne := allItems_ne_fuel (v := da.variant) fuel src hf
  match allItems da.variant fuel src, h, hne with
  | .error e, h, hne => rw [h]; exact fun h' => hne (congrArg _ (Except.error.inj h'))
  | .ok _, ⟨_, _, h, _⟩, _ => rw [h]; nofun

theorem steps_total {da : DA V} {P : List (LPat V)} (hT : da.tableInv P = true)
    (hD : maxKeyLen P < da.states.size) {h : List Nat} {items : List WItem}
    (hi : allItems da.variant (h.length + 1) ⟨h, 0⟩ = .ok items)
    (hl : ∀ w ∈ items, LabelOk da w.label) :
    ∃ total, scanSteps da (h.length + 1) rootIdx (startSrc h) 0 = .ok total ∧
      total ≤ 2 * items.length ∧ total ≤ 2 * h.length :=
  steps_total_of_trans (lsuf_mem_nodeList P)
    (fun _ hu _ hc => nextS_steps hT hD hu hc) (nodeList_prefClosed P).nil_mem hi hl

/-- **Standard scans are linear**: the total number of automaton transitions while scanning a
haystack is at most twice its number of items, hence at most twice its number of bytes. -/
theorem steps_le_2n {da : DA V} {P : List (LPat V)} (hT : da.tableInv P = true)
    (hD : maxKeyLen P < da.states.size) {h : List Nat} {items : List WItem}
    (hi : allItems da.variant (h.length + 1) ⟨h, 0⟩ = .ok items)
    (hl : ∀ w ∈ items, LabelOk da w.label) {total : Nat}
    (hs : scanSteps da (h.length + 1) rootIdx (startSrc h) 0 = .ok total) :
    total ≤ 2 * items.length ∧ total ≤ 2 * h.length := by
  obtain ⟨total', h1, h2⟩ := steps_total hT hD hi hl
  cases h1.symm.trans hs
  exact h2

theorem allItems_bytewise_labels :
    ∀ (fuel : Nat) (s : Src), s.rest.length < fuel →
      ∃ items, allItems .bytewise fuel s = .ok items ∧ items.map (·.label) = s.rest
  | 0, _, hf => absurd hf (Nat.not_lt_zero _)
  | _ + 1, ⟨[], _⟩, _ => ⟨[], rfl, rfl⟩
  | fuel + 1, ⟨b :: r, pulled⟩, hf => by
    obtain ⟨l, hl1, hl2⟩ :=
      allItems_bytewise_labels fuel ⟨r, pulled + 1⟩ (Nat.lt_of_succ_lt_succ hf)
    refine ⟨⟨b, pulled + 1 - pulled, pulled + 1⟩ :: l, ?_, congrArg (b :: ·) hl2⟩
    simp only [allItems, nextItem, Src.pull, hl1]

theorem steps_le_2n_bytewise {da : DA V} {P : List (LPat V)} (hT : da.tableInv P = true)
    (hD : maxKeyLen P < da.states.size) (hv : da.variant = .bytewise) {h : List Nat}
    (hb : ∀ b ∈ h, b < 256) :
    ∃ total, scanSteps da (h.length + 1) rootIdx (startSrc h) 0 = .ok total ∧
      total ≤ 2 * h.length := by
  obtain ⟨items, hi, hlab⟩ := allItems_bytewise_labels (h.length + 1) ⟨h, 0⟩ (Nat.lt_succ_self _)
  rw [← hv] at hi
  have hl : ∀ w ∈ items, LabelOk da w.label := fun w hw =>
    labelOk_of_bytewise hv (hb _ ((show _ = h from hlab) ▸ List.mem_map_of_mem hw))
  obtain ⟨total, h1, _, h3⟩ := steps_total hT hD hi hl
  exact ⟨total, h1, h3⟩

theorem steps_le_2n_charwise {da : DA V} {P : List (LPat V)} (hT : da.tableInv P = true)
    (hD : maxKeyLen P < da.states.size) (hv : da.variant = .charwise) {h : List Nat}
    {items : List WItem} (hi : allItems .charwise (h.length + 1) ⟨h, 0⟩ = .ok items) :
    ∃ total, scanSteps da (h.length + 1) rootIdx (startSrc h) 0 = .ok total ∧
      total ≤ 2 * items.length ∧ total ≤ 2 * h.length := by
  rw [← hv] at hi
  exact steps_total hT hD hi (fun w _ => labelOk_of_charwise hv w.label)

theorem scanSteps_charwise_total {da : DA V} {P : List (LPat V)} (hT : da.tableInv P = true)
    (hD : maxKeyLen P < da.states.size) (hv : da.variant = .charwise) (h : List Nat) :
    scanSteps da (h.length + 1) rootIdx (startSrc h) 0 ≠ .error .fuel ∧
    ((∃ total, scanSteps da (h.length + 1) rootIdx (startSrc h) 0 = .ok total) ∨
      (∃ e, allItems da.variant (h.length + 1) (startSrc h) = .error e ∧
        scanSteps da (h.length + 1) rootIdx (startSrc h) 0 = .error e)) := by
  have hok := itemsOk_of_forall (labelOk_of_charwise hv) (h.length + 1) (startSrc h)
  have hs := scanSteps_spec hT hD _ [] (startSrc h) 0 (nodeList_prefClosed P).nil_mem hok
  refine ⟨scanSteps_ne_fuel hT hD (nodeList_prefClosed P).nil_mem hok (Nat.lt_succ_self _), ?_⟩
  match allItems da.variant (h.length + 1) (startSrc h), hs with
  | .error e, hs => exact .inr ⟨e, rfl, hs⟩
  | .ok _, ⟨total, _, hs, _⟩ => exact .inl ⟨total, hs⟩

def DA.failIter (da : DA V) : Nat → Nat → Option Nat
  | 0, i => some i
  | k + 1, i =>
    match da.states[i]? with
    | some st => da.failIter k st.fail
    | none => none

theorem fail_reaches_root {da : DA V} {P : List (LPat V)} (hT : da.tableInv P = true) :
    ∀ (m : Nat) (u : List Nat), u.length ≤ m → u ∈ nodeList P →
      ∃ k, k ≤ u.length ∧ da.failIter k (da.idx u) = some rootIdx := by
  intro m
  induction m with
  | zero =>
    intro u hm _
    rw [List.eq_nil_of_length_eq_zero (Nat.le_zero.1 hm)]
    exact ⟨0, Nat.le_refl _, rfl⟩
  | succ m ih =>
    intro u hm hu
    by_cases hu0 : u = []
    · rw [hu0]
      exact ⟨0, Nat.le_refl _, rfl⟩
    · obtain ⟨st, hst, hfail, hv, hvl⟩ := fail_rank hT hu hu0
      obtain ⟨k, hk, hk2⟩ := ih _ (Nat.le_of_lt_succ (Nat.lt_of_lt_of_le hvl hm)) hv
      refine ⟨k + 1, Nat.succ_le_of_lt (Nat.lt_of_le_of_lt hk hvl), ?_⟩
      have : da.states[da.idx u]? = some st := by
        unfold DA.st at hst
        split at hst
        · next s hs => rw [← Except.ok.inj hst]; exact hs
        · cases hst
      simp only [DA.failIter, this, hfail, hk2]

#print axioms nextLoop_steps
#print axioms nextS_steps
#print axioms scanSteps_spec
#print axioms scanSteps_ne_fuel
#print axioms steps_le_2n
#print axioms steps_le_2n_bytewise
#print axioms steps_le_2n_charwise
#print axioms scanSteps_charwise_total
#print axioms fail_rank
#print axioms fail_reaches_root

end Daac
