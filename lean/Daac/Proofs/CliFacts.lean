/-
Facts about the command-line model `Daac/Model/Cli.lean`. The rendering loop is first described
by the segments it emits, for arbitrary searches `find` / `nosuf`; the highlight flags are then
computed for any list of non-empty matches inside the line; last, both are instantiated with the
specification searches (`find := specFind P`, `nosuf := specNoSuffix P`). Core Lean only.
-/
import Daac.Model.Cli
import Daac.Proofs.SpecProps
namespace Daac.Cli
open Daac
variable {V : Type}

/-- The `(highlighted?, segment)` pairs the rendering loop emits, and the final `prev_pos`. -/
def renderSegs (line : List Nat) : List (Nat × Int) → Int → Nat → List (Bool × List Nat) × Nat
  | [], _, prev => ([], prev)
  | (pos, c) :: rest, depth, prev =>
    let nd := depth + c
    if depth = 0 ∧ nd ≠ 0 then
      ((false, (line.take pos).drop prev) :: (renderSegs line rest nd pos).1,
        (renderSegs line rest nd pos).2)
    else if depth ≠ 0 ∧ nd = 0 then
      ((true, (line.take pos).drop prev) :: (renderSegs line rest nd pos).1,
        (renderSegs line rest nd pos).2)
    else renderSegs line rest nd prev

def renderBytes (segs : List (Bool × List Nat)) : List Nat :=
  segs.flatMap fun s => (if s.1 then ansiRed else ansiReset) ++ s.2

def hlMask (segs : List (Bool × List Nat)) : List Bool :=
  segs.flatMap fun s => List.replicate s.2.length s.1

theorem renderBytes_nil : renderBytes [] = [] := rfl

theorem renderBytes_cons (s : Bool × List Nat) (segs : List (Bool × List Nat)) :
    renderBytes (s :: segs) = (if s.1 then ansiRed else ansiReset) ++ s.2 ++ renderBytes segs :=
  List.flatMap_cons

theorem renderBytes_append (segs segs' : List (Bool × List Nat)) :
    renderBytes (segs ++ segs') = renderBytes segs ++ renderBytes segs' :=
  List.flatMap_append

theorem hlMask_nil : hlMask [] = [] := rfl

theorem hlMask_cons (s : Bool × List Nat) (segs : List (Bool × List Nat)) :
    hlMask (s :: segs) = List.replicate s.2.length s.1 ++ hlMask segs :=
  List.flatMap_cons

theorem hlMask_append (segs segs' : List (Bool × List Nat)) :
    hlMask (segs ++ segs') = hlMask segs ++ hlMask segs' :=
  List.flatMap_append

theorem hlMask_length (segs : List (Bool × List Nat)) :
    (hlMask segs).length = (segs.flatMap (·.2)).length := by
  induction segs with
  | nil => rfl
  | cons a segs ih =>
    rw [hlMask_cons, List.flatMap_cons, List.length_append, List.length_append,
      List.length_replicate, ih]

/-- The flag a pending segment gets: whether the depth at its bytes is non-zero. -/
def nz (x : Int) : Bool := decide (x ≠ 0)

theorem renderLoop_eq_renderSegs (line : List Nat) (cs : List (Nat × Int)) :
    ∀ (depth : Int) (prev : Nat) (out : List Nat),
      renderLoop line cs depth prev out =
        (out ++ renderBytes (renderSegs line cs depth prev).1, (renderSegs line cs depth prev).2) := by
  induction cs with
  | nil => intro _ _ out; exact congrArg (·, _) (List.append_nil out).symm
  | cons pc rest ih =>
    intro depth prev out
    simp only [renderLoop, renderSegs]
    split
    · rw [ih, renderBytes_cons]
      simp only [List.append_assoc, Bool.false_eq_true, if_false]
    · split
      · rw [ih, renderBytes_cons]
        simp only [List.append_assoc, if_true]
      · exact ih _ _ _

/-- The loop's two emitting branches are one: when the flag changes, the pending segment is
emitted under the old flag. -/
theorem renderSegs_cons (line : List Nat) (pos : Nat) (c : Int) (rest : List (Nat × Int))
    (d : Int) (prev : Nat) :
    renderSegs line ((pos, c) :: rest) d prev =
      if nz d = nz (d + c) then renderSegs line rest (d + c) prev
      else ((nz d, (line.take pos).drop prev) :: (renderSegs line rest (d + c) pos).1,
        (renderSegs line rest (d + c) pos).2) := by
  by_cases hd : d = 0 <;> by_cases hn : d + c = 0 <;> simp [renderSegs, nz, hd, hn]

theorem slice_append_drop (line : List Nat) {prev pos : Nat} (h : prev ≤ pos) :
    (line.take pos).drop prev ++ line.drop pos = line.drop prev := by
  have h1 : line.drop pos = (line.drop prev).drop (pos - prev) := by
    rw [List.drop_drop, Nat.add_sub_of_le h]
  rw [List.drop_take, h1, List.take_append_drop]

theorem renderSegs_text (line : List Nat) (f : Nat → Int) (k : Nat) :
    ∀ (s : Nat) (d : Int) (prev : Nat), prev ≤ s →
      (renderSegs line ((List.range' s k).map fun p => (p, f p)) d prev).1.flatMap (·.2) ++
          line.drop (renderSegs line ((List.range' s k).map fun p => (p, f p)) d prev).2
        = line.drop prev := by
  induction k with
  | zero => intro _ _ _ _; rfl
  | succ k ih =>
    intro s d prev hps
    rw [List.range'_succ, List.map_cons, renderSegs_cons]
    split
    · exact ih (s + 1) _ prev (Nat.le_succ_of_le hps)
    · rw [List.flatMap_cons, List.append_assoc, ih (s + 1) _ s (Nat.le_succ s),
        slice_append_drop line hps]

theorem renderSegs_snd_le (line : List Nat) (f : Nat → Int) {b : Nat} (k : Nat) :
    ∀ (s : Nat) (d : Int) (prev : Nat), prev ≤ b → s + k ≤ b + 1 →
      (renderSegs line ((List.range' s k).map fun p => (p, f p)) d prev).2 ≤ b := by
  induction k with
  | zero => intro _ _ _ h _; exact h
  | succ k ih =>
    intro s d prev h hk
    have hk' : s + 1 + k ≤ b + 1 := Nat.add_right_comm s 1 k ▸ hk
    rw [List.range'_succ, List.map_cons, renderSegs_cons]
    split
    · exact ih (s + 1) _ prev h hk'
    · have hs : s ≤ b := Nat.le_of_succ_le_succ (Nat.le_trans (Nat.le_add_right (s + 1) k) hk')
      exact ih (s + 1) _ s hs hk'

/-- The `(position, count)` list walked by `find_and_output`. -/
def countList (line : List Nat) (ms : List (Match V)) : List (Nat × Int) :=
  (List.range (line.length + 1)).zip (colorCounts line.length ms)

/-- All segments of a coloured line: those emitted by the loop, then the plain tail written
after the final `ansiReset`. -/
def colourSegs (line : List Nat) (ms : List (Match V)) : List (Bool × List Nat) :=
  (renderSegs line (countList line ms) 0 0).1 ++
    [(false, line.drop (renderSegs line (countList line ms) 0 0).2)]

/-- The entry of `color_counts` at position `p`. -/
def cntAt (ms : List (Match V)) (p : Nat) : Int :=
  (ms.filter (·.start = p)).length - (ms.filter (·.stop = p)).length

theorem countList_eq (line : List Nat) (ms : List (Match V)) :
    countList line ms = (List.range' 0 (line.length + 1)).map (fun p => (p, cntAt ms p)) := by
  rw [countList, colorCounts, List.zip_eq_zipWith, List.zipWith_map_right, List.zipWith_self,
    List.range_eq_range']
  rfl

theorem colourSegs_text (line : List Nat) (ms : List (Match V)) :
    (colourSegs line ms).flatMap (·.2) = line := by
  rw [colourSegs, List.flatMap_append, List.flatMap_singleton, countList_eq]
  exact renderSegs_text line _ _ 0 0 0 (Nat.le_refl 0)

theorem findAndOutput_plain (find nosuf : List Nat → List (Match V))
    (fn : Option (List Nat)) (ln : Option Nat) (line : List Nat) :
    findAndOutput find nosuf false fn ln line =
      if (find line).isEmpty then [] else linePrefix fn ln ++ line ++ [10] := rfl

theorem findAndOutput_colour (find nosuf : List Nat → List (Match V))
    (fn : Option (List Nat)) (ln : Option Nat) (line : List Nat) :
    findAndOutput find nosuf true fn ln line =
      if (nosuf line).isEmpty then [] else
        linePrefix fn ln ++ renderBytes (colourSegs line (nosuf line)) ++ [10] := by
  rw [colourSegs, renderBytes_append, renderBytes_cons]
  simp only [findAndOutput, renderLoop_eq_renderSegs, countList, renderBytes_nil, Bool.not_true,
    Bool.false_eq_true, if_false, List.nil_append, List.append_nil, List.append_assoc]

theorem findAndOutput_eq_nil_iff (find nosuf : List Nat → List (Match V)) (color : Bool)
    (fn : Option (List Nat)) (ln : Option Nat) (line : List Nat) :
    findAndOutput find nosuf color fn ln line = [] ↔
      (if color then nosuf line else find line) = [] := by
  cases color
  · rw [findAndOutput_plain]; simp
  · rw [findAndOutput_colour]; simp

/-- Walking consecutive positions `s, …, e - 1` with counts `f` from depth `D s`, where `D` is any
running sum of `f`: the flags emitted, followed by those of the segment still pending at `e`, are
those of the segment pending at `s` followed by the flag after each position. -/
theorem renderSegs_mask (line : List Nat) (f D : Nat → Int) (hD : ∀ p, D (p + 1) = D p + f p)
    {e : Nat} (he : e ≤ line.length + 1) (k : Nat) :
    ∀ (s prev : Nat), prev ≤ s → s + k = e →
      hlMask (renderSegs line ((List.range' s k).map fun p => (p, f p)) (D s) prev).1 ++
          List.replicate
            (e - (renderSegs line ((List.range' s k).map fun p => (p, f p)) (D s) prev).2)
            (nz (D e))
        = List.replicate (s - prev) (nz (D s)) ++ (List.range' s k).map fun p => nz (D (p + 1)) := by
  induction k with
  | zero => intro s prev _ hk; subst hk; exact (List.append_nil _).symm
  | succ k ih =>
    intro s prev hps hk
    have hk' : s + 1 + k = e := (Nat.add_right_comm s 1 k).trans hk
    rw [List.range'_succ, List.map_cons, List.map_cons, renderSegs_cons, ← hD]
    split
    · rename_i hflag
      rw [ih (s + 1) prev (Nat.le_succ_of_le hps) hk', ← hflag, Nat.succ_sub hps,
        List.replicate_succ', List.append_assoc]
      rfl
    · have hs : s ≤ line.length :=
        Nat.le_of_succ_le_succ (Nat.le_trans (Nat.le_add_right (s + 1) k) (hk' ▸ he))
      have hlen : ((line.take s).drop prev).length = s - prev := by
        rw [List.length_drop, List.length_take, Nat.min_eq_left hs]
      rw [hlMask_cons, List.append_assoc, ih (s + 1) s (Nat.le_succ s) hk', hlen,
        Nat.add_sub_cancel_left]
      rfl

/-- Sum of the `color_counts` entries at positions `< q`: the depth before processing `q`. -/
def depthBefore (ms : List (Match V)) (q : Nat) : Int :=
  (ms.filter (·.start < q)).length - (ms.filter (·.stop < q)).length

theorem length_filter_add {α : Type} {p q r : α → Bool} (l : List α)
    (h : ∀ a ∈ l, (p a ↔ q a ∨ r a) ∧ ¬(q a ∧ r a)) :
    (l.filter p).length = (l.filter q).length + (l.filter r).length := by
  induction l with
  | nil => rfl
  | cons a l ih =>
    obtain ⟨hp, hd⟩ := h a List.mem_cons_self
    have ih := ih fun b hb => h b (List.mem_cons_of_mem a hb)
    by_cases hq : q a = true
    · have hr : ¬ r a = true := fun hr => hd ⟨hq, hr⟩
      rw [List.filter_cons_of_pos (hp.2 (Or.inl hq)), List.filter_cons_of_pos hq,
        List.filter_cons_of_neg hr, List.length_cons, List.length_cons, ih, Nat.add_right_comm]
    · by_cases hr : r a = true
      · rw [List.filter_cons_of_pos (hp.2 (Or.inr hr)), List.filter_cons_of_neg hq,
          List.filter_cons_of_pos hr, List.length_cons, List.length_cons, ih, Nat.add_assoc]
      · rw [List.filter_cons_of_neg fun h => (hp.1 h).elim hq hr, List.filter_cons_of_neg hq,
          List.filter_cons_of_neg hr, ih]

theorem filter_lt_succ {α : Type} (g : α → Nat) (l : List α) (q : Nat) :
    (l.filter (fun a => decide (g a < q + 1))).length =
      (l.filter (fun a => decide (g a < q))).length + (l.filter (fun a => decide (g a = q))).length :=
  length_filter_add l fun a _ => by
    simp only [decide_eq_true_eq]
    exact ⟨Nat.lt_succ_iff_lt_or_eq, fun h => Nat.ne_of_lt h.1 h.2⟩

theorem depthBefore_zero (ms : List (Match V)) : depthBefore ms 0 = 0 := by
  simp [depthBefore]

theorem depthBefore_succ (ms : List (Match V)) (q : Nat) :
    depthBefore ms (q + 1) = depthBefore ms q + cntAt ms q := by
  unfold depthBefore cntAt
  rw [filter_lt_succ (fun m : Match V => m.start), filter_lt_succ (fun m : Match V => m.stop)]
  omega

/-- Prefix sums: the depth after processing position `q` is the number of matches covering
byte `q` (all matches being non-empty). -/
theorem depth_eq_cover_count (ms : List (Match V)) (hne : ∀ m ∈ ms, m.start < m.stop) (q : Nat) :
    depthBefore ms (q + 1) = ((ms.filter (fun m => decide (m.start ≤ q ∧ q < m.stop))).length : Int) := by
  have h : (ms.filter (fun m => decide (m.start < q + 1))).length =
      (ms.filter (fun m => decide (m.start ≤ q ∧ q < m.stop))).length +
        (ms.filter (fun m => decide (m.stop < q + 1))).length :=
    length_filter_add ms fun m hm => by
      have := hne m hm
      simp only [decide_eq_true_eq]; omega
  rw [depthBefore, h, Int.natCast_add, Int.add_sub_cancel]

theorem nz_depth_iff (ms : List (Match V)) (hne : ∀ m ∈ ms, m.start < m.stop) (q : Nat) :
    nz (depthBefore ms (q + 1)) = true ↔ ∃ m ∈ ms, m.start ≤ q ∧ q < m.stop := by
  rw [depth_eq_cover_count ms hne]
  simp only [nz, decide_eq_true_eq, ne_eq, Int.natCast_eq_zero, List.length_eq_zero_iff,
    List.filter_eq_nil_iff, Classical.not_forall, Classical.not_not, exists_prop]

theorem hlMask_colourSegs (line : List Nat) (ms : List (Match V))
    (hne : ∀ m ∈ ms, m.start < m.stop) (hle : ∀ m ∈ ms, m.stop ≤ line.length) :
    hlMask (colourSegs line ms) =
      (List.range' 0 line.length).map (fun q => nz (depthBefore ms (q + 1))) := by
  have hend : nz (depthBefore ms (line.length + 1)) = false :=
    Bool.eq_false_iff.2 fun h =>
      have ⟨m, hm, _, h2⟩ := (nz_depth_iff ms hne _).1 h
      Nat.not_lt.2 (hle m hm) h2
  have hprev := renderSegs_snd_le line (cntAt ms) (b := line.length) (line.length + 1) 0 0 0
    (Nat.zero_le _) (Nat.le_of_eq (Nat.zero_add _))
  have h := renderSegs_mask line (cntAt ms) (depthBefore ms) (depthBefore_succ ms) (Nat.le_refl _)
    (line.length + 1) 0 0 (Nat.le_refl 0) (Nat.zero_add _)
  rw [← countList_eq] at hprev h
  -- The loop also visits position `line.length`, which has no byte: its flag is the last entry
  -- on both sides of `h`, and is dropped.
  rw [depthBefore_zero, hend, Nat.succ_sub hprev, List.replicate_succ', Nat.sub_self,
    List.replicate_zero, List.nil_append, List.range'_concat, List.map_append,
    ← List.append_assoc] at h
  rw [colourSegs, hlMask_append, hlMask_cons, hlMask_nil, List.append_nil,
    List.length_drop]
  exact List.append_inj_left' h rfl

theorem covered_iff_nosuf_covered {P : List (Pat V)} (hv : ValidPats P) (line : List Nat) (i : Nat) :
    (∃ m, IsOcc P line m ∧ m.start ≤ i ∧ i < m.stop) ↔
      ∃ m ∈ specNoSuffix P line, m.start ≤ i ∧ i < m.stop := by
  constructor
  · rintro ⟨m, hm, h1, h2⟩
    obtain ⟨m0, h0, h3, h4⟩ := exists_nosuf_of_occ hv hm
    exact ⟨m0, h0, Nat.le_trans h4 h1, h3 ▸ h2⟩
  · rintro ⟨m, hm, h1, h2⟩
    exact ⟨m, ((mem_specNoSuffix hv).1 hm).1, h1, h2⟩

theorem findAndOutput_spec_eq_nil_iff {P : List (Pat V)} (hv : ValidPats P) (color : Bool)
    (fn : Option (List Nat)) (ln : Option Nat) (line : List Nat) :
    findAndOutput (specFind P) (specNoSuffix P) color fn ln line = [] ↔ ¬ ∃ m, IsOcc P line m := by
  rw [findAndOutput_eq_nil_iff]
  cases color
  · exact specFind_eq_nil_iff hv line
  · exact specNoSuffix_eq_nil_iff hv line

set_option linter.unusedVariables false in
/-- `hv` is not needed: this holds for any pair of searches. -/
theorem plain_output_of_ne_nil {P : List (Pat V)} (hv : ValidPats P)
    (fn : Option (List Nat)) (ln : Option Nat) (line : List Nat)
    (h : findAndOutput (specFind P) (specNoSuffix P) false fn ln line ≠ []) :
    findAndOutput (specFind P) (specNoSuffix P) false fn ln line =
      linePrefix fn ln ++ line ++ [10] := by
  rw [findAndOutput_plain] at h ⊢
  split
  · rename_i he; exact absurd (if_pos he) h
  · rfl

theorem no_output_of_no_occ {P : List (Pat V)} (hv : ValidPats P) (color : Bool)
    (fn : Option (List Nat)) (ln : Option Nat) (line : List Nat) (h : ¬ ∃ m, IsOcc P line m) :
    findAndOutput (specFind P) (specNoSuffix P) color fn ln line = [] :=
  (findAndOutput_spec_eq_nil_iff hv color fn ln line).2 h

theorem flag_iff_covered {P : List (Pat V)} (hv : ValidPats P) (line : List Nat)
    (i : Nat) (hi : i < line.length) (b : Bool) :
    (hlMask (colourSegs line (specNoSuffix P line)))[i]? = some b ↔
      (b = true ↔ ∃ m, IsOcc P line m ∧ m.start ≤ i ∧ i < m.stop) := by
  have hocc : ∀ m ∈ specNoSuffix P line, IsOcc P line m := fun _ hm =>
    ((mem_specNoSuffix hv).1 hm).1
  have hne : ∀ m ∈ specNoSuffix P line, m.start < m.stop := fun m hm =>
    (hocc m hm).start_lt_stop hv.key_ne
  rw [hlMask_colourSegs line _ hne fun m hm => (hocc m hm).stop_le, List.getElem?_map,
    List.getElem?_range' hi, covered_iff_nosuf_covered hv, ← nz_depth_iff _ hne i]
  cases b <;> simp

theorem plain_iff_not_covered {P : List (Pat V)} (hv : ValidPats P) (line : List Nat)
    (i : Nat) (hi : i < line.length) :
    (hlMask (colourSegs line (specNoSuffix P line)))[i]? = some false ↔
      ¬ ∃ m, IsOcc P line m ∧ m.start ≤ i ∧ i < m.stop :=
  (flag_iff_covered hv line i hi false).trans (by simp only [Bool.false_eq_true, false_iff])

/-- The fold inside `splitLines`. -/
def splitAux (bs : List Nat) : List Nat × List (List Nat) :=
  bs.foldr (fun b (acc : List Nat × List (List Nat)) =>
    if b = 10 then ([], acc.1 :: acc.2) else (b :: acc.1, acc.2)) ([], [])

theorem splitLines_eq (bs : List Nat) : splitLines bs = (splitAux bs).1 :: (splitAux bs).2 := rfl

theorem splitAux_cons (b : Nat) (bs : List Nat) :
    splitAux (b :: bs) =
      if b = 10 then ([], (splitAux bs).1 :: (splitAux bs).2)
      else (b :: (splitAux bs).1, (splitAux bs).2) := rfl

theorem splitLines_nil : splitLines [] = [[]] := rfl

theorem splitLines_cons_newline (bs : List Nat) : splitLines (10 :: bs) = [] :: splitLines bs := rfl

theorem splitLines_cons_other (b : Nat) (bs : List Nat) (hb : b ≠ 10) :
    splitLines (b :: bs) = (b :: (splitLines bs).head (by simp [splitLines_eq])) ::
      (splitLines bs).tail := by
  rw [splitLines_eq, splitAux_cons, if_neg hb]; rfl

theorem splitLines_of_no_newline (bs : List Nat) (h : 10 ∉ bs) : splitLines bs = [bs] := by
  induction bs with
  | nil => rfl
  | cons b bs ih =>
    have hb : b ≠ 10 := fun e => h (e ▸ List.mem_cons_self)
    rw [splitLines_cons_other b bs hb]
    simp only [ih fun hm => h (List.mem_cons_of_mem _ hm), List.head_cons, List.tail_cons]

theorem splitLines_no_newline (bs : List Nat) : ∀ l ∈ splitLines bs, 10 ∉ l := by
  induction bs with
  | nil => exact List.forall_mem_cons.2 ⟨List.not_mem_nil, fun _ h => nomatch h⟩
  | cons b bs ih =>
    by_cases hb : b = 10
    · rw [hb, splitLines_cons_newline]
      exact List.forall_mem_cons.2 ⟨List.not_mem_nil, ih⟩
    · rw [splitLines_cons_other b bs hb]
      refine List.forall_mem_cons.2 ⟨fun h => ?_, fun l hl => ih l (List.mem_of_mem_tail hl)⟩
      rcases List.mem_cons.1 h with e | h
      · exact hb e.symm
      · exact ih _ (List.head_mem _) h

theorem intercalate_cons_head {α : Type} (sep : List α) (b : α) (x : List α) (xs : List (List α)) :
    sep.intercalate ((b :: x) :: xs) = b :: sep.intercalate (x :: xs) := by
  cases xs <;> rfl

theorem splitLines_intercalate (bs : List Nat) : [10].intercalate (splitLines bs) = bs := by
  induction bs with
  | nil => rfl
  | cons b bs ih =>
    by_cases hb : b = 10
    · rw [hb, splitLines_cons_newline]
      exact congrArg (10 :: ·) ih
    · rw [splitLines_cons_other b bs hb, intercalate_cons_head]
      exact congrArg (b :: ·) ((congrArg _ (List.cons_head_tail _)).trans ih)

theorem ite_dropLast_sublist {α : Type} (c : Prop) [Decidable c] (l : List α) :
    (if c then l.dropLast else l).Sublist l := by
  split
  · exact List.dropLast_sublist l
  · exact List.Sublist.refl l

theorem bufLines_no_newline (bs : List Nat) : ∀ l ∈ bufLines bs, 10 ∉ l := by
  intro l hl
  obtain ⟨l0, hl0, rfl⟩ := List.mem_map.1 hl
  exact fun hm => splitLines_no_newline bs l0 ((ite_dropLast_sublist _ _).subset hl0)
    ((ite_dropLast_sublist _ _).subset hm)

theorem patterns_no_newline (f a : Option (List Nat)) : ∀ p ∈ patterns f a, 10 ∉ p := by
  intro p hp
  simp only [patterns, List.mem_append, List.mem_filter] at hp
  rcases hp with hp | hp
  · cases f with
    | none => simp at hp
    | some c => exact bufLines_no_newline c p hp.1
  · cases a with
    | none => simp at hp
    | some c => exact splitLines_no_newline c p hp.1

end Daac.Cli
