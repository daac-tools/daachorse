/-
Counting facts under `Tie.N.Rep`: the nodes of the represented trie are injectively numbered below
`st.size`, hence any duplicate-free list of nodes (the prefixes of a path, the BFS queue plus the
root) is no longer than `st.size`.
-/
import Daac.Proofs.TieFBase
namespace Daac.Tie.F
open Daac Daac.Gen Daac.Gen.N Daac.Tie.N
variable {V : Type}

theorem nodup_bound (n : Nat) (l : List Nat) (hnd : l.Nodup) (hb : ∀ x ∈ l, x < n) :
    l.length ≤ n := by
  induction n generalizing l with
  | zero =>
    cases l with
    | nil => exact Nat.le_refl 0
    | cons a r => exact absurd (hb a List.mem_cons_self) (Nat.not_lt_zero _)
  | succ n ih =>
    -- remove `n` from the list: what is left lies below `n`
    have ih := ih (l.erase n) (hnd.erase n) fun x hx =>
      have h1 := hnd.mem_erase_iff.mp hx
      Nat.lt_of_le_of_ne (Nat.le_of_lt_succ (hb x h1.2)) h1.1
    by_cases hm : n ∈ l
    · rw [List.length_erase_of_mem hm] at ih
      exact Nat.sub_le_iff_le_add.mp ih
    · rw [List.erase_of_not_mem hm] at ih
      exact Nat.le_succ_of_le ih

section root
variable {st : Tie.N.St V} {pth : Pth} {t : Trie V}

theorem paths_ids (hrep : Rep st pth t 0 []) (us : List (List Nat)) (hnd : us.Nodup)
    (hn : ∀ u ∈ us, t.hasNode u = true) :
    ∃ ids : List Nat, ids.length = us.length ∧ ids.Nodup ∧
      (∀ i ∈ ids, i < st.size ∧ ∃ u ∈ us, idAt st 0 u = some i) := by
  induction us with
  | nil => exact ⟨[], rfl, List.nodup_nil, nofun⟩
  | cons u us ih =>
    rw [List.nodup_cons] at hnd
    obtain ⟨ids, h1, h2, h3⟩ := ih hnd.2 fun w hw => hn w (List.mem_cons_of_mem _ hw)
    have hu := hn u List.mem_cons_self
    unfold Trie.hasNode at hu
    cases hw : t.walk u with
    | none => rw [hw] at hu; cases hu
    | some n =>
      obtain ⟨i, hi, _⟩ := idAt_some_of_walk hrep hw
      refine ⟨i :: ids, congrArg (· + 1) h1, List.nodup_cons.mpr ⟨fun hmem => ?_, h2⟩, fun j hj => ?_⟩
      · -- ids determine their node, and `u` is not among `us`
        obtain ⟨_, w, hw1, hw2⟩ := h3 i hmem
        cases idAt_inj hrep hi hw2
        exact hnd.1 hw1
      · rcases List.mem_cons.mp hj with rfl | hj
        · exact ⟨idAt_lt hrep hi, u, List.mem_cons_self, hi⟩
        · obtain ⟨a, w, b, c⟩ := h3 j hj
          exact ⟨a, w, List.mem_cons_of_mem _ b, c⟩

theorem paths_le_size (hrep : Rep st pth t 0 []) (us : List (List Nat)) (hnd : us.Nodup)
    (hn : ∀ u ∈ us, t.hasNode u = true) : us.length ≤ st.size := by
  obtain ⟨ids, h1, h2, h3⟩ := paths_ids hrep us hnd hn
  rw [← h1]
  exact nodup_bound st.size ids h2 (fun i hi => (h3 i hi).1)

theorem depth_lt_size (hrep : Rep st pth t 0 []) {u : List Nat} {i : Nat} (hi : idAt st 0 u = some i) :
    u.length < st.size := by
  obtain ⟨n, hw, _⟩ := walk_some_of_idAt hrep hi
  have hu : t.hasNode u = true := by simp [Trie.hasNode, hw]
  have := paths_le_size hrep ((List.range (u.length + 1)).map (fun k => u.take k)) ?_ ?_
  · rwa [List.length_map, List.length_range] at this
  · -- the prefixes of `u` have different lengths
    unfold List.Nodup
    rw [List.pairwise_map]
    refine List.Pairwise.imp_of_mem ?_ (List.pairwise_lt_range (n := u.length + 1))
    intro a b ha hb hlt hab
    have h := congrArg List.length hab
    rw [List.length_take, List.length_take, Nat.min_eq_left (Nat.le_of_lt_succ (List.mem_range.mp ha)),
      Nat.min_eq_left (Nat.le_of_lt_succ (List.mem_range.mp hb))] at h
    exact Nat.ne_of_lt hlt h
  · intro w hw
    obtain ⟨k, _, rfl⟩ := List.mem_map.mp hw
    exact Trie.hasNode_of_prefix t (List.take_prefix k u) hu

end root

theorem rep_sorted_aux {st : Tie.N.St V} {pth : Pth} :
    (∀ (t : Trie V) (id : Nat) (pre : List Nat), Rep st pth t id pre → t.Sorted) ∧
    ∀ (ks : Kids V) (pre : List Nat) (lo : Nat) (es : List (Nat × Nat)),
      RepK st pth ks pre lo es → ks.Sorted ∧ ∀ l ∈ ks.labels, lo ≤ l := by
  refine Trie.induction ?_ ?_ ?_
  · intro out kids ih id pre h
    obtain ⟨s, _, _, _, h4⟩ := h
    exact (ih pre 0 s.edges h4).1
  · exact fun _ _ _ _ => ⟨trivial, fun _ hl => nomatch hl⟩
  · intro l t r iht ihr pre lo es h
    obtain ⟨cid, es', _, h2, h3, h4⟩ := h
    have ih := ihr pre (l + 1) es' h4
    refine ⟨⟨iht cid _ h3, ih.1, ih.2⟩, fun x hx => ?_⟩
    rcases List.mem_cons.mp hx with rfl | hx
    · exact h2
    · exact Nat.le_trans h2 (Nat.le_of_succ_le (ih.2 x hx))

theorem rep_sorted {st : Tie.N.St V} {pth : Pth} : (t : Trie V) → (id : Nat) → (pre : List Nat) →
    Rep st pth t id pre → t.Sorted :=
  rep_sorted_aux.1

theorem repK_sorted {st : Tie.N.St V} {pth : Pth} : (ks : Kids V) → (pre : List Nat) → (lo : Nat) →
    (es : List (Nat × Nat)) → RepK st pth ks pre lo es → ks.Sorted ∧ ∀ l ∈ ks.labels, lo ≤ l :=
  rep_sorted_aux.2

theorem queue_lt_size {st : Tie.N.St V} {pth : Pth} {t : Trie V} (hrep : Rep st pth t 0 []) :
    t.queue.length < st.size := by
  have hs : t.Sorted := rep_sorted t 0 [] hrep
  have := paths_le_size hrep ([] :: t.queue) ?_ ?_
  · exact this
  · rw [List.nodup_cons]
    exact ⟨fun h => ((Trie.mem_queue t []).mp h).2 rfl, Trie.nodup_queue t hs⟩
  · intro u hu
    rcases List.mem_cons.mp hu with rfl | hu
    · exact Trie.hasNode_nil t
    · exact ((Trie.mem_queue t u).mp hu).1

end Daac.Tie.F
