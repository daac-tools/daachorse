/-
Facts about the pattern-insertion phase (`Daac/Model/Trie.lean`): the algebra of `Kids` as a
label-ordered association list, what `Trie.insert` does to nodes and outputs and when it reports
which outcome, the invariant of the `addAll` fold with the validation theorem for `buildTrie`, the
retained keys under leftmost-first, and the enumeration of the nodes by `paths`.
-/
import Daac.Model.Trie
namespace Daac

variable {V : Type}

def Kids.labels : Kids V → List Nat
  | .nil => []
  | .cons l _ r => l :: r.labels

mutual
def Trie.Sorted : Trie V → Prop
  | .node _ kids => kids.Sorted
def Kids.Sorted : Kids V → Prop
  | .nil => True
  | .cons l t r => t.Sorted ∧ r.Sorted ∧ ∀ l' ∈ r.labels, l < l'
end

theorem Kids.set_nil (c : Nat) (t : Trie V) : Kids.nil.set c t = .cons c t .nil := rfl

theorem Kids.set_cons_lt {c l : Nat} (h : c < l) (t' : Trie V) (r : Kids V) (t : Trie V) :
    (Kids.cons l t' r).set c t = .cons c t (.cons l t' r) := by
  simp only [Kids.set, if_pos h]

theorem Kids.set_cons_eq (l : Nat) (t' : Trie V) (r : Kids V) (t : Trie V) :
    (Kids.cons l t' r).set l t = .cons l t r := by
  simp only [Kids.set, Nat.lt_irrefl, if_false, if_true]

theorem Kids.set_cons_gt {c l : Nat} (h : l < c) (t' : Trie V) (r : Kids V) (t : Trie V) :
    (Kids.cons l t' r).set c t = .cons l t' (r.set c t) := by
  simp only [Kids.set, if_neg (Nat.lt_asymm h), if_neg (Nat.ne_of_gt h)]

theorem Kids.find?_cons (l : Nat) (t : Trie V) (r : Kids V) (c : Nat) :
    (Kids.cons l t r).find? c = if l = c then some t else r.find? c := rfl

theorem Kids.find?_cons_self (l : Nat) (t : Trie V) (r : Kids V) :
    (Kids.cons l t r).find? l = some t := if_pos rfl

theorem Kids.find?_cons_ne {l c : Nat} (h : l ≠ c) (t : Trie V) (r : Kids V) :
    (Kids.cons l t r).find? c = r.find? c := if_neg h

/-- Induction along a children list (the subtries are not entered). -/
theorem Kids.induction {motive : Kids V → Prop} (nil : motive .nil)
    (cons : ∀ l t r, motive r → motive (.cons l t r)) : ∀ k, motive k
  | .nil => nil
  | .cons l t r => cons l t r (Kids.induction nil cons r)

theorem Kids.find?_set (k : Kids V) (c : Nat) (t : Trie V) (c' : Nat) :
    (k.set c t).find? c' = if c = c' then some t else k.find? c' := by
  induction k using Kids.induction with
  | nil => rfl
  | cons l t' r ih =>
    rcases Nat.lt_trichotomy c l with h | rfl | h
    · rw [Kids.set_cons_lt h, Kids.find?_cons]
    · rw [Kids.set_cons_eq, Kids.find?_cons, Kids.find?_cons]
      split <;> rfl
    · rw [Kids.set_cons_gt h, Kids.find?_cons, Kids.find?_cons, ih]
      by_cases hl : l = c'
      · subst hl
        simp only [if_true, if_neg (Nat.ne_of_gt h)]
      · simp only [if_neg hl]

theorem Kids.find?_set_self (k : Kids V) (c : Nat) (t : Trie V) : (k.set c t).find? c = some t := by
  rw [Kids.find?_set, if_pos rfl]

theorem Kids.find?_set_ne (k : Kids V) (c c' : Nat) (t : Trie V) (h : c' ≠ c) :
    (k.set c t).find? c' = k.find? c' := by
  rw [Kids.find?_set, if_neg (Ne.symm h)]

theorem Kids.set_set (k : Kids V) (c : Nat) (t1 t2 : Trie V) :
    (k.set c t1).set c t2 = k.set c t2 := by
  induction k using Kids.induction with
  | nil => exact Kids.set_cons_eq c t1 .nil t2
  | cons l t' r ih =>
    rcases Nat.lt_trichotomy c l with h | rfl | h
    · simp only [Kids.set_cons_lt h, Kids.set_cons_eq]
    · simp only [Kids.set_cons_eq]
    · simp only [Kids.set_cons_gt h, ih]

theorem Kids.set_comm_of_lt (k : Kids V) (c1 c2 : Nat) (t1 t2 : Trie V) (h : c1 < c2) :
    (k.set c1 t1).set c2 t2 = (k.set c2 t2).set c1 t1 := by
  induction k using Kids.induction with
  | nil => simp only [Kids.set_nil, Kids.set_cons_gt h, Kids.set_cons_lt h]
  | cons l t' r ih =>
    rcases Nat.lt_trichotomy c1 l with h1 | rfl | h1
    · rcases Nat.lt_trichotomy c2 l with h2 | rfl | h2
      · simp only [Kids.set_cons_lt h1, Kids.set_cons_lt h2, Kids.set_cons_lt h, Kids.set_cons_gt h]
      · simp only [Kids.set_cons_lt h, Kids.set_cons_eq, Kids.set_cons_gt h]
      · simp only [Kids.set_cons_lt h1, Kids.set_cons_gt h2, Kids.set_cons_gt h]
    · simp only [Kids.set_cons_eq, Kids.set_cons_gt h]
    · simp only [Kids.set_cons_gt h1, Kids.set_cons_gt (Nat.lt_trans h1 h), ih]

theorem Kids.set_comm (k : Kids V) (c1 c2 : Nat) (t1 t2 : Trie V) (h : c1 ≠ c2) :
    (k.set c1 t1).set c2 t2 = (k.set c2 t2).set c1 t1 :=
  (Nat.lt_or_gt_of_ne h).elim (Kids.set_comm_of_lt k c1 c2 t1 t2)
    (fun h' => (Kids.set_comm_of_lt k c2 c1 t2 t1 h').symm)

theorem Kids.mem_labels_set (k : Kids V) (c : Nat) (t : Trie V) (x : Nat) :
    x ∈ (k.set c t).labels ↔ (x = c ∨ x ∈ k.labels) := by
  induction k using Kids.induction with
  | nil => simp only [Kids.set_nil, Kids.labels, List.mem_cons]
  | cons l t' r ih =>
    rcases Nat.lt_trichotomy c l with h | rfl | h
    · simp only [Kids.set_cons_lt h, Kids.labels, List.mem_cons]
    · simp only [Kids.set_cons_eq, Kids.labels, List.mem_cons, or_self_left]
    · simp only [Kids.set_cons_gt h, Kids.labels, List.mem_cons, ih, or_left_comm]

theorem Kids.find?_mem_labels (k : Kids V) (c : Nat) (t : Trie V) (h : k.find? c = some t) :
    c ∈ k.labels := by
  induction k using Kids.induction with
  | nil => nomatch h
  | cons l t' r ih =>
    rw [Kids.find?_cons] at h
    split at h
    · rename_i hl; exact hl ▸ List.mem_cons_self
    · exact List.mem_cons_of_mem _ (ih h)

theorem Kids.find?_eq_none (k : Kids V) (c : Nat) (h : c ∉ k.labels) : k.find? c = none :=
  Option.eq_none_iff_forall_ne_some.mpr fun t ht => h (Kids.find?_mem_labels k c t ht)

theorem Trie.sorted_empty : (Trie.empty : Trie V).Sorted := trivial

theorem Kids.sorted_set (k : Kids V) (c : Nat) (t : Trie V) (hk : k.Sorted) (ht : t.Sorted) :
    (k.set c t).Sorted := by
  induction k using Kids.induction with
  | nil => exact ⟨ht, trivial, fun _ h => nomatch h⟩
  | cons l t' r ih =>
    obtain ⟨h1, h2, h3⟩ := hk
    rcases Nat.lt_trichotomy c l with h | rfl | h
    · rw [Kids.set_cons_lt h]
      refine ⟨ht, ⟨h1, h2, h3⟩, fun l' hl' => ?_⟩
      rcases List.mem_cons.mp hl' with rfl | hl'
      · exact h
      · exact Nat.lt_trans h (h3 l' hl')
    · rw [Kids.set_cons_eq]
      exact ⟨ht, h2, h3⟩
    · rw [Kids.set_cons_gt h]
      refine ⟨h1, ih h2, fun l' hl' => ?_⟩
      rcases (Kids.mem_labels_set r c t l').mp hl' with rfl | hl'
      · exact h
      · exact h3 l' hl'

theorem Kids.sorted_find? (k : Kids V) (c : Nat) (t : Trie V) (hk : k.Sorted)
    (h : k.find? c = some t) : t.Sorted := by
  induction k using Kids.induction with
  | nil => nomatch h
  | cons l t' r ih =>
    rw [Kids.find?_cons] at h
    split at h
    · cases h; exact hk.1
    · exact ih hk.2.1 h

def Trie.outAt (t : Trie V) (u : List Nat) : Option (V × Nat) := (t.walk u).bind Trie.out

theorem Trie.isRegistered_eq_outAt (t : Trie V) (u : List Nat) :
    t.isRegistered u = (t.outAt u).isSome := by
  unfold Trie.isRegistered Trie.outAt
  cases t.walk u <;> rfl

@[simp] theorem Trie.walk_nil (t : Trie V) : t.walk [] = some t := by
  cases t; rfl

theorem Trie.walk_cons (out : Option (V × Nat)) (kids : Kids V) (c : Nat) (us : List Nat) :
    (Trie.node out kids).walk (c :: us) = (kids.find? c).bind (·.walk us) := by
  simp only [Trie.walk]
  cases kids.find? c <;> rfl

theorem Trie.walk_cons_isSome (out : Option (V × Nat)) (kids : Kids V) (c : Nat) (w : List Nat) :
    ((Trie.node out kids).walk (c :: w)).isSome ↔
      ∃ t, kids.find? c = some t ∧ (t.walk w).isSome := by
  rw [Trie.walk_cons]
  cases kids.find? c <;> simp

theorem Trie.walk_empty_cons (c : Nat) (us : List Nat) :
    (Trie.empty : Trie V).walk (c :: us) = none := rfl

theorem Trie.walk_empty_isSome (u : List Nat) :
    ((Trie.empty : Trie V).walk u).isSome ↔ u = [] := by
  cases u with
  | nil => simp
  | cons c us => simp [Trie.walk_empty_cons]

@[simp] theorem Trie.outAt_nil (t : Trie V) : t.outAt [] = t.out := by
  simp [Trie.outAt]

@[simp] theorem Trie.outAt_empty (u : List Nat) : (Trie.empty : Trie V).outAt u = none := by
  cases u <;> rfl

theorem Trie.outAt_cons (out : Option (V × Nat)) (kids : Kids V) (c : Nat) (us : List Nat) :
    (Trie.node out kids).outAt (c :: us) = ((kids.find? c).getD Trie.empty).outAt us := by
  unfold Trie.outAt
  rw [Trie.walk_cons]
  cases kids.find? c with
  | none => exact (Trie.outAt_empty us).symm
  | some x => rfl

@[simp] theorem Trie.isRegistered_empty (u : List Nat) :
    (Trie.empty : Trie V).isRegistered u = false := by
  rw [Trie.isRegistered_eq_outAt, Trie.outAt_empty]; rfl

theorem Trie.isRegistered_nil (out : Option (V × Nat)) (kids : Kids V) :
    (Trie.node out kids).isRegistered [] = out.isSome := rfl

theorem Trie.isRegistered_cons (out : Option (V × Nat)) (kids : Kids V) (c : Nat) (us : List Nat) :
    (Trie.node out kids).isRegistered (c :: us)
      = ((kids.find? c).getD Trie.empty).isRegistered us := by
  simp only [Trie.isRegistered_eq_outAt, Trie.outAt_cons]

theorem Trie.insert_nil_ok_iff (lf : Bool) (o : V × Nat) (out : Option (V × Nat)) (kids : Kids V)
    (t' : Trie V) :
    Trie.insert lf o (.node out kids) [] = .ok t' ↔ out = none ∧ t' = .node (some o) kids := by
  cases out <;> simp [Trie.insert, eq_comm]

theorem Trie.insert_cons_ok_iff (lf : Bool) (o : V × Nat) (out : Option (V × Nat)) (kids : Kids V)
    (c : Nat) (cs : List Nat) (t' : Trie V) :
    Trie.insert lf o (.node out kids) (c :: cs) = .ok t' ↔
      (lf && out.isSome) = false ∧
        ∃ s, Trie.insert lf o ((kids.find? c).getD Trie.empty) cs = .ok s ∧
          t' = .node out (kids.set c s) := by
  simp only [Trie.insert]
  cases (lf && out.isSome)
  · cases Trie.insert lf o ((kids.find? c).getD Trie.empty) cs <;> simp [eq_comm]
  · simp

theorem Trie.insert_ok_spec (lf : Bool) (o : V × Nat) :
    ∀ (key : List Nat) (t t' : Trie V) (u : List Nat), Trie.insert lf o t key = .ok t' →
      t'.outAt u = (if u = key then some o else t.outAt u) ∧
      ((t'.walk u).isSome ↔ (t.walk u).isSome ∨ u <+: key) := by
  intro key
  induction key with
  | nil =>
    rintro ⟨out, kids⟩ t' u h
    obtain ⟨rfl, rfl⟩ := (Trie.insert_nil_ok_iff ..).mp h
    cases u with
    | nil => exact ⟨rfl, by simp⟩
    | cons c us => exact ⟨by simp [Trie.outAt_cons], by simp [Trie.walk_cons]⟩
  | cons c cs ih =>
    rintro ⟨out, kids⟩ t' u h
    obtain ⟨_, s, hs, rfl⟩ := (Trie.insert_cons_ok_iff ..).mp h
    cases u with
    | nil => exact ⟨by simp [Trie.out], by simp⟩
    | cons c' us =>
      rw [Trie.outAt_cons, Trie.outAt_cons, Trie.walk_cons, Trie.walk_cons, Kids.find?_set,
        List.cons_prefix_cons]
      by_cases hc : c = c'
      · subst hc
        obtain ⟨ih1, ih2⟩ := ih _ _ us hs
        refine ⟨by simp [ih1], ?_⟩
        -- below `c` the induction hypothesis applies; a missing child counts as the empty trie,
        -- whose only node `[]` is a prefix of `cs` anyway
        rw [if_pos rfl, Option.bind_some, ih2]
        cases kids.find? c with
        | none =>
          simp only [Option.getD_none, Trie.walk_empty_isSome, Option.bind_none, Option.isSome_none,
            Bool.false_eq_true, false_or, true_and, or_iff_right_iff_imp]
          rintro rfl
          exact List.nil_prefix
        | some x => simp
      · exact ⟨by simp [hc, Ne.symm hc], by simp [hc, Ne.symm hc]⟩

theorem Trie.insert_ok_outAt_key (lf : Bool) (o : V × Nat) (key : List Nat) (t t' : Trie V)
    (h : Trie.insert lf o t key = .ok t') : t'.outAt key = some o := by
  rw [(Trie.insert_ok_spec lf o key t t' key h).1, if_pos rfl]

theorem Trie.insert_ok_outAt_ne (lf : Bool) (o : V × Nat) (key : List Nat) (t t' : Trie V)
    (u : List Nat) (h : Trie.insert lf o t key = .ok t') (hu : u ≠ key) :
    t'.outAt u = t.outAt u := by
  rw [(Trie.insert_ok_spec lf o key t t' u h).1, if_neg hu]

theorem Trie.insert_ok_isRegistered (lf : Bool) (o : V × Nat) (key : List Nat) (t t' : Trie V)
    (u : List Nat) (h : Trie.insert lf o t key = .ok t') :
    t'.isRegistered u = true ↔ (t.isRegistered u = true ∨ u = key) := by
  rw [Trie.isRegistered_eq_outAt, Trie.isRegistered_eq_outAt, (Trie.insert_ok_spec lf o key t t' u h).1]
  by_cases hu : u = key <;> simp [hu]

theorem Trie.sorted_insert (lf : Bool) (o : V × Nat) :
    ∀ (key : List Nat) (t t' : Trie V), t.Sorted → Trie.insert lf o t key = .ok t' → t'.Sorted := by
  intro key
  induction key with
  | nil =>
    rintro ⟨out, kids⟩ t' hs h
    obtain ⟨_, rfl⟩ := (Trie.insert_nil_ok_iff ..).mp h
    exact hs
  | cons c cs ih =>
    rintro ⟨out, kids⟩ t' hs h
    obtain ⟨_, s, hrec, rfl⟩ := (Trie.insert_cons_ok_iff ..).mp h
    have hsub : ((kids.find? c).getD Trie.empty).Sorted := by
      cases hf : kids.find? c with
      | none => exact Trie.sorted_empty
      | some x => exact Kids.sorted_find? kids c x hs hf
    exact Kids.sorted_set kids c s hs (ih _ _ hsub hrec)

def Trie.Shadows (t : Trie V) (key : List Nat) : Prop :=
  ∃ v, v <+: key ∧ v ≠ key ∧ t.isRegistered v = true

theorem Trie.not_shadows_nil (t : Trie V) : ¬ t.Shadows [] := by
  rintro ⟨v, hv, hne, _⟩
  exact hne (List.prefix_nil.mp hv)

theorem Trie.shadows_cons (out : Option (V × Nat)) (kids : Kids V) (c : Nat) (cs : List Nat) :
    (Trie.node out kids).Shadows (c :: cs) ↔
      out.isSome = true ∨ ((kids.find? c).getD Trie.empty).Shadows cs := by
  constructor
  · rintro ⟨v, hv, hne, hr⟩
    cases v with
    | nil => exact Or.inl hr
    | cons c' vs =>
      obtain ⟨rfl, hvs⟩ := List.cons_prefix_cons.mp hv
      rw [Trie.isRegistered_cons] at hr
      exact Or.inr ⟨vs, hvs, fun e => hne (e ▸ rfl), hr⟩
  · rintro (h | ⟨v, hv, hne, hr⟩)
    · exact ⟨[], List.nil_prefix, List.cons_ne_nil _ _ |>.symm, h⟩
    · rw [← Trie.isRegistered_cons out kids c] at hr
      exact ⟨c :: v, List.cons_prefix_cons.mpr ⟨rfl, hv⟩, fun e => hne (List.tail_eq_of_cons_eq e), hr⟩

/-- The three conditions exclude one another, so each is also sufficient for its outcome. -/
theorem Trie.insert_outcome (lf : Bool) (o : V × Nat) (key : List Nat) (t : Trie V) :
    match Trie.insert lf o t key with
    | .shadowed => lf = true ∧ t.Shadows key
    | .dup => ¬ (lf = true ∧ t.Shadows key) ∧ t.isRegistered key = true
    | .ok _ => ¬ (lf = true ∧ t.Shadows key) ∧ t.isRegistered key = false := by
  fun_induction Trie.insert lf o t key
  case case1 out kids h => exact ⟨fun hs => Trie.not_shadows_nil _ hs.2, h⟩
  case case2 out kids h => exact ⟨fun hs => Trie.not_shadows_nil _ hs.2, Bool.eq_false_iff.mpr h⟩
  case case3 out kids c cs h =>
    rw [Bool.and_eq_true] at h
    exact ⟨h.1, (Trie.shadows_cons ..).mpr (Or.inl h.2)⟩
  -- in the remaining cases the node itself does not shadow: shadowing is decided below `c`
  case case4 out kids c cs h _ hr ih =>
    rw [hr] at ih
    rw [Bool.and_eq_true] at h
    simp only [Trie.shadows_cons, Trie.isRegistered_cons]
    exact ⟨fun ⟨hl, hx⟩ => hx.elim (fun x => h ⟨hl, x⟩) (fun x => ih.1 ⟨hl, x⟩), ih.2⟩
  case case5 out kids c cs h hr ih =>
    rw [hr] at ih
    exact ⟨ih.1, (Trie.shadows_cons ..).mpr (Or.inr ih.2)⟩
  case case6 out kids c cs h hr ih =>
    rw [hr] at ih
    rw [Bool.and_eq_true] at h
    simp only [Trie.shadows_cons, Trie.isRegistered_cons]
    exact ⟨fun ⟨hl, hx⟩ => hx.elim (fun x => h ⟨hl, x⟩) (fun x => ih.1 ⟨hl, x⟩), ih.2⟩

theorem Trie.insert_eq_shadowed_iff (lf : Bool) (o : V × Nat) (t : Trie V) (key : List Nat) :
    Trie.insert lf o t key = .shadowed ↔
      (lf = true ∧ ∃ v, v <+: key ∧ v ≠ key ∧ t.isRegistered v = true) := by
  have h := Trie.insert_outcome lf o key t
  constructor
  · intro e; rw [e] at h; exact h
  · intro hs
    cases e : Trie.insert lf o t key with
    | shadowed => rfl
    | dup => rw [e] at h; exact absurd hs h.1
    | ok _ => rw [e] at h; exact absurd hs h.1

theorem Trie.insert_eq_dup_iff (lf : Bool) (o : V × Nat) (t : Trie V) (key : List Nat) :
    Trie.insert lf o t key = .dup ↔
      (¬ (lf = true ∧ ∃ v, v <+: key ∧ v ≠ key ∧ t.isRegistered v = true) ∧
        t.isRegistered key = true) := by
  have h := Trie.insert_outcome lf o key t
  constructor
  · intro e; rw [e] at h; exact h
  · intro hd
    cases e : Trie.insert lf o t key with
    | shadowed => rw [e] at h; exact absurd h hd.1
    | dup => rfl
    | ok _ => rw [e] at h; exact absurd hd.2 (by simp [h.2])

theorem properPrefix_trans {α : Type} {v q k : List α}
    (h1 : v <+: q ∧ v ≠ q) (h2 : q <+: k) : v <+: k ∧ v ≠ k := by
  refine ⟨h1.1.trans h2, fun e => h1.2 ?_⟩
  subst e
  exact h1.1.eq_of_length_le h2.length_le

/-- Keys without an earlier proper prefix (`earlier` = keys already seen), order preserved. -/
def retKeysGo : List (List Nat) → List (List Nat) → List (List Nat)
  | _, [] => []
  | earlier, k :: ks =>
    if earlier.any (fun q => decide (q <+: k ∧ q ≠ k)) then retKeysGo (earlier ++ [k]) ks
    else k :: retKeysGo (earlier ++ [k]) ks

def retKeys (ks : List (List Nat)) : List (List Nat) := retKeysGo [] ks

/-- Keys registered by the builder: the retained ones under leftmost-first, all otherwise. -/
def retainedKeys (lf : Bool) (ks : List (List Nat)) : List (List Nat) :=
  if lf then retKeys ks else ks

theorem retKeysGo_cons (e : List (List Nat)) (k : List Nat) (ks : List (List Nat)) :
    retKeysGo e (k :: ks) =
      (if e.any (fun q => decide (q <+: k ∧ q ≠ k)) then [] else [k]) ++
        retKeysGo (e ++ [k]) ks := by
  simp only [retKeysGo]
  split <;> rfl

theorem retKeysGo_snoc (e ks : List (List Nat)) (k : List Nat) :
    retKeysGo e (ks ++ [k]) =
      retKeysGo e ks ++
        (if (e ++ ks).any (fun q => decide (q <+: k ∧ q ≠ k)) then [] else [k]) := by
  induction ks generalizing e with
  | nil => simp only [List.nil_append, retKeysGo_cons, retKeysGo, List.append_nil]
  | cons k' ks ih =>
    simp only [List.cons_append, List.nil_append, retKeysGo_cons, ih, List.append_assoc]

theorem retainedKeys_snoc (lf : Bool) (ks : List (List Nat)) (k : List Nat) :
    retainedKeys lf (ks ++ [k]) =
      retainedKeys lf ks ++
        (if (lf && ks.any (fun q => decide (q <+: k ∧ q ≠ k))) = true then [] else [k]) := by
  cases lf with
  | false => rfl
  | true => exact retKeysGo_snoc [] ks k

theorem retainedGo_map_key (e P : List (Pat V)) :
    (retainedGo e P).map (·.key) = retKeysGo (e.map (·.key)) (P.map (·.key)) := by
  induction P generalizing e with
  | nil => rfl
  | cons p ps ih =>
    have ih := ih (e ++ [p])
    rw [List.map_append] at ih
    simp only [retainedGo, List.map_cons, retKeysGo, List.any_map, Function.comp_def]
    split <;> simp only [List.map_cons, ih, List.map_nil]

theorem retained_map_key (P : List (Pat V)) :
    (retained P).map (·.key) = retKeys (P.map (·.key)) := by
  simpa [retained, retKeys] using retainedGo_map_key [] P

theorem exists_zero_or_succ {p : Nat → Prop} : (∃ i, p i) ↔ p 0 ∨ ∃ i, p (i + 1) := by
  constructor
  · rintro ⟨_ | i, h⟩
    · exact Or.inl h
    · exact Or.inr ⟨i, h⟩
  · rintro (h | ⟨i, h⟩)
    · exact ⟨0, h⟩
    · exact ⟨i + 1, h⟩

theorem mem_retKeysGo (e ks : List (List Nat)) (k : List Nat) :
    k ∈ retKeysGo e ks ↔
      ∃ i, ks[i]? = some k ∧ ∀ q ∈ e ++ ks.take i, ¬ (q <+: k ∧ q ≠ k) := by
  induction ks generalizing e with
  | nil => simp [retKeysGo]
  | cons k' ks ih =>
    -- either `k` is the head and nothing in `e` is a proper prefix of it, or it is found later
    rw [exists_zero_or_succ]
    simp only [retKeysGo_cons, List.mem_append, ih, List.getElem?_cons_zero,
      List.getElem?_cons_succ, List.take_zero, List.take_succ_cons, List.append_nil,
      Option.some.injEq, List.append_assoc, List.singleton_append]
    refine or_congr ?_ Iff.rfl
    split
    · rename_i hany
      obtain ⟨q, hq, hpp⟩ := List.any_eq_true.mp hany
      simp only [List.not_mem_nil, false_iff]
      rintro ⟨rfl, h⟩
      exact h q hq (of_decide_eq_true hpp)
    · rename_i hany
      rw [List.mem_singleton]
      constructor
      · rintro rfl
        exact ⟨rfl, fun q hq hpp => hany (List.any_eq_true.mpr ⟨q, hq, decide_eq_true hpp⟩)⟩
      · exact fun h => h.1.symm

theorem mem_retKeys (ks : List (List Nat)) (k : List Nat) :
    k ∈ retKeys ks ↔
      ∃ i, ∃ h : i < ks.length, ks[i] = k ∧ ∀ q ∈ ks.take i, ¬ (q <+: k ∧ q ≠ k) := by
  simp only [retKeys, mem_retKeysGo, List.nil_append, List.getElem?_eq_some_iff, exists_and_right]

theorem mem_nprefixes {α : Type} (k u : List α) : u ∈ nprefixes k ↔ (u ≠ [] ∧ u <+: k) := by
  induction k generalizing u with
  | nil => simp [nprefixes]
  | cons a l ih =>
    simp only [nprefixes, List.mem_cons, List.mem_map, ih]
    constructor
    · rintro (rfl | ⟨w, ⟨_, hw⟩, rfl⟩)
      · simp
      · simpa using hw
    · rintro ⟨hne, hp⟩
      cases u with
      | nil => exact absurd rfl hne
      | cons b w =>
        rw [List.cons_prefix_cons] at hp
        obtain ⟨rfl, hw⟩ := hp
        by_cases hw0 : w = []
        · left; rw [hw0]
        · right; exact ⟨w, ⟨hw0, hw⟩, rfl⟩

/-- Every real input satisfies this: `blen` is the byte length of the key. -/
def keysOk (P : List (LPat V)) : Prop := ∀ p ∈ P, (p.blen = 0 ↔ p.key = [])

structure AccInv (lf : Bool) (a : NfaAcc V) (seen : List (LPat V)) : Prop where
  nodup : (seen.map (·.key)).Nodup
  keysNe : ∀ p ∈ seen, p.key ≠ []
  cover : ∀ u, u ∈ seen.map (·.key) ↔ (a.trie.isRegistered u = true ∨ u ∈ a.shadowed)
  shadow : ∀ u ∈ a.shadowed, lf = true ∧ a.trie.Shadows u
  len : a.len = (retainedKeys lf (seen.map (·.key))).length
  reg : ∀ u, a.trie.isRegistered u = true ↔ u ∈ retainedKeys lf (seen.map (·.key))
  nodes : ∀ u, (a.trie.walk u).isSome ↔
    (u = [] ∨ ∃ k, a.trie.isRegistered k = true ∧ u <+: k)
  outs : ∀ u o, a.trie.outAt u = some o → ∃ p ∈ seen, p.key = u ∧ o = (p.value, p.blen)

theorem AccInv.init (lf : Bool) : AccInv lf (NfaAcc.init : NfaAcc V) [] := by
  have hret : retainedKeys lf (([] : List (LPat V)).map (·.key)) = [] := by cases lf <;> rfl
  refine ⟨List.nodup_nil, nofun, ?_, nofun, ?_, ?_, ?_, ?_⟩
  · intro u; simp [NfaAcc.init]
  · rw [hret]; rfl
  · intro u; rw [hret]; simp [NfaAcc.init]
  · intro u; simp [NfaAcc.init, Trie.walk_empty_isSome]
  · intro u o; simp [NfaAcc.init]

section add
variable {lf : Bool} {a : NfaAcc V} {seen : List (LPat V)} {p : LPat V}

/-- An earlier key that was itself skipped has a registered proper prefix. -/
theorem AccInv.any_earlier_iff_shadows (inv : AccInv lf a seen) (k : List Nat) :
    (seen.map (·.key)).any (fun q => decide (q <+: k ∧ q ≠ k)) = true ↔ a.trie.Shadows k := by
  rw [List.any_eq_true]
  constructor
  · rintro ⟨q, hq, hpp⟩
    have hpp := of_decide_eq_true hpp
    rcases (inv.cover q).mp hq with hr | hs
    · exact ⟨q, hpp.1, hpp.2, hr⟩
    · obtain ⟨v, hv, hne, hr⟩ := (inv.shadow q hs).2
      have := properPrefix_trans ⟨hv, hne⟩ hpp.1
      exact ⟨v, this.1, this.2, hr⟩
  · rintro ⟨v, hv, hne, hr⟩
    exact ⟨v, (inv.cover v).mpr (Or.inl hr), decide_eq_true ⟨hv, hne⟩⟩

theorem AccInv.seen_snoc (inv : AccInv lf a seen) (hne : p.key ≠ [])
    (hnr : a.trie.isRegistered p.key = false) (hnc : p.key ∉ a.shadowed) :
    ((seen ++ [p]).map (·.key)).Nodup ∧ ∀ q ∈ seen ++ [p], q.key ≠ [] := by
  have hnew : p.key ∉ seen.map (·.key) := fun hin =>
    ((inv.cover _).mp hin).elim (fun hr => by simp [hnr] at hr) hnc
  constructor
  · rw [List.map_append, List.nodup_append]
    refine ⟨inv.nodup, List.pairwise_singleton _ _, ?_⟩
    rintro x hx _ hy rfl
    cases List.mem_singleton.mp hy
    exact hnew hx
  · intro q hq
    rcases List.mem_append.mp hq with hq | hq
    · exact inv.keysNe q hq
    · exact List.mem_singleton.mp hq ▸ hne

theorem AccInv.step_ok {t : Trie V} (inv : AccInv lf a seen) (hne : p.key ≠ [])
    (h : a.trie.insert lf (p.value, p.blen) p.key = .ok t)
    (hns : ¬ (lf = true ∧ a.trie.Shadows p.key)) (hnr : a.trie.isRegistered p.key = false) :
    AccInv lf { a with trie := t, len := a.len + 1 } (seen ++ [p]) := by
  have hreg := fun u => Trie.insert_ok_isRegistered lf _ _ _ _ u h
  have hret : retainedKeys lf ((seen ++ [p]).map (·.key))
      = retainedKeys lf (seen.map (·.key)) ++ [p.key] := by
    rw [List.map_append, List.map_singleton, retainedKeys_snoc, if_neg]
    rw [Bool.and_eq_true, inv.any_earlier_iff_shadows]
    exact hns
  obtain ⟨hnd, hkn⟩ := inv.seen_snoc hne hnr (fun hs => hns (inv.shadow _ hs))
  refine ⟨hnd, hkn, ?_, ?_, ?_, ?_, ?_, ?_⟩
  · intro u
    rw [List.map_append, List.mem_append, inv.cover u, List.map_singleton, List.mem_singleton,
      hreg]
    exact or_right_comm
  · intro u hu
    obtain ⟨hl, v, hv, hvne, hr⟩ := inv.shadow u hu
    exact ⟨hl, v, hv, hvne, (hreg v).mpr (Or.inl hr)⟩
  · show a.len + 1 = _
    rw [hret, inv.len, List.length_append, List.length_singleton]
  · intro u
    simp only [hreg, hret, List.mem_append, List.mem_singleton, inv.reg u]
  · intro u
    simp only [(Trie.insert_ok_spec lf _ _ _ _ u h).2, inv.nodes u, hreg, or_and_right, exists_or,
      exists_eq_left, or_assoc]
  · intro u o' ho
    rw [(Trie.insert_ok_spec lf _ _ _ _ u h).1] at ho
    split at ho
    · rename_i hu
      cases ho
      exact ⟨p, List.mem_append_right _ List.mem_cons_self, hu.symm, rfl⟩
    · obtain ⟨q, hq, hq'⟩ := inv.outs u o' ho
      exact ⟨q, List.mem_append_left _ hq, hq'⟩

theorem AccInv.step_shadowed (inv : AccInv lf a seen) (hne : p.key ≠ [])
    (hl : lf = true) (hsh : a.trie.Shadows p.key)
    (hnr : a.trie.isRegistered p.key = false) (hnc : p.key ∉ a.shadowed) :
    AccInv lf { a with shadowed := p.key :: a.shadowed } (seen ++ [p]) := by
  have hret : retainedKeys lf ((seen ++ [p]).map (·.key)) = retainedKeys lf (seen.map (·.key)) := by
    rw [List.map_append, List.map_singleton, retainedKeys_snoc, if_pos, List.append_nil]
    rw [Bool.and_eq_true, inv.any_earlier_iff_shadows]
    exact ⟨hl, hsh⟩
  obtain ⟨hnd, hkn⟩ := inv.seen_snoc hne hnr hnc
  refine ⟨hnd, hkn, ?_, ?_, ?_, ?_, inv.nodes, ?_⟩
  · intro u
    rw [List.map_append, List.mem_append, inv.cover u, List.map_singleton, List.mem_singleton,
      List.mem_cons]
    exact or_assoc.trans (or_congr_right or_comm)
  · intro u hu
    rcases List.mem_cons.mp hu with rfl | hu
    · exact ⟨hl, hsh⟩
    · exact inv.shadow u hu
  · rw [hret]; exact inv.len
  · rw [hret]; exact inv.reg
  · intro u o' ho
    obtain ⟨q, hq, hq'⟩ := inv.outs u o' ho
    exact ⟨q, List.mem_append_left _ hq, hq'⟩

theorem NfaAcc.add_of_blen_zero (hb : p.blen = 0) :
    a.add lf p = .error .invalidArgument := by
  rw [NfaAcc.add, if_pos hb]

theorem NfaAcc.add_of_ok {t : Trie V} (hb : p.blen ≠ 0)
    (h : a.trie.insert lf (p.value, p.blen) p.key = .ok t) :
    a.add lf p = .ok { a with trie := t, len := a.len + 1 } := by
  rw [NfaAcc.add, if_neg hb, h]

theorem NfaAcc.add_of_dup (hb : p.blen ≠ 0)
    (h : a.trie.insert lf (p.value, p.blen) p.key = .dup) :
    a.add lf p = .error .duplicatePattern := by
  rw [NfaAcc.add, if_neg hb, h]

theorem NfaAcc.add_of_shadowed (hb : p.blen ≠ 0)
    (h : a.trie.insert lf (p.value, p.blen) p.key = .shadowed) :
    a.add lf p =
      if a.trie.isRegistered p.key || a.shadowed.contains p.key then .error .duplicatePattern
      else .ok { a with shadowed := p.key :: a.shadowed } := by
  rw [NfaAcc.add, if_neg hb, h]

theorem NfaAcc.add_spec (p : LPat V) (inv : AccInv lf a seen) (hk : p.blen = 0 ↔ p.key = []) :
    (∃ a', a.add lf p = .ok a' ∧ AccInv lf a' (seen ++ [p])) ∨
    (a.add lf p = .error .invalidArgument ∧ p.key = []) ∨
    (a.add lf p = .error .duplicatePattern ∧ p.key ∈ seen.map (·.key)) := by
  by_cases hb : p.blen = 0
  · exact Or.inr (Or.inl ⟨NfaAcc.add_of_blen_zero hb, hk.mp hb⟩)
  · have hne : p.key ≠ [] := fun e => hb (hk.mpr e)
    have ho := Trie.insert_outcome lf (p.value, p.blen) p.key a.trie
    cases h : a.trie.insert lf (p.value, p.blen) p.key <;> rw [h] at ho
    case ok t => exact Or.inl ⟨_, NfaAcc.add_of_ok hb h, inv.step_ok hne h ho.1 ho.2⟩
    case dup =>
      exact Or.inr (Or.inr ⟨NfaAcc.add_of_dup hb h, (inv.cover _).mpr (Or.inl ho.2)⟩)
    case shadowed =>
      rw [NfaAcc.add_of_shadowed hb h]
      by_cases hc : (a.trie.isRegistered p.key || a.shadowed.contains p.key) = true
      · rw [if_pos hc]
        rw [Bool.or_eq_true, List.contains_iff_mem] at hc
        exact Or.inr (Or.inr ⟨rfl, (inv.cover _).mpr hc⟩)
      · rw [if_neg hc]
        rw [Bool.or_eq_true, List.contains_iff_mem, not_or, Bool.not_eq_true] at hc
        exact Or.inl ⟨_, rfl, inv.step_shadowed hne ho.1 ho.2 hc.1 hc.2⟩

theorem NfaAcc.addAll_cons_of_ok {a' : NfaAcc V} (ps : List (LPat V))
    (h : a.add lf p = .ok a') : a.addAll lf (p :: ps) = a'.addAll lf ps := by
  rw [NfaAcc.addAll, h]

theorem NfaAcc.addAll_cons_of_error {e : BuildErr} (ps : List (LPat V))
    (h : a.add lf p = .error e) : a.addAll lf (p :: ps) = .error e := by
  rw [NfaAcc.addAll, h]

end add

theorem NfaAcc.addAll_spec {lf : Bool} (ps : List (LPat V)) :
    ∀ {a : NfaAcc V} {seen : List (LPat V)}, AccInv lf a seen → keysOk ps →
    (∃ a', a.addAll lf ps = .ok a' ∧ AccInv lf a' (seen ++ ps)) ∨
    (a.addAll lf ps = .error .invalidArgument ∧ ∃ p ∈ ps, p.key = []) ∨
    (a.addAll lf ps = .error .duplicatePattern ∧ ¬ ((seen ++ ps).map (·.key)).Nodup) := by
  induction ps with
  | nil =>
    intro a seen inv _
    exact Or.inl ⟨a, rfl, by rwa [List.append_nil]⟩
  | cons p ps ih =>
    intro a seen inv hk
    have hkps : keysOk ps := fun q hq => hk q (List.mem_cons_of_mem _ hq)
    rcases NfaAcc.add_spec p inv (hk p List.mem_cons_self) with ⟨a', h1, inv'⟩ | ⟨h1, h2⟩ | ⟨h1, h2⟩
    · rw [NfaAcc.addAll_cons_of_ok ps h1, List.append_cons seen p ps]
      rcases ih inv' hkps with h3 | ⟨h3, q, hq, hq0⟩ | h3
      · exact Or.inl h3
      · exact Or.inr (Or.inl ⟨h3, q, List.mem_cons_of_mem _ hq, hq0⟩)
      · exact Or.inr (Or.inr h3)
    · exact Or.inr (Or.inl ⟨NfaAcc.addAll_cons_of_error ps h1, p, List.mem_cons_self, h2⟩)
    · refine Or.inr (Or.inr ⟨NfaAcc.addAll_cons_of_error ps h1, fun hnd => ?_⟩)
      rw [List.map_append, List.map_cons, List.nodup_append] at hnd
      exact hnd.2.2 _ h2 _ List.mem_cons_self rfl

theorem buildTrie_of_addAll {kind : Nat} {P : List (LPat V)} {a : NfaAcc V}
    (h : NfaAcc.init.addAll (kind == 2) P = .ok a) (hl : a.len ≠ 0) :
    buildTrie kind P = .ok a.trie := by
  rw [buildTrie, h]
  exact if_neg hl

theorem addAll_of_buildTrie {kind : Nat} {P : List (LPat V)} {t : Trie V}
    (ht : buildTrie kind P = .ok t) :
    ∃ a, NfaAcc.init.addAll (kind == 2) P = .ok a ∧ a.len ≠ 0 ∧ a.trie = t := by
  revert ht
  fun_cases buildTrie kind P <;> intro ht
  case case3 a h1 hl => exact ⟨a, h1, hl, Except.ok.inj ht⟩
  all_goals cases ht

theorem buildTrie_spec (kind : Nat) (P : List (LPat V)) (h : keysOk P) :
    (∃ a, buildTrie kind P = .ok a.trie ∧ P ≠ [] ∧ AccInv (kind == 2) a P) ∨
    (buildTrie kind P = .error .invalidArgument ∧ (P = [] ∨ ∃ p ∈ P, p.key = [])) ∨
    (buildTrie kind P = .error .duplicatePattern ∧ ¬ (P.map (·.key)).Nodup) := by
  rcases NfaAcc.addAll_spec P (AccInv.init (kind == 2)) h with ⟨a, h1, inv⟩ | ⟨h1, h2⟩ | ⟨h1, h2⟩
  · rw [List.nil_append] at inv
    cases P with
    | nil =>
      cases h1
      exact Or.inr (Or.inl ⟨rfl, Or.inl rfl⟩)
    | cons p ps =>
      -- the first key is always retained, so at least one pattern was registered
      have hpos : a.len ≠ 0 := by
        rw [inv.len, List.map_cons]
        cases (kind == 2) <;> simp [retainedKeys, retKeys, retKeysGo]
      exact Or.inl ⟨a, buildTrie_of_addAll h1 hpos, List.cons_ne_nil _ _, inv⟩
  · exact Or.inr (Or.inl ⟨by rw [buildTrie, h1], Or.inr h2⟩)
  · exact Or.inr (Or.inr ⟨by rw [buildTrie, h1], h2⟩)

theorem buildTrie_ok_inv {kind : Nat} {P : List (LPat V)} (h : keysOk P) {t : Trie V}
    (ht : buildTrie kind P = .ok t) : ∃ a, a.trie = t ∧ P ≠ [] ∧ AccInv (kind == 2) a P := by
  rcases buildTrie_spec kind P h with ⟨a, h1, hne, inv⟩ | ⟨h1, _⟩ | ⟨h1, _⟩
  · exact ⟨a, Except.ok.inj (h1.symm.trans ht), hne, inv⟩
  · exact nomatch h1.symm.trans ht
  · exact nomatch h1.symm.trans ht

/-- Validity of a pattern collection at the `LPat` level (cf. `Daac.ValidPats`). -/
def ValidLPats (P : List (LPat V)) : Prop :=
  P ≠ [] ∧ (∀ p ∈ P, p.key ≠ []) ∧ (P.map (·.key)).Nodup

theorem buildTrie_ok_iff (kind : Nat) (P : List (LPat V)) (h : keysOk P) :
    (∃ t, buildTrie kind P = .ok t) ↔
      (P ≠ [] ∧ (∀ p ∈ P, p.key ≠ []) ∧ (P.map (·.key)).Nodup) := by
  constructor
  · rintro ⟨t, ht⟩
    obtain ⟨a, _, hne, inv⟩ := buildTrie_ok_inv h ht
    exact ⟨hne, inv.keysNe, inv.nodup⟩
  · rintro ⟨hne, hk, hnd⟩
    rcases buildTrie_spec kind P h with ⟨a, h1, _⟩ | ⟨_, h2 | ⟨p, hp, hp0⟩⟩ | ⟨_, h2⟩
    · exact ⟨_, h1⟩
    · exact absurd h2 hne
    · exact absurd hp0 (hk p hp)
    · exact absurd hnd h2

theorem buildTrie_err_kind (kind : Nat) (P : List (LPat V)) (h : keysOk P) (e : BuildErr) :
    buildTrie kind P = .error e →
      (e = .invalidArgument ∧ (P = [] ∨ ∃ p ∈ P, p.key = [])) ∨
      (e = .duplicatePattern ∧ ¬ (P.map (·.key)).Nodup) := by
  intro he
  rcases buildTrie_spec kind P h with ⟨a, h1, _, _⟩ | ⟨h1, h2⟩ | ⟨h1, h2⟩
  · exact nomatch h1.symm.trans he
  · cases h1.symm.trans he; exact Or.inl ⟨rfl, h2⟩
  · cases h1.symm.trans he; exact Or.inr ⟨rfl, h2⟩

theorem buildTrie_registered (kind : Nat) (P : List (LPat V)) (h : keysOk P) (t : Trie V)
    (ht : buildTrie kind P = .ok t) (u : List Nat) :
    t.isRegistered u = true ↔ u ∈ retainedKeys (kind == 2) (P.map (·.key)) := by
  obtain ⟨a, rfl, _, inv⟩ := buildTrie_ok_inv h ht
  exact inv.reg u

theorem buildTrie_registered_lf (P : List (LPat V)) (h : keysOk P) (t : Trie V)
    (ht : buildTrie 2 P = .ok t) (u : List Nat) :
    t.isRegistered u = true ↔ u ∈ retKeys (P.map (·.key)) :=
  buildTrie_registered 2 P h t ht u

theorem buildTrie_registered_other (kind : Nat) (hkind : kind ≠ 2) (P : List (LPat V))
    (h : keysOk P) (t : Trie V) (ht : buildTrie kind P = .ok t) (u : List Nat) :
    t.isRegistered u = true ↔ u ∈ P.map (·.key) := by
  have := buildTrie_registered kind P h t ht u
  rw [beq_false_of_ne hkind] at this
  exact this

theorem buildTrie_nodes (kind : Nat) (P : List (LPat V)) (h : keysOk P) (t : Trie V)
    (ht : buildTrie kind P = .ok t) (u : List Nat) :
    (t.walk u).isSome ↔
      (u = [] ∨ ∃ k ∈ retainedKeys (kind == 2) (P.map (·.key)), u ∈ nprefixes k) := by
  obtain ⟨a, rfl, _, inv⟩ := buildTrie_ok_inv h ht
  simp only [inv.nodes u, inv.reg, mem_nprefixes]
  by_cases h0 : u = [] <;> simp [h0]

theorem buildTrie_outAt (kind : Nat) (P : List (LPat V)) (h : keysOk P) (t : Trie V)
    (ht : buildTrie kind P = .ok t) (u : List Nat) (o : V × Nat) (ho : t.outAt u = some o) :
    ∃ p ∈ P, p.key = u ∧ o = (p.value, p.blen) := by
  obtain ⟨a, rfl, _, inv⟩ := buildTrie_ok_inv h ht
  exact inv.outs u o ho

theorem buildTrie_registered_nil (kind : Nat) (P : List (LPat V)) (h : keysOk P) (t : Trie V)
    (ht : buildTrie kind P = .ok t) : t.isRegistered [] = false := by
  obtain ⟨a, rfl, _, inv⟩ := buildTrie_ok_inv h ht
  refine Bool.eq_false_iff.mpr fun hr => ?_
  obtain ⟨p, hp, hp0⟩ := List.mem_map.mp ((inv.cover []).mpr (Or.inl hr))
  exact inv.keysNe p hp hp0

theorem Trie.induction {P : Trie V → Prop} {Q : Kids V → Prop}
    (node : ∀ o k, Q k → P (.node o k)) (nil : Q .nil)
    (cons : ∀ l t r, P t → Q r → Q (.cons l t r)) : (∀ t, P t) ∧ ∀ k, Q k :=
  ⟨fun t => Trie.rec node nil cons t, fun k => Kids.rec node nil cons k⟩

theorem paths_length :
    (∀ (t : Trie V) (pre : List Nat), t.size = (t.paths pre).length) ∧
    ∀ (k : Kids V) (pre : List Nat), k.size = (k.paths pre).length := by
  refine Trie.induction ?_ ?_ ?_
  · intro _ k ih pre
    rw [Trie.size, Trie.paths, List.length_cons, ih pre, Nat.add_comm]
  · exact fun _ => rfl
  · intro l t r iht ihr pre
    rw [Kids.size, Kids.paths, List.length_append, iht, ihr]

theorem Trie.size_eq_length_paths : (t : Trie V) → (pre : List Nat) →
    t.size = (t.paths pre).length :=
  paths_length.1

theorem Kids.size_eq_length_paths : (k : Kids V) → (pre : List Nat) →
    k.size = (k.paths pre).length :=
  paths_length.2

theorem paths_mem :
    (∀ t : Trie V, t.Sorted → ∀ (pre u : List Nat),
      (u ∈ t.paths pre ↔ ∃ w, u = pre ++ w ∧ (t.walk w).isSome)) ∧
    ∀ k : Kids V, k.Sorted → ∀ (pre u : List Nat),
      (u ∈ k.paths pre ↔
        ∃ c w t, u = pre ++ c :: w ∧ k.find? c = some t ∧ (t.walk w).isSome) := by
  refine Trie.induction ?_ ?_ ?_
  · intro out k ih hs pre u
    rw [Trie.paths, List.mem_cons, ih hs pre u]
    constructor
    · rintro (rfl | ⟨c, w, t, rfl, hf, hw⟩)
      · exact ⟨[], (List.append_nil _).symm, Trie.walk_nil _ ▸ rfl⟩
      · exact ⟨c :: w, rfl, (Trie.walk_cons_isSome out k c w).mpr ⟨t, hf, hw⟩⟩
    · rintro ⟨_ | ⟨c, w⟩, rfl, hw⟩
      · exact Or.inl (List.append_nil _)
      · obtain ⟨t, hf, hw⟩ := (Trie.walk_cons_isSome out k c w).mp hw
        exact Or.inr ⟨c, w, t, rfl, hf, hw⟩
  · intro _ pre u
    simp only [Kids.paths, List.not_mem_nil, false_iff]
    rintro ⟨_, _, _, _, hf, _⟩
    exact nomatch hf
  · rintro l t r iht ihr ⟨h1, h2, h3⟩ pre u
    rw [Kids.paths, List.mem_append, iht h1 (pre ++ [l]) u, ihr h2 pre u]
    constructor
    · rintro (⟨w, rfl, hw⟩ | ⟨c, w, t', rfl, hf, hw⟩)
      · exact ⟨l, w, t, (List.append_cons pre l w).symm, Kids.find?_cons_self l t r, hw⟩
      · -- `c` is a label of `r`, hence larger than `l`: the lookup passes the head
        have hlt := h3 c (Kids.find?_mem_labels r c t' hf)
        exact ⟨c, w, t', rfl, (Kids.find?_cons_ne (Nat.ne_of_lt hlt) t r).trans hf, hw⟩
    · rintro ⟨c, w, t', rfl, hf, hw⟩
      rw [Kids.find?_cons] at hf
      split at hf
      · rename_i hl
        cases hf
        subst hl
        exact Or.inl ⟨w, List.append_cons pre l w, hw⟩
      · exact Or.inr ⟨c, w, t', rfl, hf, hw⟩

theorem paths_nodup :
    (∀ t : Trie V, t.Sorted → ∀ (pre : List Nat), (t.paths pre).Nodup) ∧
    ∀ k : Kids V, k.Sorted → ∀ (pre : List Nat), (k.paths pre).Nodup := by
  refine Trie.induction ?_ ?_ ?_
  · intro out k ih hs pre
    rw [Trie.paths, List.nodup_cons]
    refine ⟨fun hin => ?_, ih hs pre⟩
    obtain ⟨c, w, t, he, _, _⟩ := (paths_mem.2 k hs pre pre).mp hin
    exact List.cons_ne_nil c w (List.append_right_eq_self.mp he.symm)
  · exact fun _ _ => List.nodup_nil
  · rintro l t r iht ihr ⟨h1, h2, h3⟩ pre
    rw [Kids.paths, List.nodup_append]
    refine ⟨iht h1 _, ihr h2 pre, ?_⟩
    -- a path through `t` continues `pre` with `l`, one through `r` with a larger label
    rintro x hx _ hy rfl
    obtain ⟨w, rfl, _⟩ := (paths_mem.1 t h1 _ _).mp hx
    obtain ⟨c, w', t', he, hf, _⟩ := (paths_mem.2 r h2 _ _).mp hy
    have hlt := h3 c (Kids.find?_mem_labels r c t' hf)
    rw [List.append_assoc, List.append_cancel_left_eq] at he
    exact Nat.ne_of_lt hlt (List.head_eq_of_cons_eq he)

theorem Trie.nodup_paths : (t : Trie V) → t.Sorted → ∀ (pre : List Nat), (t.paths pre).Nodup :=
  paths_nodup.1

theorem Kids.nodup_paths : (k : Kids V) → k.Sorted → ∀ (pre : List Nat), (k.paths pre).Nodup :=
  paths_nodup.2

theorem Trie.mem_paths_nil (t : Trie V) (hs : t.Sorted) (u : List Nat) :
    u ∈ t.paths [] ↔ (t.walk u).isSome := by
  rw [paths_mem.1 t hs [] u]
  simp

theorem Trie.size_eq_of_nodes (t : Trie V) (hs : t.Sorted) (L : List (List Nat)) (hL : L.Nodup)
    (hmem : ∀ u, u ∈ L ↔ (t.walk u).isSome) : t.size = L.length := by
  rw [Trie.size_eq_length_paths t []]
  apply List.Perm.length_eq
  rw [List.perm_ext_iff_of_nodup (Trie.nodup_paths t hs []) hL]
  intro u
  rw [Trie.mem_paths_nil t hs u, hmem u]

theorem NfaAcc.add_sorted {lf : Bool} {a a' : NfaAcc V} {p : LPat V} (hs : a.trie.Sorted)
    (h : a.add lf p = .ok a') : a'.trie.Sorted := by
  by_cases hb : p.blen = 0
  · exact nomatch (NfaAcc.add_of_blen_zero hb).symm.trans h
  · cases hi : a.trie.insert lf (p.value, p.blen) p.key with
    | ok t =>
      rw [← Except.ok.inj ((NfaAcc.add_of_ok hb hi).symm.trans h)]
      exact Trie.sorted_insert lf _ _ _ _ hs hi
    | dup => exact nomatch (NfaAcc.add_of_dup hb hi).symm.trans h
    | shadowed =>
      rw [NfaAcc.add_of_shadowed hb hi] at h
      by_cases hc : (a.trie.isRegistered p.key || a.shadowed.contains p.key) = true
      · exact nomatch (if_pos hc).symm.trans h
      · rw [← Except.ok.inj ((if_neg hc).symm.trans h)]
        exact hs

theorem NfaAcc.addAll_sorted {lf : Bool} (ps : List (LPat V)) :
    ∀ {a a' : NfaAcc V}, a.trie.Sorted → a.addAll lf ps = .ok a' → a'.trie.Sorted := by
  induction ps with
  | nil => intro a a' hs h; cases h; exact hs
  | cons p ps ih =>
    intro a a' hs h
    cases h1 : a.add lf p with
    | error e => exact nomatch (NfaAcc.addAll_cons_of_error ps h1).symm.trans h
    | ok a1 => exact ih (NfaAcc.add_sorted hs h1) ((NfaAcc.addAll_cons_of_ok ps h1).symm.trans h)

theorem buildTrie_sorted (kind : Nat) (P : List (LPat V)) (t : Trie V)
    (ht : buildTrie kind P = .ok t) : t.Sorted := by
  obtain ⟨a, h1, _, rfl⟩ := addAll_of_buildTrie ht
  exact NfaAcc.addAll_sorted P Trie.sorted_empty h1

theorem buildTrie_paths (kind : Nat) (P : List (LPat V)) (h : keysOk P) (t : Trie V)
    (ht : buildTrie kind P = .ok t) :
    t.size = (t.paths []).length ∧ (t.paths []).Nodup ∧
    ∀ u, u ∈ t.paths [] ↔
      (u = [] ∨ ∃ k ∈ retainedKeys (kind == 2) (P.map (·.key)), u ∈ nprefixes k) := by
  have hs := buildTrie_sorted kind P t ht
  refine ⟨Trie.size_eq_length_paths t [], Trie.nodup_paths t hs [], ?_⟩
  intro u
  rw [Trie.mem_paths_nil t hs u, buildTrie_nodes kind P h t ht u]

theorem buildTrie_size (kind : Nat) (P : List (LPat V)) (h : keysOk P) (t : Trie V)
    (ht : buildTrie kind P = .ok t) (L : List (List Nat)) (hL : L.Nodup)
    (hmem : ∀ u, u ∈ L ↔ ∃ k ∈ retainedKeys (kind == 2) (P.map (·.key)), u ∈ nprefixes k) :
    t.size = 1 + L.length := by
  have hs := buildTrie_sorted kind P t ht
  have hnil : [] ∉ L := by
    intro hin
    obtain ⟨k, _, hk⟩ := (hmem []).mp hin
    exact ((mem_nprefixes k []).mp hk).1 rfl
  rw [Trie.size_eq_of_nodes t hs ([] :: L) (List.nodup_cons.mpr ⟨hnil, hL⟩) (by
    intro u
    rw [buildTrie_nodes kind P h t ht u, List.mem_cons, hmem u]), List.length_cons, Nat.add_comm]

end Daac
