/-
Panic freedom (totality) of the layout pass `buildLayout` and of the whole pipeline `buildDA`
(Model/Build.lean): construction returns `Ok` or one of the documented error kinds, never
`BuildErr.panic` (a Rust `assert!`, `unwrap`, out-of-range index or `debug_assert!`).

A "progress" layer on top of the partial-correctness invariants of LayoutB / LayoutC and the
vacant-list invariant `Helper.LL` of HelperLL: on a linked helper every operation of the pass
returns (or reports the scale error) and leaves the helper linked. The arithmetic behind it is that
the block length is a power of two, so XOR with a label code does not leave a block, and whether
an index is active depends on its block only.
-/
import Daac.Proofs.LayoutB
import Daac.Proofs.LayoutC
import Daac.Proofs.HelperLL
import Daac.Proofs.MapperFacts
import Daac.Proofs.BuildStages
namespace Daac
variable {V : Type}

theorem div_of_bounds {x b q : Nat} (hb : 0 < b) (lo : q * b ≤ x) (hi : x < q * b + b) :
    x / b = q :=
  (Nat.div_eq_iff hb).2 ⟨lo, Nat.le_sub_one_of_lt hi⟩

theorem active_xor {h : Helper} {n : Nat} (hbl : h.blockLen = 2 ^ n) (i : Nat) {k : Nat}
    (hk : k < 2 ^ n) : h.Active (i ^^^ k) ↔ h.Active i := by
  have hpos : 0 < h.blockLen := hbl ▸ Nat.two_pow_pos n
  rw [active_iff_div hpos, active_iff_div hpos, hbl, xor_div_pow i k n hk]

theorem setSt_lt {s : Array St} {i : Nat} (f : St → St) (h : i < s.size) :
    setSt s i f = .ok (s.modify i f) := by
  unfold setSt; rw [if_pos h]

theorem allUnused_active {h : Helper} {b : Nat} (codes : List Nat)
    (ha : ∀ c ∈ codes, h.Active (b ^^^ c)) :
    ∃ r, allUnused h b codes = .ok r ∧ (r = true → ∀ c ∈ codes, h.usedI (b ^^^ c) = false) := by
  induction codes with
  | nil => exact ⟨true, rfl, fun _ c hc => nomatch hc⟩
  | cons c cs ih =>
    unfold allUnused
    rw [Helper.isUsedIndex_ok.2 ⟨ha c List.mem_cons_self, rfl⟩]
    cases hu : h.usedI (b ^^^ c) with
    | true => exact ⟨false, rfl, fun hf => nomatch hf⟩
    | false =>
      obtain ⟨r, er, hr⟩ := ih (fun c' hc' => ha c' (List.mem_cons_of_mem _ hc'))
      refine ⟨r, er, fun hrt c' hc' => ?_⟩
      rcases List.mem_cons.1 hc' with rfl | hc'
      · exact hu
      · exact hr hrt c' hc'

theorem baseOk_active (v : Variant) {h : Helper} {b : Nat} {codes : List Nat} (hb : h.Active b)
    (ha : ∀ c ∈ codes, h.Active (b ^^^ c)) :
    ∃ r, baseOk v h b codes = .ok r ∧ (r = true → ∀ c ∈ codes, h.usedI (b ^^^ c) = false) := by
  obtain ⟨r, er, hr⟩ := allUnused_active codes ha
  have hand : (r && b != 0) = true → ∀ c ∈ codes, h.usedI (b ^^^ c) = false :=
    fun ht => hr (Bool.and_eq_true _ _ ▸ ht).1
  unfold baseOk
  cases v with
  | bytewise =>
    simp only
    rw [Helper.isUsedBase_ok.2 ⟨hb, rfl⟩]
    cases h.usedB b with
    | true => exact ⟨false, rfl, fun hf => nomatch hf⟩
    | false => simp only [er]; exact ⟨_, rfl, hand⟩
  | charwise => simp only [er]; exact ⟨_, rfl, hand⟩

theorem findBaseIn_active (v : Variant) {h : Helper} {c0 : Nat} {codes : List Nat} (l : List Nat)
    (ha : ∀ i ∈ l, h.Active (i ^^^ c0) ∧ ∀ c ∈ codes, h.Active ((i ^^^ c0) ^^^ c)) :
    ∃ r, findBaseIn v h c0 codes l = .ok r ∧
      ∀ b, r = some b → (∃ i ∈ l, b = i ^^^ c0) ∧ ∀ c ∈ codes, h.usedI (b ^^^ c) = false := by
  induction l with
  | nil => exact ⟨none, rfl, fun b hb => nomatch hb⟩
  | cons i l ih =>
    obtain ⟨hb, hs⟩ := ha i List.mem_cons_self
    obtain ⟨q, eq, hq⟩ := baseOk_active v hb hs
    unfold findBaseIn
    rw [eq]
    cases q with
    | true =>
      refine ⟨_, rfl, fun b hb => ?_⟩
      cases hb
      exact ⟨⟨i, List.mem_cons_self, rfl⟩, hq rfl⟩
    | false =>
      obtain ⟨r, er, hr⟩ := ih (fun j hj => ha j (List.mem_cons_of_mem _ hj))
      refine ⟨r, er, fun b hb => ?_⟩
      obtain ⟨⟨j, hj, ej⟩, hu⟩ := hr b hb
      exact ⟨⟨j, List.mem_cons_of_mem _ hj, ej⟩, hu⟩

/-- The second alternative is the fallback BASE: it lies in the block just past the array. -/
theorem findBase_progress (v : Variant) {lay : Lay} {vac codes : List Nat} {n : Nat}
    (wf : lay.h.WF) (ll : lay.h.LL vac) (hbl : lay.h.blockLen = 2 ^ n)
    (hc : ∀ c ∈ codes, c < 2 ^ n) (hc0 : codes.headD 0 < 2 ^ n) :
    ∃ base, findBase v lay codes = .ok base ∧
      ((lay.h.Active base ∧ ∀ c ∈ codes, base ^^^ c ∈ vac) ∨
        base / 2 ^ n = lay.states.size / 2 ^ n) := by
  have hA : ∀ i ∈ vac, lay.h.Active (i ^^^ codes.headD 0) ∧
      ∀ c ∈ codes, lay.h.Active ((i ^^^ codes.headD 0) ^^^ c) := by
    intro i hi
    have a0 : lay.h.Active (i ^^^ codes.headD 0) := (active_xor hbl i hc0).2 (ll.active hi)
    exact ⟨a0, fun c hcc => (active_xor hbl _ (hc c hcc)).2 a0⟩
  obtain ⟨r, er, hr⟩ := findBaseIn_active v (c0 := codes.headD 0) (codes := codes) vac hA
  simp only [findBase, Helper.vacant_ll wf ll, er]
  cases r with
  | some b =>
    obtain ⟨⟨i, hi, rfl⟩, hu⟩ := hr b rfl
    exact ⟨_, rfl, Or.inl ⟨(hA i hi).1, fun c hcc => (ll.mem _).2 ⟨(hA i hi).2 c hcc, hu c hcc⟩⟩⟩
  | none =>
    cases v with
    | bytewise => exact ⟨_, rfl, Or.inr rfl⟩
    | charwise => exact ⟨_, rfl, Or.inr (xor_div_pow _ _ n hc0)⟩

theorem placeChildren_cons (v : Variant) (sidx base c : Nat) (child : List Nat)
    (rest : List (Nat × List Nat)) (lay : Lay) :
    placeChildren v sidx base ((c, child) :: rest) lay =
      match lay.h.useIndex (base ^^^ c) with
      | .error e => .error e
      | .ok h' =>
        match setSt lay.states (base ^^^ c) (fun st => { st with check := chkOf v c sidx }) with
        | .error e => .error e
        | .ok states' =>
          placeChildren v sidx base rest ⟨states', h', lay.idx.insert child (base ^^^ c)⟩ := by
  cases v <;> rfl

theorem placeChildren_progress (v : Variant) (sidx base : Nat) :
    ∀ (edges : List (Nat × List Nat)) (lay : Lay) (vac : List Nat), lay.h.WF → lay.h.LL vac →
      (edges.map (·.1)).Nodup → (∀ c ∈ edges.map (·.1), base ^^^ c ∈ vac) →
      (∀ c ∈ edges.map (·.1), base ^^^ c < lay.states.size) →
      ∃ lay2, placeChildren v sidx base edges lay = .ok lay2 ∧
        lay2.states.size = lay.states.size ∧ (∀ j, lay2.h.Active j ↔ lay.h.Active j) ∧
        ∃ vac', lay2.h.LL vac' := by
  intro edges
  induction edges with
  | nil =>
    intro lay vac _ ll _ _ _
    exact ⟨lay, rfl, rfl, fun _ => Iff.rfl, vac, ll⟩
  | cons e0 rest ih =>
    intro lay vac wf ll nd hin hlt
    obtain ⟨c, child⟩ := e0
    rw [List.map_cons, List.nodup_cons] at nd
    obtain ⟨h', eu, ll'⟩ := Helper.useIndex_ll wf ll (hin c List.mem_cons_self)
    have same := Helper.useIndex_same eu
    -- a later child has another code, hence another slot: it stays vacant
    have hin' : ∀ c' ∈ rest.map (·.1), base ^^^ c' ∈ vac.erase (base ^^^ c) := by
      intro c' hc'
      rw [List.mem_erase_of_ne]
      · exact hin c' (List.mem_cons_of_mem _ hc')
      · intro heq
        exact nd.1 (xor_left_inj heq ▸ hc')
    obtain ⟨lay2, e2, sz2, act2, vac', ll2⟩ :=
      ih ⟨lay.states.modify (base ^^^ c) (fun st => { st with check := chkOf v c sidx }),
          h', lay.idx.insert child (base ^^^ c)⟩ (vac.erase (base ^^^ c)) (same.wf wf) ll' nd.2 hin'
        (fun c' hc' => by
          rw [Array.size_modify]; exact hlt c' (List.mem_cons_of_mem _ hc'))
    refine ⟨lay2, ?_, ?_, fun j => (act2 j).trans (same.active j), vac', ll2⟩
    · simp only [placeChildren_cons, eu, setSt_lt _ (hlt c List.mem_cons_self)]
      exact e2
    · rw [sz2, Array.size_modify]

theorem sanitiseLoop_progress (h : Helper) (ub : Nat) : ∀ (n c : Nat) (s : Array St),
    (∀ c', c ≤ c' → c' < c + n → h.Active (ub ^^^ c') ∧ ub ^^^ c' < s.size) →
    ∃ s', sanitiseLoop h ub n c s = .ok s' ∧ s'.size = s.size := by
  intro n
  induction n with
  | zero => intro c s _; exact ⟨s, rfl, rfl⟩
  | succ n ih =>
    intro c s hA
    obtain ⟨a, lt⟩ := hA c (Nat.le_refl _) (Nat.lt_add_of_pos_right (Nat.succ_pos n))
    have hrec : ∀ s1 : Array St, s1.size = s.size →
        ∃ s', sanitiseLoop h ub n (c + 1) s1 = .ok s' ∧ s'.size = s.size := by
      intro s1 hs1
      obtain ⟨s', e', sz'⟩ := ih (c + 1) s1 (fun c' lo hi =>
        hs1 ▸ hA c' (Nat.le_of_succ_le lo) (Nat.add_right_comm c n 1 ▸ hi))
      exact ⟨s', e', sz'.trans hs1⟩
    unfold sanitiseLoop
    simp only [Helper.isUsedIndex_ok.2 ⟨a, rfl⟩, setSt_lt _ lt]
    split
    · rename_i he
      split at he <;> cases he
    · exact hrec s rfl
    · exact hrec _ Array.size_modify

theorem two56 : (256 : Nat) = 2 ^ 8 := by decide

theorem removeInvalidChecks_progress {s : Array St} {h : Helper} {b : Nat}
    (hbl : h.blockLen = 256) (hlo : h.activeStart ≤ b) (hhi : b < h.numBlocks)
    (hsz : s.size = h.numBlocks * 256) :
    ∃ s', removeInvalidChecks s h b = .ok s' ∧ s'.size = s.size := by
  have hpos : 0 < h.blockLen := by rw [hbl]; decide
  have hblock : ∀ j, j / h.blockLen = b → h.Active j ∧ j < s.size := by
    intro j hj
    have a : h.Active j := (active_iff_div hpos j).2 (by rw [hj]; exact ⟨hlo, hhi⟩)
    exact ⟨a, by rw [hsz, ← hbl]; exact a.2⟩
  obtain ⟨r, er⟩ := Helper.unusedBaseInBlock_active (h := h) (b := b) (fun j lo hi =>
    (hblock j (Nat.div_eq_of_lt_le lo hi)).1)
  unfold removeInvalidChecks
  rw [er]
  cases r with
  | none => exact ⟨s, rfl, rfl⟩
  | some ub =>
    obtain ⟨lo, hi, _⟩ := Helper.unusedBaseInBlock_ok er
    apply sanitiseLoop_progress
    intro c _ hc
    apply hblock
    have hxor : (ub ^^^ c) / 256 = ub / 256 := xor_div_pow ub c 8 hc
    rw [hbl, hxor, ← hbl]
    exact Nat.div_eq_of_lt_le lo hi

/-- The sanitising step of `extend_array`. -/
def sanitisedOf (v : Variant) (lay : Lay) : Except BuildErr (Array St) :=
  match v, lay.h.droppedBlock with
  | .bytewise, some cb => removeInvalidChecks lay.states lay.h cb
  | _, _ => .ok lay.states

theorem extendArray_eq (v : Variant) (lay : Lay) :
    extendArray v lay =
      if lay.states.size > u32Max - lay.h.blockLen then .error .automatonScale else
      match sanitisedOf v lay with
      | .error e => .error e
      | .ok states =>
        match lay.h.pushBlock with
        | .error e => .error e
        | .ok h' =>
          .ok { lay with states := states ++ Array.replicate lay.h.blockLen (stDefault v),
                         h := h' } := rfl

theorem extendArray_progress (v : Variant) {lay : Lay} {vac : List Nat} (wf : lay.h.WF)
    (ll : lay.h.LL vac) (hvb : v = .bytewise → lay.h.blockLen = 256)
    (hsz : lay.states.size = lay.h.numBlocks * lay.h.blockLen) :
    (∃ lay1 vac1, extendArray v lay = .ok lay1 ∧ lay1.h.WF ∧ lay1.h.LL vac1 ∧
      lay1.states.size = lay.states.size + lay.h.blockLen ∧
      ∀ j, lay.states.size ≤ j → j < lay.states.size + lay.h.blockLen → j ∈ vac1) ∨
    extendArray v lay = .error .automatonScale := by
  by_cases hbig : lay.states.size > u32Max - lay.h.blockLen
  · right
    rw [extendArray_eq, if_pos hbig]
  · left
    obtain ⟨h', ep, ll'⟩ := Helper.pushBlock_ll wf ll (by
      unfold Helper.numElements; rw [← hsz]; exact Nat.le_of_not_gt hbig)
    obtain ⟨s', es, sz'⟩ : ∃ s', sanitisedOf v lay = .ok s' ∧ s'.size = lay.states.size := by
      unfold sanitisedOf Helper.droppedBlock
      cases v with
      | charwise => exact ⟨_, rfl, rfl⟩
      | bytewise =>
        by_cases hfull : lay.h.cap ≤ lay.h.numElements
        · -- the window is full, so its first block is one of the array's blocks
          rw [if_pos hfull]
          exact removeInvalidChecks_progress (hvb rfl) (Nat.le_refl _)
            (Nat.sub_lt (Nat.lt_of_lt_of_le wf.nfb_pos (wf.full_iff.1 hfull)) wf.nfb_pos)
            (by rw [hsz, hvb rfl])
        · rw [if_neg hfull]
          exact ⟨_, rfl, rfl⟩
    refine ⟨{ lay with states := s' ++ Array.replicate lay.h.blockLen (stDefault v), h := h' }, _,
      ?_, (Helper.pushBlock_ok wf ep).2.2.2.1, ll', ?_, ?_⟩
    · simp only [extendArray_eq, if_neg hbig, es, ep]
    · rw [Array.size_append, Array.size_replicate, sz']
    · intro j lo hi
      rw [hsz] at lo hi
      exact List.mem_append_right _ (List.mem_range'_1.2 ⟨lo, hi⟩)

/-- What the progress argument needs from the variant-specific invariants. -/
structure PF (BL : Nat) (lay : Lay) (stack : List (List Nat)) : Prop where
  wf : lay.h.WF
  bl : lay.h.blockLen = BL
  size : lay.states.size = lay.h.numBlocks * BL
  stackLt : ∀ u ∈ stack, lay.idx.getD u deadIdx < lay.states.size

/-- The part of `layoutStep` after the array has been extended. -/
def stepTail (v : Variant) (sidx base : Nat) (edges : List (Nat × List Nat))
    (stack : List (List Nat)) (lay1 : Lay) : Except BuildErr (List (List Nat) × Lay) :=
  match placeChildren v sidx base edges lay1 with
  | .error e => .error e
  | .ok lay2 =>
    match setSt lay2.states sidx (fun st => { st with base := base }) with
    | .error e => .error e
    | .ok states' =>
      let helper : Except BuildErr Helper :=
        match v with
        | .bytewise => lay2.h.useBase base
        | .charwise => .ok lay2.h
      match helper with
      | .error e => .error e
      | .ok h' => .ok ((edges.map (·.2)).reverse ++ stack, { lay2 with states := states', h := h' })

theorem layoutStep_nil {v : Variant} {m : Mapper} {t : Trie V} {u : List Nat}
    (stack : List (List Nat)) (lay : Lay) (hec : edgeCodes v m t u = .ok []) :
    layoutStep v m t u stack lay = .ok (stack, lay) := by
  unfold layoutStep; rw [hec]

theorem layoutStep_cons {v : Variant} {m : Mapper} {t : Trie V} {u : List Nat}
    (stack : List (List Nat)) (lay : Lay) {e0 : Nat × List Nat} {rest : List (Nat × List Nat)}
    (hec : edgeCodes v m t u = .ok (e0 :: rest)) :
    layoutStep v m t u stack lay =
      match findBase v lay ((e0 :: rest).map (·.1)) with
      | .error e => .error e
      | .ok base =>
        match (if lay.states.size ≤ base then extendArray v lay else .ok lay) with
        | .error e => .error e
        | .ok lay1 => stepTail v (lay.idx.getD u deadIdx) base (e0 :: rest) stack lay1 := by
  unfold layoutStep; rw [hec]; rfl

theorem stepTail_progress (v : Variant) {sidx base : Nat} {edges : List (Nat × List Nat)}
    (stack : List (List Nat)) {lay1 : Lay} {vac1 : List Nat} (wf : lay1.h.WF) (ll : lay1.h.LL vac1)
    (nd : (edges.map (·.1)).Nodup) (hin : ∀ c ∈ edges.map (·.1), base ^^^ c ∈ vac1)
    (hlt : ∀ c ∈ edges.map (·.1), base ^^^ c < lay1.states.size) (hs : sidx < lay1.states.size)
    (hb : v = .bytewise → lay1.h.Active base) :
    ∃ lay', stepTail v sidx base edges stack lay1 = .ok ((edges.map (·.2)).reverse ++ stack, lay') ∧
      ∃ vac', lay'.h.LL vac' := by
  obtain ⟨lay2, e2, sz2, act2, vac2, ll2⟩ :=
    placeChildren_progress v sidx base edges lay1 vac1 wf ll nd hin hlt
  simp only [stepTail, e2, setSt_lt _ (sz2.symm ▸ hs)]
  cases v with
  | charwise => exact ⟨_, rfl, vac2, ll2⟩
  | bytewise =>
    obtain ⟨h', e3⟩ := Helper.useBase_active ((act2 base).2 (hb rfl))
    simp only [e3]
    exact ⟨_, rfl, vac2, Helper.useBase_ll ll2 e3⟩

theorem layoutStep_progress {v : Variant} {m : Mapper} {t : Trie V} {u : List Nat}
    {stack : List (List Nat)} {lay : Lay} {vac : List Nat} {BL n : Nat} (hBL : BL = 2 ^ n)
    (hvb : v = .bytewise → BL = 256) (pf : PF BL lay (u :: stack)) (ll : lay.h.LL vac)
    {edges : List (Nat × List Nat)} (hec : edgeCodes v m t u = .ok edges)
    (nd : (edges.map (·.1)).Nodup) (hclt : ∀ e ∈ edges, e.1 < BL) :
    (∃ lay', layoutStep v m t u stack lay = .ok ((edges.map (·.2)).reverse ++ stack, lay') ∧
      ∃ vac', lay'.h.LL vac') ∨
    layoutStep v m t u stack lay = .error .automatonScale := by
  cases edges with
  | nil => exact Or.inl ⟨lay, layoutStep_nil stack lay hec, vac, ll⟩
  | cons e0 rest =>
    have hbl : lay.h.blockLen = 2 ^ n := pf.bl.trans hBL
    have hsz : lay.states.size = lay.h.numBlocks * lay.h.blockLen := by rw [pf.size, pf.bl]
    have hc : ∀ c ∈ (e0 :: rest).map (·.1), c < 2 ^ n := by
      intro c hcm
      obtain ⟨e, he, rfl⟩ := List.mem_map.1 hcm
      exact hBL ▸ hclt e he
    have hsidx : lay.idx.getD u deadIdx < lay.states.size := pf.stackLt u List.mem_cons_self
    obtain ⟨base, eb, hcase⟩ := findBase_progress v pf.wf ll hbl hc (hc _ List.mem_cons_self)
    simp only [layoutStep_cons stack lay hec, eb]
    rcases hcase with ⟨ab, hvac⟩ | hdiv
    · -- a BASE among the vacant indices: it is inside the array, which is not extended
      have hactlt : ∀ j, lay.h.Active j → j < lay.states.size := fun j a => hsz ▸ a.2
      simp only [if_neg (Nat.not_le_of_gt (hactlt base ab))]
      exact Or.inl (stepTail_progress v stack pf.wf ll nd hvac
        (fun c hcm => hactlt _ (ll.active (hvac c hcm))) hsidx (fun _ => ab))
    · -- the fallback BASE: it and its child slots lie in the block that the extension appends
      have hblock : ∀ j, j / 2 ^ n = base / 2 ^ n →
          lay.states.size ≤ j ∧ j < lay.states.size + lay.h.blockLen := by
        intro j hj
        have hq : j / 2 ^ n = lay.h.numBlocks := by
          rw [hj, hdiv, hsz, hbl, Nat.mul_div_cancel _ (Nat.two_pow_pos n)]
        rw [hsz, hbl, ← hq]
        exact ⟨Nat.div_mul_le_self j _, Nat.lt_div_mul_add (Nat.two_pow_pos n)⟩
      rw [if_pos (hblock base rfl).1]
      rcases extendArray_progress v pf.wf ll (fun hv => pf.bl.trans (hvb hv)) hsz with
        ⟨lay1, vac1, e1, wf1, ll1, sz1, hfresh⟩ | hscale
      · simp only [e1]
        have hslot : ∀ c ∈ (e0 :: rest).map (·.1),
            base ^^^ c ∈ vac1 ∧ base ^^^ c < lay1.states.size := by
          intro c hcm
          obtain ⟨lo, hi⟩ := hblock _ (xor_div_pow base c n (hc c hcm))
          exact ⟨hfresh _ lo hi, sz1 ▸ hi⟩
        exact Or.inl (stepTail_progress v stack wf1 ll1 nd (fun c hcm => (hslot c hcm).1)
          (fun c hcm => (hslot c hcm).2) (sz1 ▸ Nat.lt_add_right _ hsidx)
          (fun _ => ll1.active (hfresh base (hblock base rfl).1 (hblock base rfl).2)))
      · rw [hscale]
        exact Or.inr rfl

/-- Ghost bookkeeping of the DFS: `seen` are the popped nodes. -/
structure T (t : Trie V) (seen stack : List (List Nat)) : Prop where
  nd : (seen ++ stack).Nodup
  node : ∀ w ∈ seen ++ stack, t.hasNode w = true
  par : ∀ p c, p ++ [c] ∈ seen ++ stack → p ∈ seen

theorem T.init (t : Trie V) : T t [] [[]] := by
  refine ⟨List.nodup_cons.2 ⟨List.not_mem_nil, List.nodup_nil⟩, fun w hw => ?_, fun p c hp => ?_⟩
  · rw [List.mem_singleton.1 hw]; exact Trie.hasNode_nil t
  · exact absurd (List.mem_singleton.1 hp) (List.append_ne_nil_of_right_ne_nil p (List.cons_ne_nil c []))

theorem T.step {t : Trie V} {seen rest : List (List Nat)} {u : List Nat} {L : List (List Nat)}
    (tt : T t seen (u :: rest)) (hL : L.Nodup) (hsub : ∀ w ∈ L, w ∈ t.childPaths u) :
    T t (u :: seen) (L.reverse ++ rest) := by
  -- the tracked nodes are the old ones and the children `L`, up to order
  have hperm : ((u :: seen) ++ (L.reverse ++ rest)).Perm (L ++ (seen ++ u :: rest)) :=
    ((List.perm_append_comm_assoc seen L.reverse rest).cons u).trans
      (List.perm_middle.symm.trans ((List.reverse_perm L).append List.perm_middle.symm))
  have hkid : ∀ w ∈ L, ∃ c, w = u ++ [c] ∧ t.hasNode w = true := by
    intro w hw
    obtain ⟨c, rfl, hc, _⟩ := (Trie.mem_childPaths t u w).1 (hsub w hw)
    exact ⟨c, rfl, hc⟩
  have hus : u ∉ seen := fun hu => (List.nodup_append.1 tt.nd).2.2 u hu u List.mem_cons_self rfl
  -- a child of `u` is new: were it tracked already, `u` would be among the popped nodes
  have hfresh : ∀ w ∈ L, w ∉ seen ++ u :: rest := by
    intro w hw hmem
    obtain ⟨c, rfl, _⟩ := hkid w hw
    exact hus (tt.par u c hmem)
  refine ⟨hperm.nodup_iff.2 (List.nodup_append.2
    ⟨hL, tt.nd, fun a ha b hb e => hfresh a ha (e ▸ hb)⟩), fun w hw => ?_, fun p c hp => ?_⟩
  · rcases List.mem_append.1 (hperm.mem_iff.1 hw) with hw | hw
    · obtain ⟨_, _, hn⟩ := hkid w hw
      exact hn
    · exact tt.node w hw
  · rcases List.mem_append.1 (hperm.mem_iff.1 hp) with hp | hp
    · obtain ⟨c', h1, _⟩ := hkid _ hp
      rw [(LayB.snoc_inj h1).1]; exact List.mem_cons_self
    · exact List.mem_cons_of_mem _ (tt.par p c hp)

theorem T.length_le {t : Trie V} {seen stack : List (List Nat)} (hsort : t.Sorted)
    (tt : T t seen stack) : seen.length + stack.length ≤ t.size := by
  have := List.Nodup.length_le_of_subset tt.nd (l₂ := t.paths []) (by
    intro w hw
    exact (Trie.mem_paths_nil t hsort w).2 (tt.node w hw))
  rw [List.length_append, ← Trie.size_eq_length_paths t []] at this
  exact this

def EdgesOK (v : Variant) (m : Mapper) (t : Trie V) (u : List Nat) (BL : Nat) : Prop :=
  ∃ edges, edgeCodes v m t u = .ok edges ∧ (edges.map (·.1)).Nodup ∧ (∀ e ∈ edges, e.1 < BL) ∧
    (edges.map (·.2)).Nodup ∧ ∀ w ∈ edges.map (·.2), w ∈ t.childPaths u

theorem layoutLoop_nil (v : Variant) (m : Mapper) (t : Trie V) (fuel : Nat) (lay : Lay) :
    layoutLoop v m t fuel [] lay = .ok lay := by
  cases fuel <;> rfl

theorem layoutLoop_cons (v : Variant) (m : Mapper) (t : Trie V) (fuel : Nat) (u : List Nat)
    (stack : List (List Nat)) (lay : Lay) :
    layoutLoop v m t (fuel + 1) (u :: stack) lay =
      match layoutStep v m t u stack lay with
      | .error e => .error e
      | .ok (stack', lay') => layoutLoop v m t fuel stack' lay' := rfl

theorem nodup_map_fst_of {edges : List (Nat × List Nat)} (h2 : (edges.map (·.2)).Nodup)
    (hinj : ∀ e ∈ edges, ∀ e' ∈ edges, e.1 = e'.1 → e.2 = e'.2) : (edges.map (·.1)).Nodup := by
  rw [List.Nodup, List.pairwise_map] at h2 ⊢
  exact h2.imp_of_mem (fun ha hb hne h1 => hne (hinj _ ha _ hb h1))

theorem edgesOK_bytewise {m : Mapper} {t : Trie V} (hsort : t.Sorted)
    (hbytes : ∀ u, t.hasNode u = true → ∀ c ∈ u, c < 256) {u : List Nat}
    (hu : t.hasNode u = true) : EdgesOK .bytewise m t u 256 := by
  have nd2 : ((LayB.edgesB t u).map (·.2)).Nodup := by
    rw [LayB.edgesB_map_snd]; exact Trie.nodup_childPaths t hsort u
  refine ⟨LayB.edgesB t u, rfl, ?_, ?_, nd2, ?_⟩
  · apply nodup_map_fst_of nd2
    intro e he e' he' h1
    obtain ⟨c, _, rfl⟩ := (LayB.mem_edgesB hu e).1 he
    obtain ⟨c', _, rfl⟩ := (LayB.mem_edgesB hu e').1 he'
    exact congrArg (fun x => u ++ [x]) h1
  · intro e he
    obtain ⟨c, hc, rfl⟩ := (LayB.mem_edgesB hu e).1 he
    exact hbytes _ hc c (List.mem_append_right u List.mem_cons_self)
  · intro w hw
    rw [LayB.edgesB_map_snd] at hw; exact hw

theorem ecStep_foldl_progress (m : Mapper) (L : List (List Nat)) (l0 : List (Nat × List Nat))
    (h : ∀ w ∈ L, ∃ k, m.get (w.getLastD 0) = some k) :
    ∃ r, L.foldl (LayC.ecStep m) (.ok l0) = .ok r := by
  induction L generalizing l0 with
  | nil => exact ⟨l0, rfl⟩
  | cons w L ih =>
    obtain ⟨k, hk⟩ := h w List.mem_cons_self
    rw [List.foldl_cons, LayC.ecStep_ok_some hk]
    exact ih _ (fun w' hw' => h w' (List.mem_cons_of_mem _ hw'))

theorem edgesOK_charwise {m : Mapper} {t : Trie V} {BL : Nat} (hsort : t.Sorted)
    (hm : MapperOk m) (hα : m.alphaSize ≤ BL)
    (hmap : ∀ u, t.hasNode u = true → ∀ c ∈ u, ∃ k, m.get c = some k) {u : List Nat}
    (_hu : t.hasNode u = true) : EdgesOK .charwise m t u BL := by
  have hkid : ∀ w ∈ t.childPaths u, ∃ c, w = u ++ [c] ∧ w.getLastD 0 = c ∧
      ∃ k, m.get c = some k := by
    intro w hw
    obtain ⟨c, rfl, hc, _⟩ := (Trie.mem_childPaths t u w).1 hw
    exact ⟨c, rfl, by rw [List.getLastD_concat], hmap _ hc c (List.mem_append_right u List.mem_cons_self)⟩
  obtain ⟨edges, hec⟩ : ∃ edges, edgeCodes .charwise m t u = .ok edges := by
    rw [LayC.edgeCodes_eq]
    apply ecStep_foldl_progress
    intro w hw
    obtain ⟨c, _, h2, h3⟩ := hkid w (List.mem_reverse.1 hw)
    rw [h2]; exact h3
  obtain ⟨p1, p2⟩ := LayC.edgeCodes_spec m t u edges hec
  have nd2 : (edges.map (·.2)).Nodup := p1.nodup_iff.2 (Trie.nodup_childPaths t hsort u)
  have hmem : ∀ e ∈ edges, e.2 ∈ t.childPaths u := fun e he =>
    p1.mem_iff.1 (List.mem_map.2 ⟨e, he, rfl⟩)
  refine ⟨edges, hec, ?_, ?_, nd2, ?_⟩
  · apply nodup_map_fst_of nd2
    intro e he e' he' h1
    obtain ⟨c, q1, q2, _⟩ := hkid _ (hmem e he)
    obtain ⟨c', q1', q2', _⟩ := hkid _ (hmem e' he')
    have g1 := p2 e he
    have g2 := p2 e' he'
    rw [q2] at g1
    rw [q2', ← h1] at g2
    rw [q1, q1', hm.2 c c' e.1 g1 g2]
  · intro e he
    exact Nat.lt_of_lt_of_le (hm.1 _ _ (p2 e he)) hα
  · intro w hw
    obtain ⟨e, he, rfl⟩ := List.mem_map.1 hw
    exact hmem e he

theorem setFailOut_progress (v : Variant) (nfa : Nfa V) : ∀ (L : List (List Nat)) (lay : Lay),
    (∀ u ∈ L, lay.idx.getD u deadIdx < lay.states.size) →
    (∃ lay2, setFailOut v nfa L lay = .ok lay2 ∧ lay2.h = lay.h ∧
      lay2.states.size = lay.states.size) ∨
    setFailOut v nfa L lay = .error .automatonScale := by
  intro L
  induction L with
  | nil => intro lay _; exact Or.inl ⟨lay, rfl, rfl, rfl⟩
  | cons u rest ih =>
    intro lay hlt
    by_cases hs : v = .bytewise ∧ nfa.out.opos.getD u 0 > u24Max
    · exact Or.inr (by simp only [setFailOut, if_pos hs])
    · simp only [setFailOut, if_neg hs, setSt_lt _ (hlt u List.mem_cons_self)]
      rcases ih { lay with states := lay.states.modify (lay.idx.getD u deadIdx) _ } (by
          intro w hw
          simp only [Array.size_modify]
          exact hlt w (List.mem_cons_of_mem _ hw)) with ⟨lay2, e2, eh, esz⟩ | hsc
      · exact Or.inl ⟨lay2, e2, eh, by rw [esz, Array.size_modify]⟩
      · exact Or.inr hsc

theorem sanitiseBlocks_progress {h : Helper} (hbl : h.blockLen = 256) : ∀ (k B : Nat)
    (s : Array St), h.activeStart ≤ B → B + k ≤ h.numBlocks → s.size = h.numBlocks * 256 →
    ∃ s', sanitiseBlocks h k B s = .ok s' := by
  intro k
  induction k with
  | zero => intro B s _ _ _; exact ⟨s, rfl⟩
  | succ k ih =>
    intro B s lo hi hsz
    obtain ⟨s1, e1, sz1⟩ := removeInvalidChecks_progress (s := s) hbl lo
      (Nat.lt_of_lt_of_le (Nat.lt_add_of_pos_right (Nat.succ_pos k)) hi) hsz
    unfold sanitiseBlocks
    rw [e1]
    exact ih (B + 1) s1 (Nat.le_succ_of_le lo) (Nat.add_right_comm B 1 k ▸ hi) (sz1.trans hsz)

theorem Helper.new_scale {bl nfb : Nat} (h : bl * nfb > u32Max) :
    Helper.new bl nfb = .error .automatonScale := by
  unfold Helper.new
  simp only
  rw [if_pos h]

theorem afterLoop_progress (v : Variant) (nfa : Nfa V) {t : Trie V} {BL : Nat} {lay1 : Lay}
    (pf : PF BL lay1 (t.paths [])) (hvb : v = .bytewise → BL = 256) :
    (∃ states, afterLoop v nfa t (.ok lay1) = .ok states) ∨
      afterLoop v nfa t (.ok lay1) = .error .automatonScale := by
  unfold afterLoop
  rcases setFailOut_progress v nfa (t.paths []) lay1 pf.stackLt with ⟨lay2, e2, eh, esz⟩ | hsc
  · left
    simp only [e2]
    cases v with
    | charwise => exact ⟨_, rfl⟩
    | bytewise =>
      have hlo : lay2.h.activeStart ≤ lay2.h.numBlocks := Nat.sub_le _ _
      exact sanitiseBlocks_progress (h := lay2.h) (eh ▸ pf.bl.trans (hvb rfl)) _ _ lay2.states
        (Nat.le_refl _) (Nat.le_of_eq (Nat.add_sub_cancel' hlo))
        (by rw [esz, eh, pf.size, hvb rfl])
  · right
    simp only [hsc]

section Invariant
/- Totality of the loop and of the whole layout pass for any invariant `J` of the DFS loop that is
preserved by successful steps and provides the range facts `PF`, given well-formed edge lists. -/
variable {v : Variant} {m : Mapper} {t : Trie V} {BL n : Nat} (J : Lay → List (List Nat) → Prop)
  (hsort : t.Sorted) (hBL : BL = 2 ^ n) (hvb : v = .bytewise → BL = 256)
  (hpf : ∀ lay stack, J lay stack → PF BL lay stack)
  (hstep : ∀ u stack lay stack' lay', J lay (u :: stack) →
    layoutStep v m t u stack lay = .ok (stack', lay') → J lay' stack')
  (hedges : ∀ u, t.hasNode u = true → EdgesOK v m t u BL)
include hsort hBL hvb hpf hstep hedges

theorem layoutLoop_progress :
    ∀ (fuel : Nat) (stack : List (List Nat)) (lay : Lay) (seen : List (List Nat)) (vac : List Nat),
      J lay stack → lay.h.LL vac → T t seen stack → t.size + 1 ≤ fuel + seen.length →
      (∃ lay', layoutLoop v m t fuel stack lay = .ok lay' ∧ J lay' []) ∨
        layoutLoop v m t fuel stack lay = .error .automatonScale := by
  intro fuel
  induction fuel with
  | zero =>
    intro stack lay seen vac hj ll tt hf
    cases stack with
    | nil => exact Or.inl ⟨lay, layoutLoop_nil v m t 0 lay, hj⟩
    | cons u rest =>
      -- the popped nodes and the non-empty stack are distinct nodes of `t`: the fuel is not used up
      have h1 : seen.length + (rest.length + 1) ≤ t.size := tt.length_le hsort
      have h2 : t.size + 1 ≤ seen.length := Nat.zero_add seen.length ▸ hf
      exact absurd (Nat.le_trans h2 (Nat.le_trans (Nat.le_add_right _ _) h1))
        (Nat.not_succ_le_self _)
  | succ fuel ih =>
    intro stack lay seen vac hj ll tt hf
    cases stack with
    | nil => exact Or.inl ⟨lay, layoutLoop_nil v m t _ lay, hj⟩
    | cons u rest =>
      obtain ⟨edges, hec, nd1, hclt, nd2, hsub⟩ :=
        hedges u (tt.node u (List.mem_append_right _ List.mem_cons_self))
      rw [layoutLoop_cons]
      rcases layoutStep_progress hBL hvb (hpf _ _ hj) ll hec nd1 hclt with
        ⟨lay', es, vac', ll'⟩ | hs
      · rw [es]
        simp only
        exact ih _ lay' (u :: seen) vac' (hstep _ _ _ _ _ hj es) ll' (tt.step nd2 hsub)
          (Nat.add_right_comm fuel 1 seen.length ▸ hf)
      · rw [hs]
        exact Or.inr rfl

theorem buildLayout_progress (cfg : Cfg) (nfa : Nfa V) (hnfb : 1 ≤ cfg.nfb)
    (hbl : blOf v m = BL) (hBL2 : 2 ≤ BL)
    (hinit : ∀ h0 h1 h2 h3, Helper.new BL cfg.nfb = .ok h0 → h0.pushBlock = .ok h1 →
      h1.useIndex rootIdx = .ok h2 → h2.useIndex deadIdx = .ok h3 → J (initLay v BL h3) [[]])
    (hdone : ∀ lay, J lay [] → ∀ u, t.hasNode u = true →
      lay.idx.getD u deadIdx < lay.states.size) :
    (∃ states, buildLayout v cfg m t nfa = .ok states) ∨
      buildLayout v cfg m t nfa = .error .automatonScale := by
  subst hbl
  by_cases hcap : blOf v m * cfg.nfb > u32Max
  · right
    rw [buildLayout_eq, Helper.new_scale hcap]
  · obtain ⟨h0, h1, h2, h3, e0, e1, e2, e3, _, ll3⟩ :=
      Helper.init_ll (bl := blOf v m) (nfb := cfg.nfb) hBL2 hnfb (Nat.le_of_not_gt hcap)
    have heq : buildLayout v cfg m t nfa =
        afterLoop v nfa t (layoutLoop v m t (t.size + 1) [[]] (initLay v (blOf v m) h3)) := by
      rw [buildLayout_eq]
      simp only [e0, e1, show h1.useIndex rootIdx = .ok h2 from e2,
        show h2.useIndex deadIdx = .ok h3 from e3]
    rw [heq]
    rcases layoutLoop_progress J hsort hBL hvb hpf hstep hedges (t.size + 1) [[]] _ [] _
        (hinit h0 h1 h2 h3 e0 e1 e2 e3) ll3 (T.init t) (Nat.le_refl _) with ⟨lay1, el, hj⟩ | hs
    · rw [el]
      have pf := hpf _ _ hj
      exact afterLoop_progress v nfa ⟨pf.wf, pf.bl, pf.size, fun u hu =>
        hdone lay1 hj u ((Trie.mem_paths_nil t hsort u).1 hu)⟩ hvb
    · right
      rw [hs]; rfl

end Invariant

theorem buildLayout_no_panic_charwise (cfg : Cfg) (m : Mapper) (t : Trie V) (nfa : Nfa V)
    (hnfb : 1 ≤ cfg.nfb) (hsort : t.Sorted) (hm : MapperOk m)
    (hmap : ∀ u, t.hasNode u = true → ∀ c ∈ u, ∃ k, m.get c = some k) :
    (∃ states, buildLayout .charwise cfg m t nfa = .ok states) ∨
      buildLayout .charwise cfg m t nfa = .error .automatonScale := by
  obtain ⟨⟨n, hpow⟩, hBL2, hα⟩ := LayC.blockLen_facts m.alphaSize
  have hmC : LayC.MapperOk m := hm
  exact buildLayout_progress (v := .charwise) (m := m)
    (fun lay stack => LayC.Inv m t (blOf .charwise m) lay stack)
    hsort hpow (fun h => nomatch h)
    (fun lay stack I => ⟨I.wf, I.bl, I.size, fun u hu => I.ixLt u (I.stackHas u hu)⟩)
    (fun u stack lay stack' lay' I e => LayC.layoutStep_inv hBL2 hα hmC hsort I e)
    (fun u hu => edgesOK_charwise hsort hm hα hmap hu) cfg nfa hnfb rfl hBL2
    (fun _ _ _ _ e0 e1 e2 e3 => LayC.inv_init e0 e1 e2 e3)
    (fun lay I u hu => I.ixLt u (LayC.inv_all_placed I u hu))

theorem buildLayout_no_panic_bytewise (cfg : Cfg) (m : Mapper) (t : Trie V) (nfa : Nfa V)
    (hnfb : 1 ≤ cfg.nfb) (hsort : t.Sorted)
    (hbytes : ∀ u, t.hasNode u = true → ∀ c ∈ u, c < 256) :
    (∃ states, buildLayout .bytewise cfg m t nfa = .ok states) ∨
      buildLayout .bytewise cfg m t nfa = .error .automatonScale := by
  refine buildLayout_progress (v := .bytewise) (m := m) (BL := 256)
    (fun lay stack => ∃ done, LayB.Inv t done stack (LayB.ixOf lay) (LayB.gs lay.states)
      lay.states.size lay.h)
    hsort two56 (fun _ => rfl)
    (fun lay stack ⟨_, I⟩ => ⟨I.wf, I.bl, I.size, fun u hu => I.lt u (I.stackPl u hu)⟩)
    (fun u stack lay stack' lay' ⟨_, I⟩ e => LayB.layoutStep_inv hsort hbytes I e)
    (fun u hu => edgesOK_bytewise hsort hbytes hu) cfg nfa hnfb rfl (by decide) ?_
    (fun lay ⟨_, I⟩ u hu => I.lt u (I.node_pl hu))
  intro h0 h1 h2 h3 e0 e1 e2 e3
  exact ⟨[], LayB.init_inv t rfl e0 e1 e2 e3⟩

/-- On the trie of a pattern collection (with the documented input conventions: byte labels for the
byte-wise builder, a mapper table within `u32` for the char-wise one) the layout pass returns or
reports the scale error. -/
theorem buildLayout_of_trie (variant : Variant) (cfg : Cfg) (P : List (LPat V)) (hk : keysOk P)
    (hnfb : 1 ≤ cfg.nfb) (hbytes : variant = .bytewise → ∀ p ∈ P, ∀ c ∈ p.key, c < 256)
    (hsz : variant = .charwise → tableLen P < 4294967295) {t : Trie V}
    (ht : buildTrie cfg.kind P = .ok t) (nfa : Nfa V) :
    (∃ states, buildLayout variant cfg (mapperFor variant P) t nfa = .ok states) ∨
      buildLayout variant cfg (mapperFor variant P) t nfa = .error .automatonScale := by
  have hsort := buildTrie_sorted _ _ _ ht
  cases variant with
  | bytewise =>
    apply buildLayout_no_panic_bytewise _ _ _ _ hnfb hsort
    intro u hu c hc
    obtain ⟨p, hp, hcp⟩ := buildTrie_node_labels hk ht hu hc
    exact hbytes rfl p hp c hcp
  | charwise =>
    apply buildLayout_no_panic_charwise _ _ _ _ hnfb hsort (mapperOk_build' P)
    intro u hu c hc
    obtain ⟨p, hp, hcp⟩ := buildTrie_node_labels hk ht hu hc
    exact mapper_maps_labels P (hsz rfl) p hp c hcp

theorem buildDA_valid_ok_or_scale (variant : Variant) (cfg : Cfg) (P : List (LPat V))
    (hk : keysOk P) (hnfb : 1 ≤ cfg.nfb)
    (hbytes : variant = .bytewise → ∀ p ∈ P, ∀ c ∈ p.key, c < 256)
    (hsz : variant = .charwise → tableLen P < 4294967295)
    (hvalid : P ≠ [] ∧ (∀ p ∈ P, p.key ≠ []) ∧ (P.map (·.key)).Nodup) :
    (∃ da, buildDA variant cfg P = .ok da) ∨ buildDA variant cfg P = .error .automatonScale := by
  obtain ⟨t, ht⟩ := (buildTrie_ok_iff cfg.kind P hk).mpr hvalid
  have hlay := buildLayout_of_trie variant cfg P hk hnfb hbytes hsz ht (buildNfa t (cfg.kind != 0))
  obtain ⟨acc, hadd, hl, rfl⟩ := addAll_of_buildTrie ht
  rw [buildDA_eq, if_neg (Nat.ne_of_gt hnfb), hadd]
  simp only [buildRest, if_neg hl]
  by_cases hs : variant = .bytewise ∧ acc.len > u24Max
  · rw [if_pos hs]; exact Or.inr rfl
  · rw [if_neg hs]
    rcases hlay with ⟨states, e⟩ | e
    · simp only [e]; exact Or.inl ⟨_, rfl⟩
    · simp only [e]; exact Or.inr trivial

/-- **Totality of construction.** For every pattern collection (with the documented input
conventions: byte labels for the byte-wise builder, a mapper table within `u32` for the char-wise
one) `buildDA` returns `Ok` or one of the documented error kinds: never a panic, never
`invalidConversion`. -/
theorem buildDA_total (variant : Variant) (cfg : Cfg) (P : List (LPat V)) (hk : keysOk P)
    (hnfb : 1 ≤ cfg.nfb)
    (hbytes : variant = .bytewise → ∀ p ∈ P, ∀ c ∈ p.key, c < 256)
    (hsz : variant = .charwise → tableLen P < 4294967295) :
    (∃ da, buildDA variant cfg P = .ok da) ∨ buildDA variant cfg P = .error .invalidArgument ∨
      buildDA variant cfg P = .error .duplicatePattern ∨
      buildDA variant cfg P = .error .automatonScale := by
  by_cases hvalid : P ≠ [] ∧ (∀ p ∈ P, p.key ≠ []) ∧ (P.map (·.key)).Nodup
  · rcases buildDA_valid_ok_or_scale variant cfg P hk hnfb hbytes hsz hvalid with h | h
    · exact Or.inl h
    · exact Or.inr (Or.inr (Or.inr h))
  · -- an invalid collection is rejected in the insertion phase
    obtain ⟨e, he, hkind⟩ := buildDA_invalid_err variant cfg P hk (Nat.ne_of_gt hnfb) hvalid
    rcases hkind with ⟨rfl, _⟩ | ⟨rfl, _⟩
    · exact Or.inr (Or.inl he)
    · exact Or.inr (Or.inr (Or.inl he))

#print axioms buildLayout_no_panic_bytewise
#print axioms buildLayout_no_panic_charwise
#print axioms buildDA_total

end Daac
