/-
Corollary of totality (`Total.lean`): barring the documented size-limit error `automatonScale`,
construction succeeds exactly on the valid collections.
-/
import Daac.Proofs.Total
namespace Daac
variable {V : Type}

theorem buildDA_ok_iff (variant : Variant) (cfg : Cfg) (P : List (LPat V))
    (hk : keysOk P) (hnfb : 1 ≤ cfg.nfb)
    (hbytes : variant = .bytewise → ∀ p ∈ P, ∀ c ∈ p.key, c < 256)
    (hsz : variant = .charwise → tableLen P < 4294967295)
    (hlim : buildDA variant cfg P ≠ .error .automatonScale) :
    (∃ da, buildDA variant cfg P = .ok da) ↔
      (P ≠ [] ∧ (∀ p ∈ P, p.key ≠ []) ∧ (P.map (·.key)).Nodup) := by
  constructor
  · rintro ⟨da, hda⟩
    exact buildDA_ok_valid variant cfg P hk da hda
  · intro hvalid
    rcases buildDA_valid_ok_or_scale variant cfg P hk hnfb hbytes hsz hvalid with h | h
    · exact h
    · exact absurd h hlim

#print axioms buildDA_valid_ok_or_scale
#print axioms buildDA_ok_iff

end Daac
