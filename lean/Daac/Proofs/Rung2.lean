/-
Rung 2, end to end: a double array returned by the construction pipeline `buildDA` has the
Rung-1 table semantics (`StdSem` / `LmSem`), hence its iterators return the byte-level
specification.
-/
import Daac.Proofs.LayoutB
import Daac.Proofs.LayoutC
import Daac.Proofs.MapperFacts
import Daac.Proofs.LayoutSem
import Daac.Proofs.BuildStages
import Daac.Proofs.StdIter
import Daac.Proofs.LmIter
import Daac.Proofs.LmAbs
import Daac.Proofs.CharSpec
import Daac.Proofs.SpecProps
import Daac.Proofs.Steps
namespace Daac
variable {V : Type}

theorem length_le_of_inj {α : Type} (nodes : List α) (idx : α → Nat) (n : Nat)
    (hnd : nodes.Nodup) (hlt : ∀ u ∈ nodes, idx u < n)
    (hinj : ∀ u ∈ nodes, ∀ w ∈ nodes, idx u = idx w → u = w) : nodes.length ≤ n := by
  have := length_le_of_inj_into nodes idx (List.range n) hnd
    (fun u hu => List.mem_range.2 (hlt u hu)) hinj
  rwa [List.length_range] at this

theorem inj_bound (n m : Nat) (f : Nat → Nat) (hlt : ∀ i, i < m → f i < n)
    (hinj : ∀ i j, i < m → j < m → f i = f j → i = j) : m ≤ n := by
  have := length_le_of_inj (List.range m) f n List.nodup_range
    (fun i hi => hlt i (List.mem_range.1 hi))
    (fun i hi j hj e => hinj i j (List.mem_range.1 hi) (List.mem_range.1 hj) e)
  rwa [List.length_range] at this

theorem depth_bound {t : Trie V} {idx : List Nat → Nat} {n : Nat}
    (hlt : ∀ u, t.hasNode u = true → idx u < n)
    (hinj : ∀ u w, t.hasNode u = true → t.hasNode w = true → idx u = idx w → u = w) :
    ∀ u, t.hasNode u = true → u.length < n := by
  intro u hu
  have hnode : ∀ k, t.hasNode (u.take k) = true :=
    fun k => Trie.hasNode_of_prefix t (List.take_prefix k u) hu
  -- the `|u| + 1` prefixes of `u` are nodes with pairwise distinct indices
  refine inj_bound n (u.length + 1) (fun k => idx (u.take k)) (fun k _ => hlt _ (hnode k)) ?_
  intro i j hi hj e
  have hl := congrArg List.length (hinj _ _ (hnode i) (hnode j) e)
  rwa [List.length_take, List.length_take, Nat.min_eq_left (Nat.le_of_lt_succ hi),
    Nat.min_eq_left (Nat.le_of_lt_succ hj)] at hl

theorem labelOk_charwise {da : DA V} (hv : da.variant = .charwise) (c : Nat) : LabelOk da c :=
  labelOk_of_charwise hv c

/-- `P'` is the list of registered patterns (`P`, or the retained ones for leftmost-first). -/
theorem build_layout_full (variant : Variant) (cfg : Cfg) (P P' : List (LPat V)) (da : DA V)
    (hb : buildDA variant cfg P = .ok da)
    (hS : ∀ t, buildTrie cfg.kind P = .ok t → TrieSem t P')
    (hsub : ∀ p ∈ P', p ∈ P)
    (hlabels : variant = .bytewise → ∀ p ∈ P, ∀ c ∈ p.key, c < 256) :
    ∃ t idx, TrieSem t P' ∧ t.Sorted ∧ LayoutSem da t (buildNfa t (cfg.kind != 0)) idx ∧
      (∀ u, t.hasNode u = true → ∀ c ∈ u, LabelOk da c) ∧
      (∀ u, t.hasNode u = true → u.length < da.states.size) ∧
      (∀ u, t.hasNode u = true → idx u < da.states.size) ∧
      (∀ u w, t.hasNode u = true → t.hasNode w = true → idx u = idx w → u = w) ∧
      buildTrie cfg.kind P = .ok t ∧ da.numStates = t.size := by
  obtain ⟨t, states, ht, hst, rfl⟩ := buildDA_ok_stages variant cfg P da hb
  have hT := hS _ ht
  have hsort := buildTrie_sorted _ _ _ ht
  cases variant with
  | bytewise =>
    have hbytes : ∀ u, t.hasNode u = true → ∀ c ∈ u, c < 256 := by
      intro u hu c hc
      rcases mem_nodeList.1 ((hT.nodes u).1 hu) with h0 | ⟨p, hp, hpre⟩
      · subst h0; cases hc
      · exact hlabels rfl p (hsub p hp) c (hpre.subset hc)
    obtain ⟨idx, hL, hlt, hinj⟩ := LayB.layoutSem_bytewise cfg (mapperFor .bytewise P) t
      (buildNfa t (cfg.kind != 0)) states hst hsort hbytes cfg.kind t.size
    exact ⟨t, idx, hT, hsort, hL, fun u hu c hc => labelOk_of_bytewise rfl (hbytes u hu c hc),
      depth_bound hlt hinj, hlt, hinj, ht, rfl⟩
  | charwise =>
    obtain ⟨idx, hL, hlt, hinj⟩ := LayC.layoutSem_charwise cfg (mapperFor .charwise P) t
      (buildNfa t (cfg.kind != 0)) states hst hsort (mapperOk_build' P) cfg.kind t.size
    exact ⟨t, idx, hT, hsort, hL, fun _ _ c _ => labelOk_charwise rfl c, depth_bound hlt hinj,
      hlt, hinj, ht, rfl⟩

theorem build_layout (variant : Variant) (cfg : Cfg) (P P' : List (LPat V)) (da : DA V)
    (hb : buildDA variant cfg P = .ok da)
    (hS : ∀ t, buildTrie cfg.kind P = .ok t → TrieSem t P')
    (hsub : ∀ p ∈ P', p ∈ P)
    (hlabels : variant = .bytewise → ∀ p ∈ P, ∀ c ∈ p.key, c < 256) :
    ∃ t idx, TrieSem t P' ∧ t.Sorted ∧ LayoutSem da t (buildNfa t (cfg.kind != 0)) idx ∧
      (∀ u, t.hasNode u = true → ∀ c ∈ u, LabelOk da c) ∧
      (∀ u, t.hasNode u = true → u.length < da.states.size) := by
  obtain ⟨t, idx, h1, h2, h3, h4, h5, _⟩ :=
    build_layout_full variant cfg P P' da hb hS hsub hlabels
  exact ⟨t, idx, h1, h2, h3, h4, h5⟩

/-- The bound on the output array is what the fuel of the overlapping iterator needs. -/
theorem build_stdSem (variant : Variant) (nfb : Nat) (P : List (LPat V)) (da : DA V)
    (hb : buildDA variant ⟨0, nfb⟩ P = .ok da) (hk : keysOk P)
    (hlabels : variant = .bytewise → ∀ p ∈ P, ∀ c ∈ p.key, c < 256) :
    StdSem da P ∧ P.length ≤ da.outputs.size := by
  obtain ⟨t, idx, hT, hsort, hL, hlab, hD⟩ := build_layout variant ⟨0, nfb⟩ P P da hb
    (fun t ht => buildTrie_trieSem 0 (by decide) P t ht hk) (fun _ h => h) hlabels
  have hnfa : buildNfa t ((⟨0, nfb⟩ : Cfg).kind != 0) = buildNfa t false := rfl
  refine ⟨stdSem_of_layout' hnfa hL hT hsort hlab hD, ?_⟩
  have ho : da.outputs = (buildOutAcc t (buildFailMap t false)).outs := hL.outputs
  rw [ho, outsStd_size hT hsort]
  exact Nat.le_refl _

theorem build_lmSem_ll (variant : Variant) (nfb : Nat) (P : List (LPat V)) (da : DA V)
    (hb : buildDA variant ⟨1, nfb⟩ P = .ok da) (hk : keysOk P)
    (hlabels : variant = .bytewise → ∀ p ∈ P, ∀ c ∈ p.key, c < 256) : LmSem da P := by
  obtain ⟨t, idx, hT, hsort, hL, hlab, hD⟩ := build_layout variant ⟨1, nfb⟩ P P da hb
    (fun t ht => buildTrie_trieSem 1 (by decide) P t ht hk) (fun _ h => h) hlabels
  have hnfa : buildNfa t ((⟨1, nfb⟩ : Cfg).kind != 0) = buildNfa t true := rfl
  exact lmSem_of_layout' hnfa hL hT hsort hlab hD

theorem build_lmSem_lf (variant : Variant) (nfb : Nat) (P : List (LPat V)) (da : DA V)
    (hb : buildDA variant ⟨2, nfb⟩ P = .ok da) (hk : keysOk P)
    (hlabels : variant = .bytewise → ∀ p ∈ P, ∀ c ∈ p.key, c < 256) :
    LmSem da (retainedL P) := by
  obtain ⟨t, idx, hT, hsort, hL, hlab, hD⟩ := build_layout variant ⟨2, nfb⟩ P (retainedL P) da hb
    (fun t ht => buildTrie_trieSem_lf P t ht hk)
    (fun _ h => (retainedL_sublist P).subset h) hlabels
  have hnfa : buildNfa t ((⟨2, nfb⟩ : Cfg).kind != 0) = buildNfa t true := rfl
  exact lmSem_of_layout' hnfa hL hT hsort hlab hD

theorem lp_eq_lpOf : @lp V = @lpOf V := rfl

theorem keysOk_map_lp (Ps : List (Pat V)) : keysOk (Ps.map lp) := by
  intro p hp
  obtain ⟨q, _, rfl⟩ := List.mem_map.1 hp
  exact List.length_eq_zero_iff

theorem bytes_map_lp {Ps : List (Pat V)} (hbytes : ∀ p ∈ Ps, ∀ b ∈ p.key, b < 256) :
    ∀ p ∈ Ps.map lp, ∀ c ∈ p.key, c < 256 := by
  intro p hp
  obtain ⟨q, hq, rfl⟩ := List.mem_map.1 hp
  exact hbytes q hq

theorem lp_valid {Ps : List (Pat V)} (hV : ValidPats Ps) :
    (∀ p ∈ Ps.map lpOf, p.key ≠ []) ∧ ((Ps.map lpOf).map (·.key)).Nodup := by
  constructor
  · intro p hp
    obtain ⟨q, hq, rfl⟩ := List.mem_map.1 hp
    exact hV.key_ne q hq
  · have : (Ps.map lpOf).map (·.key) = Ps.map (·.key) := by
      simp [lpOf, List.map_map, Function.comp_def]
    rw [this]; exact hV.nodup

/-- What the three standard searches need of a byte-wise build. -/
theorem build_std_bytewise {nfb : Nat} {Ps : List (Pat V)}
    (hbytes : ∀ p ∈ Ps, ∀ b ∈ p.key, b < 256) {da : DA V}
    (hb : buildDA .bytewise ⟨0, nfb⟩ (Ps.map lp) = .ok da) :
    da.variant = .bytewise ∧ StdSem da (Ps.map lp) ∧ Ps.length ≤ da.outputs.size := by
  obtain ⟨hS, hO⟩ := build_stdSem .bytewise nfb (Ps.map lp) da hb (keysOk_map_lp Ps)
    (fun _ => bytes_map_lp hbytes)
  exact ⟨(buildDA_kind_variant _ _ _ _ hb).2, hS, List.length_map (as := Ps) lp ▸ hO⟩

theorem bytewise_overlapping_correct (nfb : Nat) (Ps : List (Pat V)) (_hV : ValidPats Ps)
    (hbytes : ∀ p ∈ Ps, ∀ b ∈ p.key, b < 256) (da : DA V)
    (hb : buildDA .bytewise ⟨0, nfb⟩ (Ps.map lp) = .ok da) (h : List Nat)
    (hh : ∀ b ∈ h, b < 256) :
    ∃ l fin, ovAll da h = .ok (l, fin) ∧ l.map (·.1) = specOverlapping Ps h := by
  obtain ⟨hv, hS, hO⟩ := build_std_bytewise hbytes hb
  exact ovAll_bytewise_eq_spec hv hS hh hO

theorem bytewise_nosuffix_correct (nfb : Nat) (Ps : List (Pat V)) (_hV : ValidPats Ps)
    (hbytes : ∀ p ∈ Ps, ∀ b ∈ p.key, b < 256) (da : DA V)
    (hb : buildDA .bytewise ⟨0, nfb⟩ (Ps.map lp) = .ok da) (h : List Nat)
    (hh : ∀ b ∈ h, b < 256) :
    ∃ l fin, noSufAll da h = .ok (l, fin) ∧ l.map (·.1) = specNoSuffix Ps h := by
  obtain ⟨hv, hS, _⟩ := build_std_bytewise hbytes hb
  exact noSufAll_bytewise_eq_spec hv hS hh

theorem bytewise_find_correct (nfb : Nat) (Ps : List (Pat V)) (_hV : ValidPats Ps)
    (hbytes : ∀ p ∈ Ps, ∀ b ∈ p.key, b < 256) (da : DA V)
    (hb : buildDA .bytewise ⟨0, nfb⟩ (Ps.map lp) = .ok da) (h : List Nat)
    (hh : ∀ b ∈ h, b < 256) :
    ∃ l fin, findAll da h = .ok (l, fin) ∧ l.map (·.1) = specFind Ps h := by
  obtain ⟨hv, hS, _⟩ := build_std_bytewise hbytes hb
  exact findAll_bytewise_eq_spec hv hS hh

theorem lmAll_of_lmSem_bytewise {Ps : List (Pat V)} (hV : ValidPats Ps) {da : DA V}
    (hv : da.variant = .bytewise) (hS : LmSem da (Ps.map lpOf)) {h : List Nat}
    (hh : ∀ b ∈ h, b < 256) :
    ∃ l, lmAll da h = .ok (l, 0) ∧ l.map (·.1) = specLL Ps h := by
  obtain ⟨hne, hkeys⟩ := lp_valid hV
  exact lmAll_bytewise_spec Ps hS (absLm_eq_bestIn _ hne hkeys) hv h
    (fun b hb' => labelOk_of_bytewise hv (hh b hb'))

theorem bytewise_leftmost_longest_correct (nfb : Nat) (Ps : List (Pat V)) (hV : ValidPats Ps)
    (hbytes : ∀ p ∈ Ps, ∀ b ∈ p.key, b < 256) (da : DA V)
    (hb : buildDA .bytewise ⟨1, nfb⟩ (Ps.map lpOf) = .ok da) (h : List Nat)
    (hh : ∀ b ∈ h, b < 256) :
    ∃ l, lmAll da h = .ok (l, 0) ∧ l.map (·.1) = specLL Ps h :=
  lmAll_of_lmSem_bytewise hV (buildDA_kind_variant _ _ _ _ hb).2
    (build_lmSem_ll .bytewise nfb (Ps.map lpOf) da hb (keysOk_map_lp Ps)
      (fun _ => bytes_map_lp hbytes)) hh

/-- The leftmost-first filter over any carrier: keep an element iff no earlier one has a key that
is a proper prefix of its key. `retainedGo` (byte patterns, Spec.lean) and `retainedLGo` (label
patterns) are instances, so a fact about the filter under a map or a change of keys is proved
once. -/
def retainedBy {α : Type} (key : α → List Nat) : List α → List α → List α
  | _, [] => []
  | earlier, a :: as =>
    if earlier.any (fun b => decide (key b <+: key a ∧ key b ≠ key a)) then
      retainedBy key (earlier ++ [a]) as
    else a :: retainedBy key (earlier ++ [a]) as

theorem retainedGo_eq (e P : List (Pat V)) : retainedGo e P = retainedBy (·.key) e P := by
  induction P generalizing e with
  | nil => rfl
  | cons p ps ih => simp only [retainedGo, retainedBy, ih]

theorem retainedLGo_eq (e P : List (LPat V)) : retainedLGo e P = retainedBy (·.key) e P := by
  induction P generalizing e with
  | nil => rfl
  | cons p ps ih => simp only [retainedLGo, retainedBy, ih]

theorem retainedBy_map {α β : Type} (f : α → β) (key : β → List Nat) (e L : List α) :
    retainedBy key (e.map f) (L.map f) = (retainedBy (fun a => key (f a)) e L).map f := by
  induction L generalizing e with
  | nil => rfl
  | cons a as ih =>
    have := ih (e ++ [a])
    rw [List.map_append, List.map_singleton] at this
    simp only [List.map_cons, retainedBy, List.any_map, Function.comp_def, this]
    split <;> rfl

theorem retainedBy_congr {α : Type} {key key' : α → List Nat} (e L : List α)
    (h : ∀ a ∈ e ++ L, ∀ b ∈ e ++ L,
      (key a <+: key b ∧ key a ≠ key b) ↔ (key' a <+: key' b ∧ key' a ≠ key' b)) :
    retainedBy key e L = retainedBy key' e L := by
  induction L generalizing e with
  | nil => rfl
  | cons a as ih =>
    have ha : a ∈ e ++ a :: as := List.mem_append_right _ List.mem_cons_self
    have hany : e.any (fun b => decide (key b <+: key a ∧ key b ≠ key a))
        = e.any (fun b => decide (key' b <+: key' a ∧ key' b ≠ key' a)) := by
      rw [Bool.eq_iff_iff, List.any_eq_true, List.any_eq_true]
      constructor
      · rintro ⟨b, hb, hd⟩
        exact ⟨b, hb, decide_eq_true ((h b (List.mem_append_left _ hb) a ha).1 (of_decide_eq_true hd))⟩
      · rintro ⟨b, hb, hd⟩
        exact ⟨b, hb, decide_eq_true ((h b (List.mem_append_left _ hb) a ha).2 (of_decide_eq_true hd))⟩
    have ih' := ih (e ++ [a]) (by rw [List.append_assoc]; exact h)
    simp only [retainedBy, hany, ih']

theorem retainedBy_sublist {α : Type} (key : α → List Nat) (e L : List α) :
    List.Sublist (retainedBy key e L) L := by
  induction L generalizing e with
  | nil => exact List.Sublist.refl _
  | cons a as ih =>
    simp only [retainedBy]
    split
    · exact (ih _).trans (List.sublist_cons_self a as)
    · exact (ih _).cons_cons a

theorem retainedL_map_lpOf (Ps : List (Pat V)) :
    retainedL (Ps.map lpOf) = (retained Ps).map lpOf := by
  unfold retainedL retained
  rw [retainedLGo_eq, retainedGo_eq]
  exact retainedBy_map lpOf (·.key) [] Ps

theorem bytewise_leftmost_first_correct (nfb : Nat) (Ps : List (Pat V)) (hV : ValidPats Ps)
    (hbytes : ∀ p ∈ Ps, ∀ b ∈ p.key, b < 256) (da : DA V)
    (hb : buildDA .bytewise ⟨2, nfb⟩ (Ps.map lpOf) = .ok da) (h : List Nat)
    (hh : ∀ b ∈ h, b < 256) :
    ∃ l, lmAll da h = .ok (l, 0) ∧ l.map (·.1) = specLF Ps h := by
  have hS := build_lmSem_lf .bytewise nfb (Ps.map lpOf) da hb (keysOk_map_lp Ps)
    (fun _ => bytes_map_lp hbytes)
  rw [retainedL_map_lpOf] at hS
  rw [specLF_eq_specLL_retained hV]
  exact lmAll_of_lmSem_bytewise (retained_valid hV) (buildDA_kind_variant _ _ _ _ hb).2 hS hh

theorem keysOk_map_charPat (Q : List (List Nat × V)) : keysOk (Q.map charPat) := by
  intro p hp
  obtain ⟨q, _, rfl⟩ := List.mem_map.1 hp
  show (encAll q.1).length = 0 ↔ q.1 = []
  constructor
  · intro h0
    exact List.eq_nil_of_length_eq_zero (Nat.le_zero.1 (h0 ▸ LmIter.length_le_encAll q.1))
  · intro h0; rw [h0]; rfl

theorem charPat_valid {Q : List (List Nat × V)} (hQ : ScalarPats Q) (hnd : (Q.map (·.1)).Nodup) :
    (∀ p ∈ Q.map charPat, p.key ≠ []) ∧ ((Q.map charPat).map (·.key)).Nodup := by
  constructor
  · intro p hp
    obtain ⟨q, hq, rfl⟩ := List.mem_map.1 hp
    exact (hQ q hq).1
  · have : (Q.map charPat).map (·.key) = Q.map (·.1) := by
      simp [charPat, List.map_map, Function.comp_def]
    rw [this]; exact hnd

/-- What the three standard searches need of a char-wise build and a valid-UTF-8 haystack. -/
theorem build_std_charwise {nfb : Nat} {Q : List (List Nat × V)} {da : DA V}
    (hb : buildDA .charwise ⟨0, nfb⟩ (Q.map charPat) = .ok da) {t : List Nat} (ht : Scalars t) :
    StdSem da (Q.map charPat) ∧ (Q.map charPat).length ≤ da.outputs.size ∧
      itemsOfHay da.variant (encAll t) = .ok (charItems t) ∧ ∀ c, LabelOk da c := by
  obtain ⟨hS, hO⟩ := build_stdSem .charwise nfb (Q.map charPat) da hb (keysOk_map_charPat Q)
    (fun h => nomatch h)
  have hv := (buildDA_kind_variant _ _ _ _ hb).2
  exact ⟨hS, hO, hv ▸ itemsOfHay_charwise t ht, labelOk_charwise hv⟩

theorem charwise_overlapping_correct (nfb : Nat) (Q : List (List Nat × V)) (hQ : ScalarPats Q)
    (_hQ0 : Q ≠ []) (_hnd : (Q.map (·.1)).Nodup) (da : DA V)
    (hb : buildDA .charwise ⟨0, nfb⟩ (Q.map charPat) = .ok da) (t : List Nat) (ht : Scalars t) :
    ∃ l fin, ovAll da (encAll t) = .ok (l, fin) ∧
      l.map (·.1) = specOverlapping (Q.map bytePat) (encAll t) := by
  obtain ⟨hS, hO, hI, hL⟩ := build_std_charwise hb ht
  obtain ⟨l, fin, h1, h2⟩ := ovAll_eq_spec hS hI (fun it _ => hL it.label) hO
  exact ⟨l, fin, h1, by rw [h2, specOvItems_chars_eq hQ ht]⟩

theorem charwise_nosuffix_correct (nfb : Nat) (Q : List (List Nat × V)) (hQ : ScalarPats Q)
    (_hQ0 : Q ≠ []) (_hnd : (Q.map (·.1)).Nodup) (da : DA V)
    (hb : buildDA .charwise ⟨0, nfb⟩ (Q.map charPat) = .ok da) (t : List Nat) (ht : Scalars t) :
    ∃ l fin, noSufAll da (encAll t) = .ok (l, fin) ∧
      l.map (·.1) = specNoSuffix (Q.map bytePat) (encAll t) := by
  obtain ⟨hS, _, hI, hL⟩ := build_std_charwise hb ht
  obtain ⟨l, fin, h1, h2⟩ := noSufAll_eq_spec hS hI (fun it _ => hL it.label)
  exact ⟨l, fin, h1, by rw [h2, specNoSufItems_chars_eq hQ ht]⟩

theorem charwise_find_correct (nfb : Nat) (Q : List (List Nat × V)) (hQ : ScalarPats Q)
    (_hQ0 : Q ≠ []) (_hnd : (Q.map (·.1)).Nodup) (da : DA V)
    (hb : buildDA .charwise ⟨0, nfb⟩ (Q.map charPat) = .ok da) (t : List Nat) (ht : Scalars t) :
    ∃ l fin, findAll da (encAll t) = .ok (l, fin) ∧
      l.map (·.1) = specFind (Q.map bytePat) (encAll t) := by
  obtain ⟨hS, _, hI, hL⟩ := build_std_charwise hb ht
  obtain ⟨l, fin, h1, h2⟩ := findAll_eq_spec hS hI (fun it _ => hL it.label)
  exact ⟨l, fin, h1, by rw [h2, specFindItems_chars_eq hQ ht]⟩

theorem lmAll_of_lmSem_charwise {Q : List (List Nat × V)} (hQ : ScalarPats Q)
    (hnd : (Q.map (·.1)).Nodup) {da : DA V} (hv : da.variant = .charwise)
    (hS : LmSem da (Q.map charPat)) {t : List Nat} (ht : Scalars t) :
    ∃ l, lmAll da (encAll t) = .ok (l, 0) ∧ l.map (·.1) = specLL (Q.map bytePat) (encAll t) := by
  obtain ⟨hne, hkeys⟩ := charPat_valid hQ hnd
  obtain ⟨l, h1, h2⟩ := lmAll_spec hS (absLm_eq_bestIn _ hne hkeys) (hv ▸ decodes_charwise t ht)
    (fun it _ => labelOk_charwise hv it.label)
  exact ⟨l, h1, by rw [h2, specLLItems_chars_eq hQ ht]⟩

theorem charwise_leftmost_longest_correct (nfb : Nat) (Q : List (List Nat × V))
    (hQ : ScalarPats Q) (_hQ0 : Q ≠ []) (hnd : (Q.map (·.1)).Nodup) (da : DA V)
    (hb : buildDA .charwise ⟨1, nfb⟩ (Q.map charPat) = .ok da) (t : List Nat) (ht : Scalars t) :
    ∃ l, lmAll da (encAll t) = .ok (l, 0) ∧ l.map (·.1) = specLL (Q.map bytePat) (encAll t) :=
  lmAll_of_lmSem_charwise hQ hnd (buildDA_kind_variant _ _ _ _ hb).2
    (build_lmSem_ll .charwise nfb (Q.map charPat) da hb (keysOk_map_charPat Q)
      (fun h => nomatch h)) ht

#print axioms depth_bound
#print axioms build_layout_full
#print axioms build_stdSem
#print axioms build_lmSem_ll
#print axioms build_lmSem_lf
#print axioms bytewise_overlapping_correct
#print axioms bytewise_nosuffix_correct
#print axioms bytewise_find_correct
#print axioms bytewise_leftmost_longest_correct
#print axioms bytewise_leftmost_first_correct
#print axioms charwise_overlapping_correct
#print axioms charwise_nosuffix_correct
#print axioms charwise_find_correct
#print axioms charwise_leftmost_longest_correct

end Daac
