/-
From the layout interface `LayoutSem` (the double array mirrors the sparse NFA) and the NFA-level
theorems of Props/Builder.lean to the semantic interfaces of Rung 1:
  * `stdSem_of_layout` : `StdSem da P`  (standard kind, `nfa = buildNfa t false`)
  * `lmSem_of_layout`  : `LmSem da P`   (leftmost kinds, `nfa = buildNfa t true`)
Hypotheses besides `LayoutSem`: `TrieSem t P`, `t.Sorted`, every label of a node is `LabelOk`
(bytes for the byte-wise variant, anything for the char-wise one), and the depth bound that makes
the model's loop fuel `states.size + 1` sufficient.
-/
import Daac.Proofs.LayoutIface
import Daac.Props.Builder
import Daac.Proofs.StdSem2
import Daac.Proofs.LmIface
import Daac.Proofs.LmSem
namespace Daac
variable {V : Type} {da : DA V} {t : Trie V} {nfa : Nfa V} {idx : List Nat → Nat}
  {P : List (LPat V)}

theorem hasNode_of_snoc (hS : TrieSem t P) {u : List Nat} {c : Nat}
    (h : t.hasNode (u ++ [c]) = true) : t.hasNode u = true :=
  (hS.nodes u).2 ((nodeList_prefClosed P).closed u c ((hS.nodes _).1 h))

theorem walk_eq_idx (hL : LayoutSem da t nfa idx) (hS : TrieSem t P)
    (hlab : ∀ u, t.hasNode u = true → ∀ c ∈ u, LabelOk da c) :
    ∀ u, t.hasNode u = true → da.walk u = some (idx u) := by
  suffices H : ∀ (n : Nat) (u : List Nat), u.length = n → t.hasNode u = true →
      da.walk u = some (idx u) from fun u => H u.length u rfl
  intro n
  induction n with
  | zero =>
    intro u hlen _
    rw [List.eq_nil_of_length_eq_zero hlen, hL.root]
    rfl
  | succ n ih =>
    intro u' hlen h
    rcases List.eq_nil_or_concat u' with h0 | ⟨u, c, huc⟩
    · rw [h0] at hlen; cases hlen
    rw [List.concat_eq_append] at huc
    subst huc
    rw [List.length_append, List.length_singleton] at hlen
    have hu := hasNode_of_snoc hS h
    have hch := hL.child u hu c (hlab _ h c (List.mem_append_right u (List.mem_singleton_self c)))
    rw [if_pos h] at hch
    exact DA.walk_snoc (ih u (Nat.succ.inj hlen) hu) hch

theorem idx_eq_walk (hL : LayoutSem da t nfa idx) (hS : TrieSem t P)
    (hlab : ∀ u, t.hasNode u = true → ∀ c ∈ u, LabelOk da c) :
    ∀ u, t.hasNode u = true → da.idx u = idx u := by
  intro u hu
  simp [DA.idx, walk_eq_idx hL hS hlab u hu]

theorem idx_eq_of_mem (hL : LayoutSem da t nfa idx) (hS : TrieSem t P)
    (hlab : ∀ u, t.hasNode u = true → ∀ c ∈ u, LabelOk da c) {u : List Nat}
    (hu : u ∈ nodeList P) : da.idx u = idx u :=
  idx_eq_walk hL hS hlab u ((hS.nodes u).2 hu)

theorem layout_idx_root_iff (hL : LayoutSem da t nfa idx) {u : List Nat} (hu : t.hasNode u = true) :
    idx u = rootIdx ↔ u = [] :=
  ⟨fun h => Classical.byContradiction fun hne => (hL.nonroot u hu hne).1 h, fun h => h ▸ hL.root⟩

theorem layout_idx_ne_dead (hL : LayoutSem da t nfa idx) {u : List Nat} (hu : t.hasNode u = true) :
    idx u ≠ deadIdx := by
  by_cases h : u = []
  · rw [h, hL.root]; decide
  · exact (hL.nonroot u hu h).2

theorem layout_child (hL : LayoutSem da t nfa idx) (hS : TrieSem t P) :
    ∀ u ∈ nodeList P, ∀ c, LabelOk da c →
      da.childL (idx u) c = .ok (if u ++ [c] ∈ nodeList P then some (idx (u ++ [c])) else none) := by
  intro u hu c hc
  simp only [hL.child u ((hS.nodes u).2 hu) c hc, hS.nodes]

theorem transSem_of_layout (hL : LayoutSem da t (buildNfa t false) idx) (hS : TrieSem t P) :
    TransSem da P idx where
  root := hL.root
  nonroot u hu hu0 := (hL.nonroot u ((hS.nodes u).2 hu) hu0).1
  child := layout_child hL hS
  fail u hu hu0 := by
    obtain ⟨st, hst, _, hfail⟩ := hL.node u ((hS.nodes u).2 hu)
    have hf := hfail hu0
    simp only [buildNfa, Props.Builder.fails_std t P hS u hu] at hf
    exact ⟨st, hst, hf⟩

theorem out_of_getElem? {p : Nat} {o : Out V} (hp : p ≠ 0)
    (ho : da.outputs[p - 1]? = some o) : da.out p = .ok o := by
  unfold DA.out
  rw [if_neg hp, ho]

theorem chainIs_of_chainList
    (hpar : ∀ i o, da.outputs[i]? = some o → o.parent < i + 1) :
    ∀ (fuel p : Nat), p ≤ fuel → p ≤ da.outputs.size →
      ChainIs da p (chainList da.outputs fuel p) := by
  intro fuel
  induction fuel with
  | zero =>
    intro p h _
    rw [Nat.le_zero.1 h, chainList_zero]; exact ChainIs.nil
  | succ fuel ih =>
    intro p h1 h2
    by_cases hp : p = 0
    · subst hp; rw [chainList_zero]; exact ChainIs.nil
    · have hlt : p - 1 < da.outputs.size := Nat.lt_of_lt_of_le (Nat.pred_lt hp) h2
      have ho : da.outputs[p - 1]? = some da.outputs[p - 1] := Array.getElem?_eq_getElem hlt
      rw [chainList_succ hp ho]
      -- the parent position is smaller, so one unit of fuel less suffices
      have hpl : da.outputs[p - 1].parent ≤ p - 1 := Nat.le_of_lt_succ (hpar _ _ ho)
      exact ChainIs.cons hp (out_of_getElem? hp ho)
        (ih _ (Nat.le_trans hpl (Nat.sub_le_of_le_add h1)) (Nat.le_trans hpl (Nat.le_of_lt hlt)))

theorem chain_ok_of_layout (hL : LayoutSem da t (buildNfa t false) idx) (hS : TrieSem t P)
    (hsort : t.Sorted)
    (hlab : ∀ u, t.hasNode u = true → ∀ c ∈ u, LabelOk da c) :
    ∀ u ∈ nodeList P, ∃ st, da.st (da.idx u) = .ok st ∧
      ChainIs da st.opos ((sufLPats P u).map (fun p => (p.value, p.blen))) := by
  intro u hu
  have hun : t.hasNode u = true := (hS.nodes u).2 hu
  obtain ⟨st, hst, hop, _⟩ := hL.node u hun
  refine ⟨st, by rw [idx_eq_of_mem hL hS hlab hu]; exact hst, ?_⟩
  obtain ⟨hchain, _, hpar⟩ := Props.Builder.outputs_std t P hS hsort
  have hout : da.outputs = (buildOutAcc t (buildFailMap t false)).outs := hL.outputs
  simp only [buildNfa] at hop
  rw [← hchain u hu, hop, ← hout]
  apply chainIs_of_chainList
  · rw [hout]; exact hpar
  · rw [hout]; exact Nat.le_succ_of_le (oposStd_le hS hsort u)
  · rw [hout]; exact oposStd_le hS hsort u

theorem stdSem_of_layout (hL : LayoutSem da t (buildNfa t false) idx) (hS : TrieSem t P)
    (hsort : t.Sorted)
    (hlab : ∀ u, t.hasNode u = true → ∀ c ∈ u, LabelOk da c)
    (hD : ∀ u, t.hasNode u = true → u.length < da.states.size) : StdSem da P where
  root := rfl
  next_ok u hu c hc := by
    rw [idx_eq_of_mem hL hS hlab hu,
      idx_eq_of_mem hL hS hlab (lsuf_mem_nodeList P (u ++ [c]))]
    exact (transSem_of_layout hL hS).next_ok (fun u hu => hD u ((hS.nodes u).2 hu)) hu hc
  chain_ok := chain_ok_of_layout hL hS hsort hlab

/-- A non-dead leftmost fail link is the ordinary one. -/
theorem failChar_node {fm : FailMap} (hF : FailChar P fm) {u f : List Nat}
    (hu : u ∈ nodeList P) (hu0 : u ≠ []) (hf : fm.get u = .node f) :
    f = lps (nodeList P) u := by
  have h := hF u hu hu0
  rw [hf] at h
  split at h
  · split at h
    · cases h
    · cases h; rfl
  · cases h; rfl

theorem nextLoopLm_layout (hL : LayoutSem da t (buildNfa t true) idx) (hS : TrieSem t P)
    (hsort : t.Sorted) {c cc : Nat}
    (hc : LabelOk da c) (hcc : da.code c = some cc) :
    ∀ (fuel : Nat) (u : List Nat), u ∈ nodeList P → u.length < fuel → ∀ k,
      ∃ k', da.nextLoopLm fuel (idx u) cc k
        = .ok (idx (nfaNextLm t (buildFailMap t true) fuel u c), k') := by
  intro fuel
  induction fuel with
  | zero => intro u _ h; exact absurd h (Nat.not_lt_zero _)
  | succ fuel ih =>
    intro u hu hlen k
    have hun : t.hasNode u = true := (hS.nodes u).2 hu
    rw [DA.nextLoopLm, nfaNextLm, child_eq_childL hcc, hL.child u hun c hc]
    by_cases hm : t.hasNode (u ++ [c]) = true
    · rw [if_pos hm, if_pos hm]
      exact ⟨k + 1, rfl⟩
    · rw [if_neg hm, if_neg hm]
      by_cases hu0 : u = []
      · rw [hu0, hL.root, if_pos rfl, if_pos rfl, hL.root]
        exact ⟨k + 1, rfl⟩
      · obtain ⟨st, hst, _, hfail⟩ := hL.node u hun
        have hfail := hfail hu0
        simp only [buildNfa] at hfail
        simp only [if_neg (hL.nonroot u hun hu0).1, if_neg hu0, hst]
        cases hf : (buildFailMap t true).get u with
        | dead =>
          rw [hf] at hfail
          simp only [show st.fail = deadIdx from hfail, if_true, hL.root]
          exact ⟨k + 1, rfl⟩
        | node f =>
          rw [hf] at hfail
          simp only at hfail
          have hfe := failChar_node (Props.Builder.fails_leftmost t P hS hsort) hu hu0 hf
          obtain ⟨hv, hvl⟩ := lps_mem_lt (P := P) hu0
          rw [← hfe] at hv hvl
          have hnd : idx f ≠ deadIdx := layout_idx_ne_dead hL ((hS.nodes f).2 hv)
          simp only [hfail, hnd, if_false]
          exact ih f hv (Nat.lt_of_lt_of_le hvl (Nat.le_of_lt_succ hlen)) (k + 1)

theorem deltaL_of_lsuf_nil {u : List Nat} {c : Nat}
    (h : lsuf (nodeList P) (u ++ [c]) = []) : deltaL P u c = [] := by
  unfold deltaL
  rw [h]
  cases hb : bestIn P u 0 with
  | none => rfl
  | some sp =>
    obtain ⟨s, p⟩ := sp
    simp

theorem nextLm_ok_of_layout (hL : LayoutSem da t (buildNfa t true) idx) (hS : TrieSem t P)
    (hsort : t.Sorted)
    (hlab : ∀ u, t.hasNode u = true → ∀ c ∈ u, LabelOk da c)
    (hD : ∀ u, t.hasNode u = true → u.length < da.states.size) :
    ∀ u ∈ nodeList P, ∀ c, LabelOk da c →
      da.nextLm (da.idx u) c = .ok (da.idx (deltaL P u c)) := by
  classical
  intro u hu c hc
  rw [idx_eq_of_mem hL hS hlab hu, idx_eq_of_mem hL hS hlab (delta_node_of_nodeList P u c)]
  cases hcc : da.code c with
  | none =>
    rw [deltaL_of_lsuf_nil (lsuf_snoc_unmapped (layout_child hL hS) u hcc), hL.root]
    simp [DA.nextLm, DA.nextLmS, hcc, Except.map]
  | some cc =>
    have hlen : u.length < da.fuel := Nat.lt_succ_of_lt (hD u ((hS.nodes u).2 hu))
    obtain ⟨k', hk'⟩ := nextLoopLm_layout hL hS hsort hc hcc da.fuel u hu hlen 0
    rw [Props.Builder.transition_leftmost t P hS hsort u hu c da.fuel hlen] at hk'
    simp [DA.nextLm, DA.nextLmS, hcc, hk', Except.map]

theorem out_ok_of_layout (hL : LayoutSem da t (buildNfa t true) idx) (hS : TrieSem t P)
    (hsort : t.Sorted)
    (hlab : ∀ u, t.hasNode u = true → ∀ c ∈ u, LabelOk da c) :
    ∀ u ∈ nodeList P, ∃ st, da.st (da.idx u) = .ok st ∧
      (match oposL P u with
       | some p => st.opos ≠ 0 ∧ ∃ o, da.out st.opos = .ok o ∧ o.value = p.value ∧ o.length = p.blen
       | none => st.opos = 0) := by
  intro u hu
  have hun : t.hasNode u = true := (hS.nodes u).2 hu
  obtain ⟨st, hst, hop, _⟩ := hL.node u hun
  refine ⟨st, by rw [idx_eq_of_mem hL hS hlab hu]; exact hst, ?_⟩
  have hout : da.outputs = (buildOutAcc t (buildFailMap t true)).outs := hL.outputs
  simp only [buildNfa] at hop
  have h := Props.Builder.outputs_leftmost t P hS hsort u hu
  rw [← hop, ← hout] at h
  cases ho : oposL P u with
  | none => rw [ho] at h; exact h
  | some p =>
    rw [ho] at h
    obtain ⟨h0, o, hoo, hv, hl⟩ := h
    exact ⟨h0, o, out_of_getElem? h0 hoo, hv, hl⟩

theorem lmSem_of_layout (hL : LayoutSem da t (buildNfa t true) idx) (hS : TrieSem t P)
    (hsort : t.Sorted)
    (hlab : ∀ u, t.hasNode u = true → ∀ c ∈ u, LabelOk da c)
    (hD : ∀ u, t.hasNode u = true → u.length < da.states.size) : LmSem da P where
  root := rfl
  idx_root_iff := fun u hu => by
    rw [idx_eq_of_mem hL hS hlab hu]
    exact layout_idx_root_iff hL ((hS.nodes u).2 hu)
  next_ok := nextLm_ok_of_layout hL hS hsort hlab hD
  delta_node := fun u _ c => by
    classical
    exact delta_node_of_nodeList P u c
  out_ok := out_ok_of_layout hL hS hsort hlab

/-- Variants with the NFA as a variable and an equation. -/
theorem stdSem_of_layout' (hnfa : nfa = buildNfa t false)
    (hL : LayoutSem da t nfa idx) (hS : TrieSem t P) (hsort : t.Sorted)
    (hlab : ∀ u, t.hasNode u = true → ∀ c ∈ u, LabelOk da c)
    (hD : ∀ u, t.hasNode u = true → u.length < da.states.size) : StdSem da P := by
  subst hnfa; exact stdSem_of_layout hL hS hsort hlab hD

theorem lmSem_of_layout' (hnfa : nfa = buildNfa t true)
    (hL : LayoutSem da t nfa idx) (hS : TrieSem t P) (hsort : t.Sorted)
    (hlab : ∀ u, t.hasNode u = true → ∀ c ∈ u, LabelOk da c)
    (hD : ∀ u, t.hasNode u = true → u.length < da.states.size) : LmSem da P := by
  subst hnfa; exact lmSem_of_layout hL hS hsort hlab hD

#print axioms idx_eq_walk
#print axioms stdSem_of_layout
#print axioms lmSem_of_layout

end Daac
