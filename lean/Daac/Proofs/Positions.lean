/-
The entry point `build` (values = input positions): `convAll` succeeds iff every position
converts; the resulting collection has the same keys, and the i-th pattern carries `conv i`.
-/
import Daac.Model.Build
import Daac.Proofs.TrieFacts
import Daac.Proofs.BuildCor
namespace Daac
variable {V : Type}

theorem convAll_some (conv : Nat → Option V) (K : List (List Nat × Nat)) (i : Nat) (P : List (LPat V))
    (h : convAll conv i K = some P) :
    P.length = K.length ∧ P.map (fun p => (p.key, p.blen)) = K ∧
      ∀ j (hj : j < P.length), conv (i + j) = some (P[j]).value := by
  revert h
  fun_induction convAll conv i K generalizing P <;> intro h
  case case1 =>
    obtain rfl := Option.some.inj h
    exact ⟨rfl, rfl, nofun⟩
  case case4 i k b r v hc P' hr ih =>
    obtain rfl := Option.some.inj h
    obtain ⟨h1, h2, h4⟩ := ih P' hr
    refine ⟨congrArg (· + 1) h1, congrArg ((k, b) :: ·) h2, fun j hj => ?_⟩
    cases j with
    | zero => exact hc
    | succ j =>
      have := h4 j (Nat.lt_of_succ_lt_succ hj)
      rw [Nat.add_assoc, Nat.add_comm 1 j] at this
      exact this
  all_goals cases h

theorem convAll_none_iff (conv : Nat → Option V) (K : List (List Nat × Nat)) (i : Nat) :
    convAll conv i K = none ↔ ∃ j, j < K.length ∧ conv (i + j) = none := by
  induction K generalizing i with
  | nil => exact ⟨nofun, fun ⟨_, hj, _⟩ => absurd hj (Nat.not_lt_zero _)⟩
  | cons kb r ih =>
    obtain ⟨k, b⟩ := kb
    -- position `i` fails, or a later one does
    have e := ih (i + 1)
    simp only [Nat.add_assoc, Nat.add_comm 1] at e
    rw [List.length_cons, Nat.exists_lt_succ_left, Nat.add_zero, ← e]
    simp only [convAll]
    cases conv i with
    | none => exact ⟨fun _ => Or.inl rfl, fun _ => rfl⟩
    | some v =>
      cases convAll conv (i + 1) r with
      | none => exact ⟨fun _ => Or.inr rfl, fun _ => rfl⟩
      | some P' => exact ⟨nofun, fun h => h.elim nofun nofun⟩

/-- `build` fails with `InvalidConversion` exactly when some position does not convert — before
anything else is looked at (so also for collections that are invalid in other ways). -/
theorem buildPositions_conv_err_iff (conv : Nat → Option V) (variant : Variant) (cfg : Cfg)
    (K : List (List Nat × Nat))
    (hno : ∀ P : List (LPat V), buildDA variant cfg P ≠ .error .invalidConversion) :
    buildPositions conv variant cfg K = .error .invalidConversion ↔
      ∃ j, j < K.length ∧ conv j = none := by
  have hiff := convAll_none_iff conv K 0
  simp only [Nat.zero_add] at hiff
  rw [← hiff]
  unfold buildPositions
  cases convAll conv 0 K with
  | none => exact ⟨fun _ => rfl, fun _ => rfl⟩
  | some P => exact ⟨fun h => absurd h (hno P), nofun⟩

theorem buildPositions_eq (conv : Nat → Option V) (variant : Variant) (cfg : Cfg)
    (K : List (List Nat × Nat)) (hall : ∀ j, j < K.length → conv j ≠ none) :
    ∃ P : List (LPat V), buildPositions conv variant cfg K = buildDA variant cfg P ∧
      P.length = K.length ∧ P.map (fun p => (p.key, p.blen)) = K ∧
      ∀ j (hj : j < P.length), conv j = some (P[j]).value := by
  unfold buildPositions
  cases hc : convAll conv 0 K with
  | none =>
    obtain ⟨j, hj, hn⟩ := (convAll_none_iff conv K 0).mp hc
    rw [Nat.zero_add] at hn
    exact absurd hn (hall j hj)
  | some P =>
    obtain ⟨h1, h2, h4⟩ := convAll_some conv K 0 P hc
    exact ⟨P, rfl, h1, h2, fun j hj => by rw [← h4 j hj, Nat.zero_add]⟩

#print axioms buildPositions_conv_err_iff
#print axioms buildPositions_eq
end Daac
