/-
Order independence of the pattern-insertion phase (`Daac/Model/Trie.lean`) for the standard and
leftmost-longest semantics (`kind ≠ 2`, i.e. `lf = false`): building from any permutation of the
same pattern list yields the same trie (structurally), and fails in one order iff it fails in the
other. A counter-example shows that leftmost-first (`kind = 2`) has to be excluded.
-/
import Daac.Proofs.TrieFacts
namespace Daac

variable {V : Type}

/-- Every label of `k` is larger than `l` (stated on the head; enough together with `Ordered`). -/
def Kids.Above (l : Nat) : Kids V → Prop
  | .nil => True
  | .cons l' _ _ => l < l'

mutual
def Trie.Ordered : Trie V → Prop
  | .node _ kids => kids.Ordered
def Kids.Ordered : Kids V → Prop
  | .nil => True
  | .cons l t r => t.Ordered ∧ r.Above l ∧ r.Ordered
end

/-- In a sorted list the head label is the least, so a bound on it bounds all labels. -/
theorem Kids.above_iff_of_sorted (l : Nat) (k : Kids V) (hk : k.Sorted) :
    k.Above l ↔ ∀ l' ∈ k.labels, l < l' := by
  cases k with
  | nil => exact ⟨fun _ _ h => (nomatch h), fun _ => trivial⟩
  | cons l1 _ r =>
    refine ⟨fun h l' hl' => ?_, fun h => h l1 List.mem_cons_self⟩
    rcases List.mem_cons.mp hl' with rfl | hl'
    · exact h
    · exact Nat.lt_trans h (hk.2.2 l' hl')

theorem ordered_iff_sorted :
    (∀ t : Trie V, t.Ordered ↔ t.Sorted) ∧ ∀ k : Kids V, k.Ordered ↔ k.Sorted := by
  refine Trie.induction (fun _ _ ih => ih) Iff.rfl ?_
  intro l t r iht ihr
  simp only [Kids.Ordered, Kids.Sorted, iht, ihr]
  constructor
  · rintro ⟨h1, h2, h3⟩
    exact ⟨h1, h3, (Kids.above_iff_of_sorted l r h3).mp h2⟩
  · rintro ⟨h1, h2, h3⟩
    exact ⟨h1, (Kids.above_iff_of_sorted l r h2).mpr h3, h2⟩

theorem Trie.ordered_empty : (Trie.empty : Trie V).Ordered := trivial

theorem Trie.ordered_insert (lf : Bool) (o : V × Nat) :
    (key : List Nat) → (t t' : Trie V) → Trie.insert lf o t key = .ok t' → t.Ordered → t'.Ordered :=
  fun key t t' h hs => (ordered_iff_sorted.1 t').mpr
    (Trie.sorted_insert lf o key t t' ((ordered_iff_sorted.1 t).mp hs) h)

theorem Kids.ext_of_sorted (k1 k2 : Kids V) (h1 : k1.Sorted) (h2 : k2.Sorted)
    (h : ∀ c, k1.find? c = k2.find? c) : k1 = k2 := by
  -- a label below the head of a sorted list is not found in it
  have low : ∀ {l t r} {c : Nat}, (∀ l' ∈ r.labels, l < l') → c < l →
      (Kids.cons l t r : Kids V).find? c = none := fun {l t r c} b hc =>
    Kids.find?_eq_none _ c fun hm => by
      rcases List.mem_cons.mp hm with rfl | hm
      · exact Nat.lt_irrefl _ hc
      · exact Nat.lt_asymm hc (b c hm)
  induction k1 using Kids.induction generalizing k2 with
  | nil =>
    cases k2 with
    | nil => rfl
    | cons l t r => exact nomatch (h l).trans (Kids.find?_cons_self l t r)
  | cons l1 t1 r1 ih =>
    cases k2 with
    | nil => exact nomatch (h l1).symm.trans (Kids.find?_cons_self l1 t1 r1)
    | cons l2 t2 r2 =>
      obtain ⟨_, s1, b1⟩ := h1
      obtain ⟨_, s2, b2⟩ := h2
      have e1 := (Kids.find?_cons_self l1 t1 r1).symm.trans (h l1)
      have e2 := (h l2).trans (Kids.find?_cons_self l2 t2 r2)
      -- so the two heads carry the same label, hence the same child
      obtain rfl : l1 = l2 := by
        rcases Nat.lt_trichotomy l1 l2 with hlt | heq | hgt
        · exact nomatch e1.trans (low b2 hlt)
        · exact heq
        · exact nomatch e2.symm.trans (low b1 hgt)
      cases e1.trans (Kids.find?_cons_self l1 t2 r2)
      -- and the rests agree: at the head label neither finds anything, elsewhere `h` applies
      rw [ih r2 s1 s2 fun c => by
        by_cases hc : l1 = c
        · subst hc
          rw [Kids.find?_eq_none r1 l1 fun hm => Nat.lt_irrefl _ (b1 _ hm),
            Kids.find?_eq_none r2 l1 fun hm => Nat.lt_irrefl _ (b2 _ hm)]
        · rw [← Kids.find?_cons_ne hc t1 r1, ← Kids.find?_cons_ne hc t1 r2]
          exact h c]

theorem Kids.ext_of_ordered (k1 k2 : Kids V) (h1 : k1.Ordered) (h2 : k2.Ordered)
    (h : ∀ c, k1.find? c = k2.find? c) : k1 = k2 :=
  Kids.ext_of_sorted k1 k2 ((ordered_iff_sorted.2 k1).mp h1) ((ordered_iff_sorted.2 k2).mp h2) h

theorem Trie.ext_of_ordered (t1 t2 : Trie V) (h1 : t1.Ordered) (h2 : t2.Ordered)
    (hout : t1.out = t2.out) (hk : ∀ c, t1.kids.find? c = t2.kids.find? c) : t1 = t2 := by
  obtain ⟨o1, k1⟩ := t1
  obtain ⟨o2, k2⟩ := t2
  cases (show o1 = o2 from hout)
  rw [Kids.ext_of_ordered k1 k2 h1 h2 hk]

theorem Trie.insert_false_ne_shadowed (o : V × Nat) (key : List Nat) (t : Trie V) :
    Trie.insert false o t key ≠ .shadowed :=
  fun h => nomatch ((Trie.insert_eq_shadowed_iff false o t key).mp h).1

theorem Trie.insert_false_again (o1 o2 : V × Nat) (key : List Nat) (t t1 : Trie V)
    (h : Trie.insert false o1 t key = .ok t1) : Trie.insert false o2 t1 key = .dup :=
  (Trie.insert_eq_dup_iff false o2 t1 key).mpr
    ⟨fun hs => (nomatch hs.1), (Trie.insert_ok_isRegistered false o1 key t t1 key h).mpr (Or.inr rfl)⟩

theorem Trie.insert_false_cons_ok_iff (o : V × Nat) (out : Option (V × Nat)) (kids : Kids V)
    (c : Nat) (cs : List Nat) (t' : Trie V) :
    Trie.insert false o (.node out kids) (c :: cs) = .ok t' ↔
      ∃ s, Trie.insert false o ((kids.find? c).getD Trie.empty) cs = .ok s ∧
        t' = .node out (kids.set c s) := by
  rw [Trie.insert_cons_ok_iff, Bool.false_and, eq_self_iff_true, true_and]

/-- No ordering hypothesis is needed: `Kids.set` commutes on arbitrary children lists. -/
theorem Trie.insert_false_comm (o1 o2 : V × Nat) (k1 k2 : List Nat) (t t1 t12 : Trie V)
    (hne : k1 ≠ k2) (h1 : Trie.insert false o1 t k1 = .ok t1)
    (h2 : Trie.insert false o2 t1 k2 = .ok t12) :
    ∃ t2, Trie.insert false o2 t k2 = .ok t2 ∧ Trie.insert false o1 t2 k1 = .ok t12 := by
  induction k1 generalizing k2 t t1 t12 with
  | nil =>
    obtain ⟨out, kids⟩ := t
    obtain ⟨rfl, rfl⟩ := (Trie.insert_nil_ok_iff ..).mp h1
    cases k2 with
    | nil => exact absurd rfl hne
    | cons c cs =>
      -- one key ends here: it only sets the output, the other only changes a child
      obtain ⟨s, hs, rfl⟩ := (Trie.insert_false_cons_ok_iff ..).mp h2
      exact ⟨_, (Trie.insert_false_cons_ok_iff ..).mpr ⟨s, hs, rfl⟩,
        (Trie.insert_nil_ok_iff ..).mpr ⟨rfl, rfl⟩⟩
  | cons c1 cs1 ih =>
    obtain ⟨out, kids⟩ := t
    obtain ⟨s1, hs1, rfl⟩ := (Trie.insert_false_cons_ok_iff ..).mp h1
    cases k2 with
    | nil =>
      obtain ⟨rfl, rfl⟩ := (Trie.insert_nil_ok_iff ..).mp h2
      exact ⟨_, (Trie.insert_nil_ok_iff ..).mpr ⟨rfl, rfl⟩,
        (Trie.insert_false_cons_ok_iff ..).mpr ⟨s1, hs1, rfl⟩⟩
    | cons c2 cs2 =>
      obtain ⟨s2, hs2, rfl⟩ := (Trie.insert_false_cons_ok_iff ..).mp h2
      by_cases hc : c1 = c2
      · -- same child: commute below it, and the second update of the child overwrites the first
        subst hc
        rw [Kids.find?_set_self, Option.getD_some] at hs2
        obtain ⟨u, hu1, hu2⟩ := ih cs2 _ s1 s2 (fun e => hne (e ▸ rfl)) hs1 hs2
        refine ⟨_, (Trie.insert_false_cons_ok_iff ..).mpr ⟨u, hu1, rfl⟩,
          (Trie.insert_false_cons_ok_iff ..).mpr ⟨s2, ?_, ?_⟩⟩
        · rw [Kids.find?_set_self, Option.getD_some]
          exact hu2
        · rw [Kids.set_set, Kids.set_set]
      · -- different children: neither insertion sees the other's child, and the updates commute
        rw [Kids.find?_set_ne _ _ _ _ (Ne.symm hc)] at hs2
        refine ⟨_, (Trie.insert_false_cons_ok_iff ..).mpr ⟨s2, hs2, rfl⟩,
          (Trie.insert_false_cons_ok_iff ..).mpr ⟨s1, ?_, ?_⟩⟩
        · rw [Kids.find?_set_ne _ _ _ _ hc]
          exact hs1
        · rw [Kids.set_comm _ _ _ _ _ hc]

theorem Trie.insert_false_comm' (o1 o2 : V × Nat) (k1 k2 : List Nat) (t t1 t12 : Trie V)
    (_ht : t.Ordered) (hne : k1 ≠ k2)
    (h1 : Trie.insert false o1 t k1 = .ok t1) (h2 : Trie.insert false o2 t1 k2 = .ok t12) :
    ∃ t2 t21, Trie.insert false o2 t k2 = .ok t2 ∧ Trie.insert false o1 t2 k1 = .ok t21 ∧
      t12 = t21 := by
  obtain ⟨t2, a, b⟩ := Trie.insert_false_comm o1 o2 k1 k2 t t1 t12 hne h1 h2
  exact ⟨t2, t12, a, b, rfl⟩

theorem NfaAcc.add_false_cases (a : NfaAcc V) (p : LPat V) :
    (p.blen = 0 ∧ NfaAcc.add false a p = .error .invalidArgument) ∨
    (p.blen ≠ 0 ∧ Trie.insert false (p.value, p.blen) a.trie p.key = .dup ∧
      NfaAcc.add false a p = .error .duplicatePattern) ∨
    (p.blen ≠ 0 ∧ ∃ t, Trie.insert false (p.value, p.blen) a.trie p.key = .ok t ∧
      NfaAcc.add false a p = .ok { a with trie := t, len := a.len + 1 }) := by
  by_cases hb : p.blen = 0
  · exact Or.inl ⟨hb, NfaAcc.add_of_blen_zero hb⟩
  · cases h : Trie.insert false (p.value, p.blen) a.trie p.key with
    | ok t => exact Or.inr (Or.inr ⟨hb, t, rfl, NfaAcc.add_of_ok hb h⟩)
    | dup => exact Or.inr (Or.inl ⟨hb, rfl, NfaAcc.add_of_dup hb h⟩)
    | shadowed => exact absurd h (Trie.insert_false_ne_shadowed _ _ _)

theorem NfaAcc.add_false_ok_iff (a a' : NfaAcc V) (p : LPat V) :
    NfaAcc.add false a p = .ok a' ↔
      p.blen ≠ 0 ∧ ∃ t, Trie.insert false (p.value, p.blen) a.trie p.key = .ok t ∧
        a' = { a with trie := t, len := a.len + 1 } := by
  constructor
  · intro h
    rcases NfaAcc.add_false_cases a p with ⟨_, e⟩ | ⟨_, _, e⟩ | ⟨hb, t, ht, e⟩
    · exact nomatch e.symm.trans h
    · exact nomatch e.symm.trans h
    · exact ⟨hb, t, ht, (Except.ok.inj (e.symm.trans h)).symm⟩
  · rintro ⟨hb, t, ht, rfl⟩
    exact NfaAcc.add_of_ok hb ht

theorem NfaAcc.add_false_swap (a a' a'' : NfaAcc V) (x y : LPat V)
    (h1 : NfaAcc.add false a x = .ok a') (h2 : NfaAcc.add false a' y = .ok a'') :
    ∃ b', NfaAcc.add false a y = .ok b' ∧ NfaAcc.add false b' x = .ok a'' := by
  obtain ⟨hx, t1, ht1, rfl⟩ := (NfaAcc.add_false_ok_iff ..).mp h1
  obtain ⟨hy, t12, ht12, rfl⟩ := (NfaAcc.add_false_ok_iff ..).mp h2
  -- the keys differ: the same key a second time would have been a duplicate
  have hne : x.key ≠ y.key := fun e => by
    rw [← e, Trie.insert_false_again _ _ _ _ _ ht1] at ht12
    cases ht12
  obtain ⟨t2, ha, hb⟩ := Trie.insert_false_comm _ _ _ _ _ _ _ hne ht1 ht12
  exact ⟨{ a with trie := t2, len := a.len + 1 }, (NfaAcc.add_false_ok_iff ..).mpr ⟨hy, t2, ha, rfl⟩,
    (NfaAcc.add_false_ok_iff ..).mpr ⟨hx, t12, hb, rfl⟩⟩

theorem NfaAcc.addAll_cons_ok_iff (lf : Bool) (a a1 : NfaAcc V) (p : LPat V) (ps : List (LPat V)) :
    NfaAcc.addAll lf a (p :: ps) = .ok a1 ↔
      ∃ a', NfaAcc.add lf a p = .ok a' ∧ NfaAcc.addAll lf a' ps = .ok a1 := by
  cases h : NfaAcc.add lf a p with
  | error e => simp [NfaAcc.addAll_cons_of_error ps h]
  | ok a' => simp [NfaAcc.addAll_cons_of_ok ps h]

theorem NfaAcc.addAll_false_perm_ok {P P' : List (LPat V)} (hperm : P.Perm P') :
    ∀ (a a1 : NfaAcc V), NfaAcc.addAll false a P = .ok a1 → NfaAcc.addAll false a P' = .ok a1 := by
  induction hperm with
  | nil => intro a a1 h; exact h
  | cons x _ ih =>
    intro a a1 h
    rw [NfaAcc.addAll_cons_ok_iff] at h ⊢
    obtain ⟨a', h1, h2⟩ := h
    exact ⟨a', h1, ih a' a1 h2⟩
  | swap x y l =>
    intro a a1 h
    simp only [NfaAcc.addAll_cons_ok_iff] at h ⊢
    obtain ⟨a', h1, a'', h2, h⟩ := h
    obtain ⟨b', g1, g2⟩ := NfaAcc.add_false_swap a a' a'' y x h1 h2
    exact ⟨b', g1, a'', g2, h⟩
  | trans _ _ ih1 ih2 => intro a a1 h; exact ih2 a a1 (ih1 a a1 h)

theorem NfaAcc.addAll_false_perm_ok_iff {P P' : List (LPat V)} (hperm : P.Perm P')
    (a a1 : NfaAcc V) :
    NfaAcc.addAll false a P = .ok a1 ↔ NfaAcc.addAll false a P' = .ok a1 :=
  ⟨NfaAcc.addAll_false_perm_ok hperm a a1, NfaAcc.addAll_false_perm_ok hperm.symm a a1⟩

theorem Except.exists_error_iff {ε α : Type} {x y : Except ε α} (h : ∀ a, x = .ok a ↔ y = .ok a) :
    (∃ e, x = .error e) ↔ (∃ e, y = .error e) := by
  cases x with
  | ok a => cases (h a).mp rfl; simp
  | error e =>
    cases y with
    | ok b => exact nomatch (h b).mpr rfl
    | error e' => simp

/-- The error *kind* may differ when the list has several defects (e.g. an empty pattern and a
duplicate: whichever comes first is reported). The hypothesis `_ha` is not needed: `Kids.set`
commutes on arbitrary children lists. -/
theorem addAll_perm (P P' : List (LPat V)) (hperm : P.Perm P') (a : NfaAcc V)
    (_ha : a.trie.Ordered) :
    (∀ a1, NfaAcc.addAll false a P = .ok a1 →
      ∃ a2, NfaAcc.addAll false a P' = .ok a2 ∧ a2.trie = a1.trie ∧ a2.len = a1.len) ∧
    ((∃ e, NfaAcc.addAll false a P = .error e) ↔ (∃ e, NfaAcc.addAll false a P' = .error e)) :=
  ⟨fun a1 h => ⟨a1, NfaAcc.addAll_false_perm_ok hperm a a1 h, rfl, rfl⟩,
   Except.exists_error_iff (NfaAcc.addAll_false_perm_ok_iff hperm a)⟩

/-- Construction is independent of the input order for standard and leftmost-longest semantics. -/
theorem buildTrie_perm (kind : Nat) (hk : kind ≠ 2) (P P' : List (LPat V)) (h : P.Perm P')
    (t : Trie V) : buildTrie kind P = .ok t → buildTrie kind P' = .ok t := by
  intro hb
  obtain ⟨a, ha, hl, rfl⟩ := addAll_of_buildTrie hb
  rw [beq_false_of_ne hk] at ha
  refine buildTrie_of_addAll ?_ hl
  rw [beq_false_of_ne hk]
  exact NfaAcc.addAll_false_perm_ok h _ a ha

theorem buildTrie_perm_iff (kind : Nat) (hk : kind ≠ 2) (P P' : List (LPat V)) (h : P.Perm P')
    (t : Trie V) : buildTrie kind P = .ok t ↔ buildTrie kind P' = .ok t :=
  ⟨buildTrie_perm kind hk P P' h t, buildTrie_perm kind hk P' P h.symm t⟩

theorem buildTrie_perm_error_iff (kind : Nat) (hk : kind ≠ 2) (P P' : List (LPat V))
    (h : P.Perm P') :
    (∃ e, buildTrie kind P = .error e) ↔ (∃ e, buildTrie kind P' = .error e) :=
  Except.exists_error_iff (buildTrie_perm_iff kind hk P P' h)

/-- Keys `[1]` and `[1,2]`: in the order (`[1]`, `[1,2]`) the second pattern is shadowed and creates
no node (2 nodes); in the order (`[1,2]`, `[1]`) both are registered (3 nodes). -/
example :
    let p : LPat Nat := ⟨[1], 1, 0⟩
    let q : LPat Nat := ⟨[1, 2], 2, 1⟩
    [p, q].Perm [q, p] ∧
    (buildTrie 2 [p, q]).toOption.map Trie.size = some 2 ∧
    (buildTrie 2 [q, p]).toOption.map Trie.size = some 3 := by
  refine ⟨List.Perm.swap _ _ _, ?_, ?_⟩ <;> decide

theorem buildTrie_perm_fails_for_leftmost_first :
    ∃ (P P' : List (LPat Nat)), P.Perm P' ∧ buildTrie 2 P ≠ buildTrie 2 P' := by
  refine ⟨[⟨[1], 1, 0⟩, ⟨[1, 2], 2, 1⟩], [⟨[1, 2], 2, 1⟩, ⟨[1], 1, 0⟩], List.Perm.swap _ _ _, ?_⟩
  intro h
  have h' := congrArg (fun r => r.toOption.map Trie.size) h
  revert h'
  decide

/-- The same two orders do agree for `kind ≠ 2` (instance of `buildTrie_perm`, checked directly). -/
example :
    (buildTrie 0 [(⟨[1], 1, 0⟩ : LPat Nat), ⟨[1, 2], 2, 1⟩]).toOption.map Trie.size = some 3 ∧
    (buildTrie 0 [(⟨[1, 2], 2, 1⟩ : LPat Nat), ⟨[1], 1, 0⟩]).toOption.map Trie.size = some 3 := by
  decide

end Daac

#print axioms Daac.buildTrie_perm
#print axioms Daac.addAll_perm
#print axioms Daac.Trie.insert_false_comm
#print axioms Daac.Kids.ext_of_ordered
#print axioms Daac.Trie.ordered_insert
#print axioms Daac.buildTrie_perm_fails_for_leftmost_first
