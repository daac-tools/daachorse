/-
Translation tie, the entry point `build` of both builders: the generated
`DoubleArrayAhoCorasickBuilder::build` / `CharwiseDoubleArrayAhoCorasickBuilder::build`
(tools/top2lean.py → Gen/BuildTopB.lean `TB.Builder.build`, Gen/BuildTopC.lean `TC.Builder.build`, with the
generated meaning `enumTryCollect` of
`into_iter().enumerate().map(|(i, p)| V::try_from(i).map(|i| (p, i))).collect::<Result<_, _>>()`)
against the model `convAll` / `buildPositions` (Model/Build.lean).  Here: the facts about the collection step;
Props/TieTopBuild.lean composes them with `Tie.Top.generated_build_with_values_eq_buildDA_full` and
`Tie.TopC.generated_build_with_values_eq_buildDA_charwise`.
-/
import Daac.Proofs.TieTopC
namespace Daac.Tie.TopBuild
open Daac Daac.Gen Daac.Tie.H Daac.Tie.F Daac.Tie.Top Daac.Tie.TopC

variable {V : Type}

/-- The inputs of `buildPositions` for byte patterns: a pattern is its own key, its byte length is its length. -/
def keysB (pats : List (List Nat)) : List (List Nat × Nat) := pats.map fun p => (p, p.length)

/-- The inputs of `buildPositions` for `str` patterns (lists of code points): the byte length is the sum of the
UTF-8 widths. -/
def keysC (pats : List (List Nat)) : List (List Nat × Nat) := pats.map fun p => (p, (p.map Rs.lenUtf8).sum)

/-- The two generated copies of the helper (one per unit) are the same function. -/
theorem tc_eq_tb {P : Type} (conv : Nat → Option V) (l : List P) (i : Nat) :
    TC.enumTryCollect conv i l = TB.enumTryCollect conv i l := by
  fun_induction TB.enumTryCollect conv i l <;> simp only [TC.enumTryCollect, *]

/-- Read at the label level (pattern ↦ `LPat` with its byte length `bl`), the generated collection step is the
model's `convAll` on the (key, blen) inputs of `buildPositions`. -/
theorem collect_eq_convAll_gen (bl : List Nat → Nat) (conv : Nat → Option V) (pats : List (List Nat)) :
    ∀ i : Nat,
    (TB.enumTryCollect conv i pats).map (fun pv => pv.map fun p => (⟨p.1, bl p.1, p.2⟩ : LPat V))
      = convAll conv i (pats.map fun p => (p, bl p)) := by
  induction pats with
  | nil => intro i; rfl
  | cons p r ih =>
    intro i
    unfold TB.enumTryCollect
    rw [List.map_cons, convAll, ← ih]
    cases conv i with
    | none => rfl
    | some v => cases TB.enumTryCollect conv (i + 1) r <;> rfl

theorem collect_eq_convAll (conv : Nat → Option V) (pats : List (List Nat)) :
    (TB.enumTryCollect conv 0 pats).map toLPats = convAll conv 0 (keysB pats) :=
  collect_eq_convAll_gen (fun p => p.length) conv pats 0

theorem collect_eq_convAll_charwise (conv : Nat → Option V) (pats : List (List Nat)) :
    (TC.enumTryCollect conv 0 pats).map toLPatsC = convAll conv 0 (keysC pats) := by
  rw [tc_eq_tb]
  exact collect_eq_convAll_gen (fun p => (p.map Rs.lenUtf8).sum) conv pats 0

theorem collect_fst {P : Type} (conv : Nat → Option V) (pats : List P) (i : Nat) (pv : List (P × V))
    (h : TB.enumTryCollect conv i pats = some pv) : pv.map Prod.fst = pats := by
  revert pv
  fun_induction TB.enumTryCollect conv i pats <;> intro pv h
  case case1 => rw [← Option.some.inj h]; rfl
  case case4 ih => rw [← Option.some.inj h, List.map_cons, ih _ (by assumption)]
  all_goals cases h

theorem collect_none_iff_from {P : Type} (conv : Nat → Option V) (pats : List P) (i : Nat) :
    TB.enumTryCollect conv i pats = none ↔ ∃ j, i ≤ j ∧ j < i + pats.length ∧ conv j = none := by
  fun_induction TB.enumTryCollect conv i pats
  case case1 => exact ⟨nofun, fun ⟨j, h1, h2, _⟩ => absurd h2 (Nat.not_lt.mpr h1)⟩
  case case2 i _ _ hc =>
    exact ⟨fun _ => ⟨i, Nat.le_refl i, Nat.lt_add_of_pos_right (Nat.succ_pos _), hc⟩, fun _ => rfl⟩
  case case3 i _ _ _ _ hr ih =>
    obtain ⟨j, h1, h2, hcj⟩ := ih.mp hr
    refine ⟨fun _ => ⟨j, Nat.le_of_succ_le h1, ?_, hcj⟩, fun _ => rfl⟩
    rw [List.length_cons, ← Nat.add_assoc, Nat.add_right_comm]
    exact h2
  case case4 i _ _ _ hc _ hr ih =>
    refine ⟨nofun, fun ⟨j, h1, h2, hcj⟩ => ?_⟩
    -- `j = i` converts (`hc`); a later `j` would make the tail fail (`ih`), and it does not (`hr`)
    rcases Nat.eq_or_lt_of_le h1 with rfl | h1
    · rw [hc] at hcj; cases hcj
    · rw [List.length_cons, ← Nat.add_assoc, Nat.add_right_comm] at h2
      rw [ih.mpr ⟨j, h1, h2, hcj⟩] at hr
      cases hr

theorem collect_none_iff {P : Type} (conv : Nat → Option V) (pats : List P) :
    TB.enumTryCollect conv 0 pats = none ↔ ∃ j, j < pats.length ∧ conv j = none := by
  rw [collect_none_iff_from, Nat.zero_add]
  exact ⟨fun ⟨j, _, h⟩ => ⟨j, h⟩, fun ⟨j, h⟩ => ⟨j, Nat.zero_le j, h⟩⟩

end Daac.Tie.TopBuild

#print axioms Daac.Tie.TopBuild.collect_eq_convAll
#print axioms Daac.Tie.TopBuild.collect_none_iff
