import Daac.Gen.BuildTopB
import Daac.Proofs.TieP
import Daac.Proofs.TieTopFrame
/-!
Translation tie, the top of the byte-wise builder: the generated `build_sparse_nfa` and `build_with_values`
(Gen/BuildTopB.lean) against the hand-written glue `Tie.P.genBuildB` and, through `genBuildB_eq_buildDA`,
the model `buildDA .bytewise`.  Each generated function is turned once into an equation over the glue
(`build_sparse_nfa_eq`); `build_with_values_cases` then walks once through the two places where the pipeline
can fail and states the outcome without a `match`, from which the `match`-shaped statements are read off.
The lemmas up to `kind_dispatch` and `u32TryFrom_ok` are about variables and serve the char-wise file too.
-/
namespace Daac.Tie.Top
open Daac Daac.Gen Daac.Gen.N Daac.Tie.N Daac.Tie.F Daac.Tie.P Daac.Tie.H

variable {V : Type}

/-- The label-level reading of `patvals`: a byte pattern is its own key; its byte length is its length. -/
def toLPats (pv : List (List Nat × V)) : List (LPat V) := pv.map fun p => ⟨p.1, p.1.length, p.2⟩

theorem norm_error_cases {β γ : Type} {e : BuildErr} {y : Except BuildErr β} {g : β → γ}
    (h : norm (.error e : Except BuildErr γ) = norm (y.map g)) :
    ∃ e', y = .error e' ∧ norm (.error e : Except BuildErr Unit) = norm (.error e') := by
  rcases norm_cases g y (.error e) h.symm with ⟨b, _, h2⟩ | ⟨e1, e2, h1, h2, h3⟩
  · cases h2
  · cases h2
    exact ⟨e1, h1, (h3 Unit).symm⟩

theorem norm_ok_cases {β γ : Type} {c : γ} {y : Except BuildErr β} {g : β → γ}
    (h : norm (.ok c : Except BuildErr γ) = norm (y.map g)) : ∃ b, y = .ok b ∧ c = g b := by
  rcases norm_cases g y (.ok c) h.symm with ⟨b, h1, h2⟩ | ⟨e1, e2, _, h2, _⟩
  · exact ⟨b, h1, Except.ok.inj h2⟩
  · cases h2

/-- The translated `match self.match_kind { Standard => x, LeftmostLongest | LeftmostFirst => y }` on a kind
byte (`Gen.kindBytes`); the third branch is the translator's arm for a byte that is no discriminant. -/
theorem kind_dispatch {α : Type} {k : Nat} (hk : k ≤ 2) (x y z : α) :
    (if (k == 0) = true then x else if (k == 1 || k == 2) = true then y else z)
      = if k = 0 then x else y :=
  match k, hk with
  | 0, _ => rfl
  | 1, _ => rfl
  | 2, _ => rfl

/-- The translated `for (pattern, value) in patvals { nfa.add(pattern.as_ref(), value)?; }` is the
hand-written fold `addAllGen` of the translated `add` (with `nb = fun _ => 1`). -/
theorem loop0_eq (pv : List (List Nat × V)) (g : NfaBuilder V) :
    TB.Builder.build_sparse_nfa.loop0 pv g = addAllGen (fun _ => 1) g (toLPats pv) := by
  fun_induction TB.Builder.build_sparse_nfa.loop0 pv g <;>
    simp only [toLPats, List.map_cons, List.map_nil, addAllGen, *]

/-- The first part of the glue `Tie.P.genBuildB`: insertion fold, the two pattern-count tests, the fail
pass selected by the kind, `build_outputs`. -/
def sparseGlue (kind : Nat) (P : List (LPat V)) : Except BuildErr (NfaBuilder V) :=
  match addAllGen (fun _ => 1) (NfaBuilder.new kind) P with
  | .error e => .error e
  | .ok g =>
    if g.len = 0 then .error .invalidArgument else
    if g.len > u24Max then .error .automatonScale else
    match failPass kind g with
    | .error e => .error e
    | .ok (q, g1) =>
      match NfaBuilder.build_outputs g1 q with
      | .error e => .error e
      | .ok (_, g2) => .ok g2

/-- The translated `build_sparse_nfa` is the first part of the glue. `hk`: the kind byte is one of the
three `MatchKind` discriminants (the translated `match` has no arm for another byte). -/
theorem build_sparse_nfa_eq (b : LB.Builder) (pv : List (List Nat × V)) (hk : b.match_kind ≤ 2) :
    TB.Builder.build_sparse_nfa b pv = sparseGlue b.match_kind (toLPats pv) := by
  unfold TB.Builder.build_sparse_nfa sparseGlue failPass
  dsimp only
  rw [loop0_eq]
  cases addAllGen (fun _ => 1) (NfaBuilder.new b.match_kind : NfaBuilder V) (toLPats pv) with
  | error e => rfl
  | ok g =>
    dsimp only
    rw [kind_dispatch hk]
    -- with the two length tests in the glue's form, the sides differ only in how the fail pass is matched
    simp only [beq_iff_eq, decide_eq_true_eq]
    by_cases h0 : b.match_kind = 0
    · rw [if_pos h0, if_pos h0]
      cases NfaBuilder.build_fails g with
      | error e => rfl
      | ok r =>
        obtain ⟨q, g1⟩ := r
        dsimp only
        cases NfaBuilder.build_outputs g1 q <;> rfl
    · rw [if_neg h0, if_neg h0]
      cases NfaBuilder.build_fails_leftmost g with
      | error e => rfl
      | ok r =>
        obtain ⟨q, g1⟩ := r
        dsimp only
        cases NfaBuilder.build_outputs g1 q <;> rfl

theorem genBuildB_eq_sparseGlue (kind nfb : Nat) (P : List (LPat V)) :
    genBuildB kind nfb P = match sparseGlue kind P with
      | .error e => .error e
      | .ok g2 => (DB.Builder.build_double_array ⟨#[], kind, nfb⟩ g2).map (·.2.states) := by
  unfold genBuildB
  -- along the definition of `sparseGlue`: in every case both sides take the same exit
  fun_cases sparseGlue kind P <;> simp only [*, reduceIte]

theorem le_sum_of_mem {l : List Nat} {a : Nat} (h : a ∈ l) : a ≤ l.sum := by
  induction l with
  | nil => cases h
  | cons b l ih =>
    rw [List.sum_cons]
    rcases List.mem_cons.mp h with rfl | h
    · exact Nat.le_add_right _ _
    · exact Nat.le_trans (ih h) (Nat.le_add_left _ _)

/-- What a successful `sparseGlue` gives under the hypotheses of the end-to-end theorems: the state count
converts to `u32`, and a successful model build has the same outputs, state count and kind. -/
theorem sparseGlue_facts (kind : Nat) (cfg : Cfg) (P : List (LPat V))
    (hkind : cfg.kind = kind) (hnfb : 1 ≤ cfg.nfb) (hbytes : ∀ p ∈ P, ∀ c ∈ p.key, c < 256)
    (hsz : 2 + (P.map (·.key.length)).sum ≤ 4294967295)
    (hlen : ∀ p ∈ P, (p.key.map (fun _ => 1)).sum = p.blen ∧ p.blen ≤ 4294967295)
    (g2 : NfaBuilder V) (h : sparseGlue kind P = .ok g2) :
    1 ≤ g2.states.size ∧ g2.states.size - 1 ≤ Rs.u32Max ∧
      ∀ da, buildDA .bytewise cfg P = .ok da →
        OutsRel g2.outputs da.outputs ∧ da.numStates = g2.states.size - 1 ∧ da.kind = kind := by
  revert h
  fun_cases sparseGlue kind P <;> intro h
  case case6 g hadd hl h24 q g1 hfp _ g2' hbo =>
    obtain ⟨_, _, _, hfp', hbo', hgs, h1, _, hfacts⟩ :=
      generated_bytewise_build_eq_buildDA kind cfg P hkind hnfb hbytes hsz hlen g hadd hl (Nat.le_of_not_gt h24)
    -- the lower tie speaks of the same `q`, `g1`, `g2'`
    cases hfp.symm.trans hfp'
    cases hbo.symm.trans hbo'
    cases h
    have hfr := (addAllGen_fresh (fun _ => 1) P (NfaBuilder.new kind) g hadd (new_fresh kind)).2.1
    rw [show (NfaBuilder.new kind : NfaBuilder V).states.size = 2 from rfl] at hfr
    refine ⟨h1, Nat.le_trans (Nat.sub_le _ _) (hgs ▸ Nat.le_trans hfr hsz), fun da hda => ?_⟩
    rw [hgs]
    exact hfacts da hda
  all_goals cases h

theorem hlen_toLPats (pv : List (List Nat × V)) (hsz : 2 + (pv.map (·.1.length)).sum ≤ 4294967295) :
    ∀ p ∈ toLPats pv, (p.key.map (fun _ => 1)).sum = p.blen ∧ p.blen ≤ 4294967295 := by
  intro p hp
  obtain ⟨x, hx, rfl⟩ := List.mem_map.mp hp
  have hle : x.1.length ≤ (pv.map (·.1.length)).sum := le_sum_of_mem (List.mem_map_of_mem hx)
  exact ⟨by rw [List.map_const', List.sum_replicate_nat, Nat.mul_one], Nat.le_trans hle (Nat.le_trans (Nat.le_add_left _ 2) hsz)⟩

/-- `u32::try_from(n).map_err(..)` of the `num_states` field. -/
theorem u32TryFrom_ok {n : Nat} (h : n ≤ Rs.u32Max) (e : BuildErr) : Rs.mapErr (Rs.u32TryFrom n) e = .ok n := by
  unfold Rs.u32TryFrom
  rw [if_pos h]
  rfl

/-- The translated `build_with_values`, the glue `genBuildB` and the model `buildDA .bytewise` on byte patterns
within the `u32` scale: all three fail, the first two with the same error and the model with the same error
kind, or all three succeed with the same state table, and then `num_states`, `match_kind` (never written by
`build_double_array`: Proofs/TieTopFrame.lean) and the output records agree as well. -/
theorem build_with_values_cases (kind : Nat) (cfg : Cfg) (pv : List (List Nat × V))
    (hk : kind ≤ 2) (hkind : cfg.kind = kind) (hnfb : 1 ≤ cfg.nfb)
    (hbytes : ∀ p ∈ pv, ∀ c ∈ p.1, c < 256)
    (hsz : 2 + (pv.map (·.1.length)).sum ≤ 4294967295) :
    (∃ e e', TB.Builder.build_with_values ⟨#[], kind, cfg.nfb⟩ pv = .error e ∧
        genBuildB kind cfg.nfb (toLPats pv) = .error e ∧
        buildDA .bytewise cfg (toLPats pv) = .error e' ∧
        norm (.error e : Except BuildErr Unit) = norm (.error e')) ∨
    (∃ a da, TB.Builder.build_with_values ⟨#[], kind, cfg.nfb⟩ pv = .ok a ∧
        genBuildB kind cfg.nfb (toLPats pv) = .ok a.states ∧
        buildDA .bytewise cfg (toLPats pv) = .ok da ∧
        a.states = da.states ∧ a.num_states = da.numStates ∧ a.match_kind = kind ∧ da.kind = kind ∧
        OutsRel a.outputs da.outputs) := by
  have hlen := hlen_toLPats pv hsz
  have hsz' : 2 + ((toLPats pv).map (·.key.length)).sum ≤ 4294967295 := by
    unfold toLPats
    rw [List.map_map]
    exact hsz
  have hbytes' : ∀ p ∈ toLPats pv, ∀ c ∈ p.key, c < 256 := by
    intro p hp
    obtain ⟨x, hx, rfl⟩ := List.mem_map.mp hp
    exact hbytes x hx
  have hE := genBuildB_eq_buildDA kind cfg (toLPats pv) hkind hnfb hbytes' hsz' hlen
  have hfacts := sparseGlue_facts kind cfg (toLPats pv) hkind hnfb hbytes' hsz' hlen
  rw [genBuildB_eq_sparseGlue] at hE ⊢
  unfold TB.Builder.build_with_values
  rw [build_sparse_nfa_eq ⟨#[], kind, cfg.nfb⟩ pv hk]
  dsimp only
  cases hs : sparseGlue kind (toLPats pv) with
  | error e =>
    rw [hs] at hE
    obtain ⟨e', hy, hn⟩ := norm_error_cases hE
    exact .inl ⟨e, e', rfl, rfl, hy, hn⟩
  | ok g2 =>
    rw [hs] at hE
    obtain ⟨h1, hu, hda⟩ := hfacts g2 hs
    dsimp only at hE ⊢
    cases hd : DB.Builder.build_double_array ⟨#[], kind, cfg.nfb⟩ g2 with
    | error e =>
      rw [hd] at hE
      obtain ⟨e', hy, hn⟩ := norm_error_cases hE
      exact .inl ⟨e, e', rfl, rfl, hy, hn⟩
    | ok r =>
      rw [hd] at hE
      obtain ⟨da, hy, hst⟩ := norm_ok_cases hE
      obtain ⟨houts, hnum, hkd⟩ := hda da hy
      refine .inr ⟨⟨r.2.states, g2.outputs, r.2.match_kind, g2.states.size - 1⟩, da, ?_, rfl, hy, hst,
        hnum.symm, (build_double_array_frame _ _ _ _ hd).1, hkd, houts⟩
      dsimp only
      rw [if_pos (decide_eq_true h1), u32TryFrom_ok hu]

/-- The translated byte-wise `build_with_values` against the model
`buildDA .bytewise` — same error kind, or equal `states`, equal `num_states`, `match_kind = kind = da.kind`,
related `outputs`. -/
theorem generated_build_with_values_eq_buildDA_full
    (kind : Nat) (cfg : Cfg) (pv : List (List Nat × V))
    (hk : kind ≤ 2) (hkind : cfg.kind = kind) (hnfb : 1 ≤ cfg.nfb)
    (hbytes : ∀ p ∈ pv, ∀ c ∈ p.1, c < 256)
    (hsz : 2 + (pv.map (·.1.length)).sum ≤ 4294967295) :
    match TB.Builder.build_with_values ⟨#[], kind, cfg.nfb⟩ pv, buildDA .bytewise cfg (toLPats pv) with
    | .error e, .error e' => norm (.error e : Except BuildErr Unit) = norm (.error e')
    | .ok a, .ok da => a.states = da.states ∧ a.num_states = da.numStates ∧ a.match_kind = kind ∧
        a.match_kind = da.kind ∧ OutsRel a.outputs da.outputs
    | _, _ => False := by
  rcases build_with_values_cases kind cfg pv hk hkind hnfb hbytes hsz with
    ⟨e, e', hx, _, hy, hn⟩ | ⟨a, da, hx, _, hy, hst, hnum, hka, hkd, houts⟩
  · rw [hx, hy]
    exact hn
  · rw [hx, hy]
    exact ⟨hst, hnum, hka, hka.trans hkd.symm, houts⟩

theorem generated_build_with_values_eq_buildDA (kind : Nat) (cfg : Cfg) (pv : List (List Nat × V))
    (hk : kind ≤ 2) (hkind : cfg.kind = kind) (hnfb : 1 ≤ cfg.nfb)
    (hbytes : ∀ p ∈ pv, ∀ c ∈ p.1, c < 256)
    (hsz : 2 + (pv.map (·.1.length)).sum ≤ 4294967295) :
    match TB.Builder.build_with_values ⟨#[], kind, cfg.nfb⟩ pv, buildDA .bytewise cfg (toLPats pv) with
    | .error e, .error e' => norm (.error e : Except BuildErr Unit) = norm (.error e')
    | .ok a, .ok da => a.states = da.states ∧ a.num_states = da.numStates ∧ OutsRel a.outputs da.outputs
    | _, _ => False := by
  have h := generated_build_with_values_eq_buildDA_full kind cfg pv hk hkind hnfb hbytes hsz
  revert h
  cases TB.Builder.build_with_values (⟨#[], kind, cfg.nfb⟩ : LB.Builder) pv <;>
    cases buildDA .bytewise cfg (toLPats pv)
  · exact id
  · exact id
  · exact id
  · exact fun h => ⟨h.1, h.2.1, h.2.2.2.2⟩

theorem build_with_values_states_eq (kind : Nat) (cfg : Cfg) (pv : List (List Nat × V))
    (hk : kind ≤ 2) (hkind : cfg.kind = kind) (hnfb : 1 ≤ cfg.nfb)
    (hbytes : ∀ p ∈ pv, ∀ c ∈ p.1, c < 256)
    (hsz : 2 + (pv.map (·.1.length)).sum ≤ 4294967295) :
    match TB.Builder.build_with_values ⟨#[], kind, cfg.nfb⟩ pv, genBuildB kind cfg.nfb (toLPats pv) with
    | .error e, .error e' => norm (.error e : Except BuildErr Unit) = norm (.error e')
    | .ok a, .ok s => a.states = s
    | _, _ => False := by
  rcases build_with_values_cases kind cfg pv hk hkind hnfb hbytes hsz with
    ⟨e, e', hx, hg, _⟩ | ⟨a, da, hx, hg, _⟩
  · rw [hx, hg]
  · rw [hx, hg]

end Daac.Tie.Top

#print axioms Daac.Tie.Top.loop0_eq
#print axioms Daac.Tie.Top.build_sparse_nfa_eq
#print axioms Daac.Tie.Top.build_with_values_states_eq
#print axioms Daac.Tie.Top.generated_build_with_values_eq_buildDA
#print axioms Daac.Tie.Top.generated_build_with_values_eq_buildDA_full
