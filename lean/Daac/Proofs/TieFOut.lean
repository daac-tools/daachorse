/-
Translation tie, output pass: the generated `NfaBuilder.build_outputs` (Gen/Nfa.lean) refines the
model fold `buildOutAcc` (Model/Nfa.lean).  `FailRel`, `OposRel`, `OutRel`, `OutsRel` are the shared
definitions of Proofs/TieFBase.lean.
-/
import Daac.Proofs.TieFBase
namespace Daac.Tie.F
open Daac Daac.Gen Daac.Gen.N Daac.Tie.N
variable {V : Type}

/-- `List.Forall₂ (fun i u => idAt st 0 u = some i) ids us` (core has no `Forall₂`): the ids `ids` are,
elementwise, the state ids of the paths `us`. -/
inductive IdsOf (st : Tie.N.St V) : List Nat → List (List Nat) → Prop
  | nil : IdsOf st [] []
  | cons {i : Nat} {u : List Nat} {ids : List Nat} {us : List (List Nat)} :
      idAt st 0 u = some i → IdsOf st ids us → IdsOf st (i :: ids) (u :: us)

theorem IdsOf.shape {st st' : Tie.N.St V} (hs : SameShape st st') {ids : List Nat} {us : List (List Nat)}
    (h : IdsOf st ids us) : IdsOf st' ids us := by
  induction h with
  | nil => exact .nil
  | cons hi _ ih => exact .cons (idAt_shape hs _ 0 _ hi) ih

/-- A definition-free way to state `IdsOf`. -/
theorem IdsOf.of_map (st : Tie.N.St V) : (ids : List Nat) → (us : List (List Nat)) →
    ids.map some = us.map (idAt st 0) → IdsOf st ids us := by
  intro ids
  induction ids with
  | nil =>
    intro us h
    cases us with
    | nil => exact .nil
    | cons _ _ => cases h
  | cons i ids ih =>
    intro us h
    cases us with
    | nil => cases h
    | cons u us =>
      rw [List.map_cons, List.map_cons, List.cons.injEq] at h
      exact .cons h.1.symm (ih us h.2)

theorem IdsOf.length_eq {st : Tie.N.St V} {ids : List Nat} {us : List (List Nat)} (h : IdsOf st ids us) :
    ids.length = us.length := by
  induction h with
  | nil => rfl
  | cons _ _ ih => simp [ih]

theorem idsOf_mid {st : Tie.N.St V} : (a : List (List Nat)) → (l : List Nat) → (s : List Nat) →
    (b : List (List Nat)) → IdsOf st l (a ++ s :: b) → ∃ x, l[a.length]? = some x ∧ idAt st 0 s = some x := by
  intro a
  induction a with
  | nil =>
    intro l s b h
    cases h with
    | cons h1 _ => exact ⟨_, rfl, h1⟩
  | cons y a ih =>
    intro l s b h
    cases h with
    | cons _ h2 =>
      obtain ⟨x, e1, e2⟩ := ih _ s b h2
      exact ⟨x, by rw [List.length_cons, List.getElem?_cons_succ]; exact e1, e2⟩

theorem OposRel.zero : OposRel none 0 := by simp [OposRel]

theorem OposRel.succ (n : Nat) : OposRel (Rs.nonZeroU32New (n + 1)) (n + 1) := by
  simp [OposRel, Rs.nonZeroU32New]

theorem OutsRel.empty : OutsRel (#[] : Array (Rs.Output V)) (#[] : Array (Out V)) :=
  ⟨rfl, fun k o h => by simp at h⟩

theorem OutsRel.push {a : Array (Rs.Output V)} {b : Array (Out V)} (h : OutsRel a b)
    {o : Rs.Output V} {m : Out V} (hom : OutRel o m) : OutsRel (a.push o) (b.push m) := by
  refine ⟨by simp [h.1], fun k o' hk => ?_⟩
  rw [Array.getElem?_push] at hk ⊢
  rw [← h.1]
  by_cases e : k = a.size
  · rw [if_pos e] at hk ⊢
    cases hk
    exact ⟨m, rfl, hom⟩
  · rw [if_neg e] at hk ⊢
    exact h.2 k o' hk

structure InvO (pth : Pth) (t : Trie V) (fm : FailMap) (g : NfaBuilder V) (a : OutAcc V) : Prop where
  rep : Rep g.states pth t 0 []
  fail : ∀ u i, idAt g.states 0 u = some i →
    ∃ s, g.states[i]? = some s ∧ FailRel g.states (fm.get u) s.fail
  dead : ∃ sd, g.states[Gen.deadStateId]? = some sd ∧ sd.output_pos = none
  pdead : pth Gen.deadStateId = none
  pos : ∀ u i, idAt g.states 0 u = some i →
    ∃ s, g.states[i]? = some s ∧ OposRel s.output_pos (a.opos.getD u 0)
  outs : OutsRel g.outputs a.outs

section inv
variable {pth : Pth} {t : Trie V} {fm : FailMap} {g : NfaBuilder V} {a : OutAcc V}

theorem InvO.fail_target (h : InvO pth t fm g a) {u : List Nat} {i : Nat} {s : NfaBuilderState V}
    (hi : idAt g.states 0 u = some i) (hs : g.states[i]? = some s) (hself : fm.get u ≠ .node u) :
    s.fail ≠ i ∧ ∃ sf, g.states[s.fail]? = some sf ∧ OposRel sf.output_pos (a.oposOf (fm.get u)) := by
  obtain ⟨s0, hs0, hf⟩ := h.fail u i hi
  rw [hs] at hs0; cases hs0
  have hp := idAt_pth h.rep hi
  cases hfm : fm.get u with
  | dead =>
    rw [hfm] at hf
    have hf' : s.fail = Gen.deadStateId := hf
    obtain ⟨sd, hd1, hd2⟩ := h.dead
    refine ⟨fun e => ?_, sd, by rw [hf']; exact hd1, ?_⟩
    · have := h.pdead
      rw [← hf', e, hp] at this; cases this
    · rw [hd2]; exact OposRel.zero
  | node w =>
    rw [hfm] at hf hself
    have hf' : idAt g.states 0 w = some s.fail := hf
    refine ⟨fun e => ?_, ?_⟩
    · rw [e] at hf'
      exact hself (by rw [idAt_inj h.rep hf' hi])
    · obtain ⟨sf, e1, e2⟩ := h.pos w s.fail hf'
      exact ⟨sf, e1, e2⟩

theorem InvO.write (h : InvO pth t fm g a) {u : List Nat} {i : Nat} {s : NfaBuilderState V}
    (hi : idAt g.states 0 u = some i) (hs : g.states[i]? = some s) (p : Option Nat) (n : Nat)
    (hp : OposRel p n) (g1 : NfaBuilder V) (mouts : Array (Out V))
    (hst : g1.states = g.states.setIfInBounds i { s with output_pos := p })
    (ho : OutsRel g1.outputs mouts) :
    InvO pth t fm g1 ⟨a.opos.insert u n, mouts⟩ ∧ SameShape g.states g1.states ∧
      Kept (·.fail) g.states g1.states := by
  have hsh : SameShape g.states g1.states := by
    rw [hst]; exact SameShape.set g.states i s _ hs rfl rfl
  have hnew : g1.states[i]? = some { s with output_pos := p } := by
    rw [hst]; exact set_self g.states i s _ hs
  have hkeep : ∀ j sj, g.states[j]? = some sj → j ≠ i → g1.states[j]? = some sj := by
    intro j sj hj hne; rw [hst]; exact write_keep g.states i j _ sj hj hne
  have hpi := idAt_pth h.rep hi
  refine ⟨⟨rep_shape t 0 [] h.rep hsh, ?_, ?_, h.pdead, ?_, ho⟩, hsh,
    by rw [hst]; exact Kept.set _ g.states i s _ hs rfl⟩
  · intro u' i' hi'
    have hi0 := idAt_shape hsh.symm u' 0 i' hi'
    obtain ⟨s0, e1, e2⟩ := h.fail u' i' hi0
    by_cases e : i' = i
    · subst e
      rw [hs] at e1; cases e1
      exact ⟨_, hnew, FailRel.shape hsh e2⟩
    · exact ⟨s0, hkeep i' s0 e1 e, FailRel.shape hsh e2⟩
  · obtain ⟨sd, d1, d2⟩ := h.dead
    refine ⟨sd, hkeep _ sd d1 (fun e => ?_), d2⟩
    have := h.pdead
    rw [e, hpi] at this; cases this
  · intro u' i' hi'
    have hi0 := idAt_shape hsh.symm u' 0 i' hi'
    obtain ⟨s0, e1, e2⟩ := h.pos u' i' hi0
    show ∃ s, g1.states[i']? = some s ∧ OposRel s.output_pos ((a.opos.insert u n).getD u' 0)
    rw [opos_getD_insert]
    by_cases e : i' = i
    · subst e
      have : u = u' := idAt_inj h.rep hi hi0
      rw [if_pos this]
      exact ⟨_, hnew, hp⟩
    · have : ¬ u = u' := fun e' => by
        subst e'; rw [hi] at hi0; cases hi0; exact e rfl
      rw [if_neg this]
      exact ⟨s0, hkeep i' s0 e1 e, e2⟩

theorem InvO.step (h : InvO pth t fm g a) {u : List Nat} {i : Nat}
    (hi : idAt g.states 0 u = some i) (hself : fm.get u ≠ .node u)
    (hb : g.outputs.size + 1 ≤ 4294967295) :
    ∃ g1, (∀ rest, NfaBuilder.build_outputs.loop0 (i :: rest) g = NfaBuilder.build_outputs.loop0 rest g1) ∧
      InvO pth t fm g1 (outStep t fm a u) ∧ SameShape g.states g1.states ∧
      Kept (·.fail) g.states g1.states ∧ g1.outputs.size ≤ g.outputs.size + 1 := by
  obtain ⟨n, hw, hr⟩ := walk_some_of_idAt h.rep hi
  obtain ⟨s, hs, hso, _⟩ := rep_get hr
  obtain ⟨hne, sf, hsf, hsfo⟩ := h.fail_target hi hs hself
  cases ho : n.out with
  | none =>
    have hm : (t.walk u).bind Trie.out = none := by rw [hw]; exact ho
    obtain ⟨hinv, hsh, hk⟩ := h.write hi hs sf.output_pos _ hsfo
      { g with states := g.states.setIfInBounds i { s with output_pos := sf.output_pos } } a.outs rfl h.outs
    refine ⟨_, fun rest => ?_, by rw [outStep_none hm]; exact hinv, hsh, hk, Nat.le_succ _⟩
    simp only [NfaBuilder.build_outputs.loop0, index_eq _ _ _ hs, index_eq _ _ _ hsf, hso, ho]
  | some vl =>
    have hm : (t.walk u).bind Trie.out = some vl := by rw [hw]; exact ho
    have htry : Rs.u32TryFrom (g.outputs.size + 1) = some (g.outputs.size + 1) :=
      if_pos (show g.outputs.size + 1 ≤ Rs.u32Max from hb)
    obtain ⟨hinv, hsh, hk⟩ := h.write hi hs _ _ (OposRel.succ g.outputs.size)
      { g with
        states := g.states.setIfInBounds i { s with output_pos := Rs.nonZeroU32New (g.outputs.size + 1) },
        outputs := g.outputs.push ({ value := vl.1, length := vl.2, parent := sf.output_pos } : Rs.Output V) }
      (a.outs.push ⟨vl.1, vl.2, a.oposOf (fm.get u)⟩) rfl (OutsRel.push h.outs ⟨rfl, rfl, hsfo⟩)
    refine ⟨_, fun rest => ?_, by rw [outStep_some hm, ← h.outs.1]; exact hinv, hsh, hk,
      Nat.le_of_eq (Array.size_push _)⟩
    simp only [NfaBuilder.build_outputs.loop0, index_eq _ _ _ hs, hso, ho, htry, index_eq _ _ _ (set_self _ _ _ _ hs),
      index_eq _ _ _ (write_keep _ _ _ _ _ hsf hne)]

theorem loop0_refines (pth : Pth) (t : Trie V) (fm : FailMap) :
    ∀ (ids : List Nat) (us : List (List Nat)) (g : NfaBuilder V) (a : OutAcc V),
    IdsOf g.states ids us →
    InvO pth t fm g a →
    (∀ u ∈ us, fm.get u ≠ .node u) →
    g.outputs.size + ids.length ≤ 4294967295 →
    ∃ g', NfaBuilder.build_outputs.loop0 ids g = .ok g' ∧ InvO pth t fm g' (us.foldl (outStep t fm) a) ∧
      SameShape g.states g'.states ∧ Kept (·.fail) g.states g'.states := by
  intro ids
  induction ids with
  | nil =>
    intro us g a hq h _ _
    cases hq
    exact ⟨g, rfl, h, SameShape.refl _, Kept.refl _ _⟩
  | cons i ids ih =>
    intro us g a hq h hself hb
    cases hq with
    | cons hi hrest =>
      rename_i u us
      rw [List.length_cons] at hb
      obtain ⟨g1, e1, h1, hsh1, hk1, hsz1⟩ := h.step hi (hself u List.mem_cons_self)
        (Nat.le_trans (Nat.add_le_add_left (Nat.le_add_left 1 ids.length) _) hb)
      obtain ⟨g', e2, h2, hsh2, hk2⟩ := ih us g1 (outStep t fm a u) (hrest.shape hsh1) h1
        (fun w hw => hself w (List.mem_cons_of_mem _ hw))
        (Nat.le_trans (Nat.add_le_add_right hsz1 _) (by rw [Nat.add_assoc, Nat.add_comm 1]; exact hb))
      exact ⟨g', by rw [e1, e2], h2, hsh1.trans hsh2, hk1.trans hk2⟩

end inv

theorem outputs_refines (g : NfaBuilder V) (pth : Pth) (t : Trie V) (fm : FailMap) (q : Array Nat)
    (hrep : Rep g.states pth t 0 [])
    (hq : IdsOf g.states q.toList t.queue)
    (hne : t.queue ≠ [])
    (hfail : ∀ u i, idAt g.states 0 u = some i → ∃ s, g.states[i]? = some s ∧ FailRel g.states (fm.get u) s.fail)
    (hself : ∀ u ∈ t.queue, fm.get u ≠ .node u)
    (hdead : ∃ sd, g.states[Gen.deadStateId]? = some sd ∧ sd.output_pos = none) (hpd : pth Gen.deadStateId = none)
    (hpos0 : ∀ (i : Nat) (s : NfaBuilderState V), g.states[i]? = some s → s.output_pos = none)
    (hout0 : g.outputs = #[])
    (hlen : q.size < 4294967295) :
    ∃ g', NfaBuilder.build_outputs g q = .ok ((), g') ∧ SameShape g.states g'.states ∧
      (∀ (i : Nat) (s : NfaBuilderState V), g.states[i]? = some s →
        ∃ s' : NfaBuilderState V, g'.states[i]? = some s' ∧ s'.fail = s.fail) ∧
      (∀ u i, idAt g.states 0 u = some i → ∃ s, g'.states[i]? = some s ∧
          OposRel s.output_pos ((buildOutAcc t fm).opos.getD u 0)) ∧
      OutsRel g'.outputs (buildOutAcc t fm).outs := by
  have hinv : InvO pth t fm g ⟨{}, #[]⟩ := by
    refine ⟨hrep, hfail, hdead, hpd, ?_, by rw [hout0]; exact OutsRel.empty⟩
    intro u i hi
    obtain ⟨s, hs, _⟩ := hfail u i hi
    refine ⟨s, hs, ?_⟩
    rw [hpos0 i s hs]
    show OposRel none ((({} : Std.HashMap (List Nat) Nat)).getD u 0)
    rw [Std.HashMap.getD_empty]; exact OposRel.zero
  obtain ⟨g', e, h', hsh, hk⟩ := loop0_refines pth t fm q.toList t.queue g ⟨{}, #[]⟩ hq hinv hself
    (by rw [hout0, Array.length_toList]; exact Nat.le_of_lt ((Nat.zero_add q.size).symm ▸ hlen))
  -- `debug_assert!(q[0] != ROOT_STATE_ID)`: the first queue entry is a non-root node
  obtain ⟨u0, us, hqq⟩ := List.exists_cons_of_ne_nil hne
  have hu0 : u0 ≠ [] := ((Trie.mem_queue t u0).mp (hqq ▸ List.mem_cons_self)).2
  rw [hqq] at hq
  obtain ⟨i0, hi0, hid0⟩ := idsOf_mid [] q.toList u0 us hq
  replace hi0 : q[0]? = some i0 := (Array.getElem?_toList ..).symm.trans hi0
  have hi0ne : (i0 != Gen.rootStateId) = true :=
    bne_iff_ne.mpr (fun e0 => hu0 (idAt_inj hrep hid0 (e0 ▸ rfl)))
  refine ⟨g', ?_, hsh, hk, ?_, h'.outs⟩
  · simp only [NfaBuilder.build_outputs, index_eq _ _ _ hi0, hi0ne, if_true, e]
  · intro u i hi
    exact h'.pos u i (idAt_shape hsh u 0 i hi)

end Daac.Tie.F
