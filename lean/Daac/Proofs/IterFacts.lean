/-
Laziness facts (property C12) about the search iterators of `Daac.Model.Search`: what one step of
the haystack iterator, one scan and one `next()` do to the byte source, for arbitrary tables.
Begins with `Holds`, the form in which facts about the fallible loops of the model are stated
here, in NoFault.lean and in Steps.lean.
-/
import Daac.Model.Search
namespace Daac

variable {V : Type}

/-- `x` is a fault satisfying `E` or a value satisfying `P`. A statement `Holds E P (f args)` about a
loop `f` of the model is proved by going through the body of `f` once: `Holds E P (.ok a)` is `P a`
and `Holds E P (.error e)` is `E e` by definition, so every leaf is closed by the fact itself. -/
def Holds {α : Type} (E : Fault → Prop) (P : α → Prop) : Except Fault α → Prop
  | .error e => E e
  | .ok a => P a

namespace Holds
variable {α : Type} {E E' : Fault → Prop} {P P' : α → Prop} {x : Except Fault α}

theorem of_ok {a : α} (h : Holds E P x) (hx : x = .ok a) : P a := by subst hx; exact h

theorem of_error {e : Fault} (h : Holds E P x) (hx : x = .error e) : E e := by subst hx; exact h

theorem mono (h : Holds E P x) (hE : ∀ e, E e → E' e) (hP : ∀ a, P a → P' a) : Holds E' P' x :=
  match x, h with
  | .error e, h => hE e h
  | .ok a, h => hP a h

theorem iff : Holds E P x ↔ (∀ a, x = .ok a → P a) ∧ (∀ e, x = .error e → E e) :=
  ⟨fun h => ⟨fun _ => h.of_ok, fun _ => h.of_error⟩, fun ⟨h1, h2⟩ =>
    match x, h1, h2 with
    | .error e, _, h2 => h2 e rfl
    | .ok a, h1, _ => h1 a rfl⟩

theorem map {β : Type} {f : α → β} {Q : β → Prop} (h : Holds E (fun a => Q (f a)) x) :
    Holds E Q (x.map f) :=
  match x, h with
  | .error _, h => h
  | .ok _, h => h

theorem ite {c : Prop} [Decidable c] {a b : Except Fault α} (ha : c → Holds E P a)
    (hb : ¬c → Holds E P b) : Holds E P (if c then a else b) := by
  split
  · exact ha ‹_›
  · exact hb ‹_›

end Holds

def Src.Adv (s s' : Src) (pre : List Nat) : Prop :=
  s.rest = pre ++ s'.rest ∧ s'.pulled = s.pulled + pre.length

theorem Src.pull_some {s s1 : Src} {b : Nat} (h : s.pull = some (b, s1)) : s.Adv s1 [b] := by
  unfold Src.pull at h
  split at h
  · cases h
  · next b' r hr =>
    cases h
    exact ⟨hr, rfl⟩

theorem Src.pull_none {s : Src} (h : s.pull = none) : s.rest = [] := by
  unfold Src.pull at h
  split at h
  · assumption
  · cases h

theorem Src.Adv.trans {s s1 s2 : Src} {p q : List Nat} (h1 : s.Adv s1 p) (h2 : s1.Adv s2 q) :
    s.Adv s2 (p ++ q) := by
  obtain ⟨a1, b1⟩ := h1
  obtain ⟨a2, b2⟩ := h2
  exact ⟨by rw [a1, a2, List.append_assoc], by rw [b2, b1, List.length_append, Nat.add_assoc]⟩

def Utf8Fault (e : Fault) : Prop := e = .truncatedUtf8 ∨ e = .invalidScalar

theorem Utf8Fault.ne_fuel {e : Fault} (h : Utf8Fault e) : e ≠ .fuel := by
  rintro rfl
  rcases h with h | h <;> cases h

def Src.Pulls (s : Src) : Option (Item × Src) → Prop
  | none => s.rest = []
  | some (item, s') => item.stop = s'.pulled ∧ ∃ pre, pre ≠ [] ∧ s.Adv s' pre

/-- The last step of every multi-byte branch of the decoder. -/
theorem Src.Adv.scalar {s s' : Src} {pre : List Nat} (h : s.Adv s' pre) (hne : pre ≠ [])
    (cp : Nat) :
    Holds Utf8Fault s.Pulls
      (if isScalar cp then .ok (some (⟨cp, s'.pulled⟩, s')) else .error .invalidScalar) :=
  .ite (fun _ => ⟨rfl, pre, hne, h⟩) (fun _ => .inr rfl)

theorem decodeNext_pulls (s : Src) : Holds Utf8Fault s.Pulls (decodeNext s) := by
  unfold decodeNext
  cases h1 : s.pull with
  | none => exact Src.pull_none h1
  | some p1 =>
    obtain ⟨first, s1⟩ := p1
    have a1 := Src.pull_some h1
    refine .ite (fun _ => ⟨rfl, _, List.cons_ne_nil _ _, a1⟩) (fun _ => ?_)
    cases h2 : s1.pull with
    | none => exact .inl rfl
    | some p2 =>
      obtain ⟨r1, s2⟩ := p2
      have a2 := a1.trans (Src.pull_some h2)
      refine .ite (fun _ => a2.scalar (List.cons_ne_nil _ _) _) (fun _ => ?_)
      cases h3 : s2.pull with
      | none => exact .inl rfl
      | some p3 =>
        obtain ⟨r2, s3⟩ := p3
        have a3 := a2.trans (Src.pull_some h3)
        refine .ite (fun _ => a3.scalar (List.cons_ne_nil _ _) _) (fun _ => ?_)
        cases h4 : s3.pull with
        | none => exact .inl rfl
        | some p4 =>
          obtain ⟨r3, s4⟩ := p4
          exact (a3.trans (Src.pull_some h4)).scalar (List.cons_ne_nil _ _) _

theorem nextItem_pulls (v : Variant) (s : Src) : Holds Utf8Fault s.Pulls (nextItem v s) := by
  cases v with
  | charwise => exact decodeNext_pulls s
  | bytewise =>
    unfold nextItem
    cases h : s.pull with
    | none => exact Src.pull_none h
    | some p => exact ⟨rfl, _, List.cons_ne_nil _ _, Src.pull_some h⟩

theorem nextItem_spec {v : Variant} {s s' : Src} {item : Item}
    (h : nextItem v s = .ok (some (item, s'))) :
    item.stop = s'.pulled ∧ s.pulled < s'.pulled ∧ s'.rest.length < s.rest.length ∧
    s'.pulled + s'.rest.length = s.pulled + s.rest.length ∧
    (∃ k, s'.rest = s.rest.drop k ∧ s'.pulled = s.pulled + k) := by
  obtain ⟨h1, pre, hne, hr, hp⟩ := (nextItem_pulls v s).of_ok h
  have hpos := List.length_pos_iff.mpr hne
  refine ⟨h1, ?_, ?_, ?_, pre.length, by rw [hr, List.drop_left], hp⟩
  · rw [hp]; exact Nat.lt_add_of_pos_right hpos
  · rw [hr, List.length_append]; exact Nat.lt_add_of_pos_left hpos
  · rw [hp, hr, List.length_append, Nat.add_assoc]

theorem nextItem_none {v : Variant} {s : Src} (h : nextItem v s = .ok none) : s.rest = [] :=
  (nextItem_pulls v s).of_ok h

theorem nextItem_err {v : Variant} {s : Src} {e : Fault} (h : nextItem v s = .error e) :
    Utf8Fault e :=
  (nextItem_pulls v s).of_error h

theorem nextItem_ne_fuel (v : Variant) (s : Src) : nextItem v s ≠ .error .fuel :=
  fun h => (nextItem_err h).ne_fuel rfl

theorem DA.st_ne_fuel (da : DA V) (i : Nat) : da.st i ≠ .error .fuel := by
  intro h
  unfold DA.st at h
  split at h <;> cases h

theorem DA.out_ne_fuel (da : DA V) (p : Nat) : da.out p ≠ .error .fuel := by
  intro h
  unfold DA.out at h
  split at h
  · cases h
  · split at h <;> cases h

@[simp] theorem mkMatch_stop (o : Out V) (e : Nat) : (mkMatch o e).stop = e := rfl

structure StepSpec (R : Nat → Nat → Prop) (src src' : Src) (r : Option (Match V)) : Prop where
  conserve : src'.pulled + src'.rest.length = src.pulled + src.rest.length
  stop : ∀ m, r = some m → m.stop = src'.pulled ∧ R src.pulled src'.pulled
  done : r = none → src'.rest = []

theorem StepSpec.pulled_le {R : Nat → Nat → Prop} {src src' : Src} {r : Option (Match V)}
    (h : StepSpec R src src' r) (hR : ∀ a b, R a b → a ≤ b) : src.pulled ≤ src'.pulled := by
  cases r with
  | none =>
    have := h.conserve
    rw [h.done rfl, List.length_nil] at this
    exact Nat.le.intro this.symm
  | some m => exact hR _ _ (h.stop m rfl).2

/-- The transition function never runs out of its own fuel (a property of the tables; it is
a hypothesis here because `DA.next` has its own fuel-bounded loop). -/
def DA.NextNoFuel (da : DA V) : Prop := ∀ s l, da.next s l ≠ .error .fuel

def OvIt.Inv (it : OvIt) : Prop := it.opos ≠ 0 → it.pos = it.src.pulled

/-- With more fuel than bytes left the scan does not run out of its own fuel: a `.fuel` fault can
only come from the transition loop. -/
theorem scanOv_spec (da : DA V) (fuel : Nat) (it : OvIt) (h0 : it.opos = 0) :
    Holds (fun e => it.src.rest.length < fuel → da.NextNoFuel → e ≠ .fuel)
      (fun stp => stp.it.Inv ∧ StepSpec (· < ·) it.src stp.it.src stp.result)
      (scanOv da fuel it) := by
  -- in the order of the text of `scanOv`: out of fuel; the decoder faults; the source is
  -- exhausted; `next`, `st`, `out` fault; a match; no output at the new state, the scan goes on
  fun_induction scanOv da fuel it with
  | case1 => exact fun hf _ => absurd hf (Nat.not_lt_zero _)
  | case2 _ _ e hi => exact fun _ _ => (nextItem_err hi).ne_fuel
  | case3 _ _ hi => exact ⟨fun hc => absurd h0 hc, rfl, nofun, fun _ => nextItem_none hi⟩
  | case4 _ _ _ _ _ e hn => exact fun _ hnf he => hnf _ _ (he ▸ hn)
  | case5 _ _ _ _ _ _ _ e hst => exact fun _ _ he => da.st_ne_fuel _ (he ▸ hst)
  | case6 _ _ _ _ _ _ _ _ _ _ e ho => exact fun _ _ he => da.out_ne_fuel _ (he ▸ ho)
  | case7 _ _ _ _ hi =>
    obtain ⟨i1, i2, _, i4, _⟩ := nextItem_spec hi
    exact ⟨fun _ => i1, i4, fun m hm => by cases hm; exact ⟨i1, i2⟩, nofun⟩
  | case8 _ _ _ _ hi _ _ _ _ _ _ ih =>
    obtain ⟨_, i2, i3, i4, _⟩ := nextItem_spec hi
    refine (ih h0).mono (fun e he hf => he (Nat.lt_of_lt_of_le i3 (Nat.le_of_lt_succ hf)))
      (fun stp ⟨j0, j⟩ => ⟨j0, j.conserve.trans i4, fun m hm => ?_, j.done⟩)
    exact ⟨(j.stop m hm).1, Nat.lt_trans i2 (j.stop m hm).2⟩

/-- The loop of `find_iter` and of the no-suffix iterator is the overlapping one with the
position and the pending chain forgotten. -/
theorem scanFirst_eq_scanOv (da : DA V) (fuel : Nat) (src : Src) (state pos opos : Nat) :
    scanFirst da fuel state src =
      (scanOv da fuel ⟨src, state, pos, opos⟩).map fun r => (r.result, r.it.state, r.it.src) := by
  fun_induction scanFirst da fuel state src generalizing pos with
  | case1 => rfl
  | case2 _ _ _ _ hi | case3 _ _ _ hi => simp only [scanOv, hi]; rfl
  | case4 _ _ _ _ _ hi _ hn => simp only [scanOv, hi, hn]; rfl
  | case5 _ _ _ _ _ hi _ hn _ hst => simp only [scanOv, hi, hn, hst]; rfl
  | case6 _ _ _ _ _ hi _ hn _ hst h0 _ ho | case7 _ _ _ _ _ hi _ hn _ hst h0 _ ho =>
    simp only [scanOv, hi, hn, hst, if_pos h0, ho]; rfl
  | case8 _ _ _ _ _ hi _ hn _ hst h0 ih => simp only [scanOv, hi, hn, hst, if_neg h0]; exact ih _

theorem scanFirst_spec (da : DA V) (fuel state : Nat) (src : Src) :
    Holds (fun e => src.rest.length < fuel → da.NextNoFuel → e ≠ .fuel)
      (fun (r, _, src') => StepSpec (· < ·) src src' r) (scanFirst da fuel state src) :=
  scanFirst_eq_scanOv da fuel src state 0 0 ▸
    ((scanOv_spec da fuel ⟨src, state, 0, 0⟩ rfl).mono (fun _ h => h) (fun _ h => h.2)).map

theorem NoSufIt.next_spec (da : DA V) (it : NoSufIt) :
    Holds (fun e => da.NextNoFuel → e ≠ .fuel)
      (fun stp => StepSpec (· < ·) it.src stp.it.src stp.result) (NoSufIt.next da it) := by
  have h := scanFirst_spec da (it.src.rest.length + 1) it.state it.src
  unfold NoSufIt.next
  match scanFirst da (it.src.rest.length + 1) it.state it.src, h with
  | .error e, h => exact h (Nat.lt_succ_self _)
  | .ok (r, _, src'), h => exact h

/-- `find_iter` is the no-suffix iterator started at the root at every call. -/
theorem FindIt.next_eq (da : DA V) (it : FindIt) :
    FindIt.next da it =
      (NoSufIt.next da ⟨it.src, rootIdx⟩).map fun stp => ⟨stp.result, ⟨stp.it.src⟩⟩ := by
  rw [FindIt.next, NoSufIt.next]
  cases scanFirst da (it.src.rest.length + 1) rootIdx it.src <;> rfl

theorem FindIt.next_spec (da : DA V) (it : FindIt) :
    Holds (fun e => da.NextNoFuel → e ≠ .fuel)
      (fun stp => StepSpec (· < ·) it.src stp.it.src stp.result) (FindIt.next da it) :=
  FindIt.next_eq da it ▸ (NoSufIt.next_spec da ⟨it.src, rootIdx⟩).map

/-- A match drained from a pending output chain pulls nothing; otherwise `next()` scans. -/
theorem OvIt.next_spec (da : DA V) {it : OvIt} (hinv : it.Inv) :
    Holds (fun _ => True) (fun stp => stp.it.Inv ∧ StepSpec (· ≤ ·) it.src stp.it.src stp.result)
      (OvIt.next da it) := by
  unfold OvIt.next
  refine .ite (fun hp => ?_) (fun hp => ?_)
  · cases da.out it.opos with
    | error e => trivial
    | ok o =>
      have := hinv hp
      exact ⟨fun _ => this, rfl, fun m hm => by cases hm; exact ⟨this, Nat.le_refl _⟩, nofun⟩
  · exact (scanOv_spec da _ it (Decidable.not_not.mp hp)).mono (fun _ _ => trivial)
      (fun stp ⟨j0, j⟩ => ⟨j0, j.conserve, fun m hm => ⟨(j.stop m hm).1, Nat.le_of_lt (j.stop m hm).2⟩,
        j.done⟩)

/-- Every recorded match ends exactly at the number of bytes pulled when it was returned. -/
def Lazy (l : List (Match V × Nat)) : Prop := ∀ x ∈ l, x.1.stop = x.2

/-- `P` is an invariant of the iterator, `R` the relation (`≤` or `<`) by which `pulled` grows at
each returned match. -/
theorem collectWith_spec {σ : Type} {next : σ → Except Fault (Step σ V)} (src : σ → Src)
    (P : σ → Prop) {R : Nat → Nat → Prop} (hR : ∀ a b c, R a b → R b c → R a c)
    {E : Fault → Prop}
    (hstep : ∀ it, P it →
      Holds E (fun stp => P stp.it ∧ StepSpec R (src it) (src stp.it) stp.result) (next it))
    (fuel : Nat) (it : σ) (hP : P it) :
    Holds (fun _ => True)
      (fun (l, fin) => Lazy l ∧ fin = (src it).pulled + (src it).rest.length ∧
        (l.map (·.2)).Pairwise R ∧ ∀ x ∈ l, R (src it).pulled x.2)
      (collectWith next (fun it => (src it).pulled) fuel it) := by
  fun_induction collectWith next (fun it => (src it).pulled) fuel it with
  | case1 | case2 | case4 => trivial
  | case3 _ it it' hn =>
    obtain ⟨_, p⟩ := (hstep it hP).of_ok hn
    have := p.conserve
    rw [p.done rfl, List.length_nil] at this
    exact ⟨nofun, this, .nil, nofun⟩
  | case5 _ it m it' hn ms fin hc ih =>
    obtain ⟨hP', p⟩ := (hstep it hP).of_ok hn
    obtain ⟨p2, p3⟩ := p.stop m rfl
    obtain ⟨q1, q2, q3, q4⟩ := (ih hP').of_ok hc
    refine ⟨?_, q2.trans p.conserve, ?_, ?_⟩
    · intro x hx
      rcases List.mem_cons.mp hx with rfl | hx
      · exact p2
      · exact q1 x hx
    · refine List.pairwise_cons.mpr ⟨fun b hb => ?_, q3⟩
      obtain ⟨x, hx, rfl⟩ := List.mem_map.mp hb
      exact q4 x hx
    · intro x hx
      rcases List.mem_cons.mp hx with rfl | hx
      · exact p3
      · exact hR _ _ _ p3 (q4 x hx)

theorem findAll_lazy {da : DA V} {h : List Nat} {l : List (Match V × Nat)} {fin : Nat}
    (hr : findAll da h = .ok (l, fin)) :
    Lazy l ∧ fin = h.length ∧ (l.map (·.2)).Pairwise (· < ·) := by
  obtain ⟨h1, h2, h3, _⟩ := (collectWith_spec (fun it : FindIt => it.src) (fun _ => True)
    (R := (· < ·)) (fun _ _ _ => Nat.lt_trans)
    (fun it _ => (FindIt.next_spec da it).mono (fun _ h => h) (fun _ h => ⟨trivial, h⟩))
    _ ⟨startSrc h⟩ trivial).of_ok hr
  exact ⟨h1, h2.trans (Nat.zero_add _), h3⟩

theorem noSufAll_lazy {da : DA V} {h : List Nat} {l : List (Match V × Nat)} {fin : Nat}
    (hr : noSufAll da h = .ok (l, fin)) :
    Lazy l ∧ fin = h.length ∧ (l.map (·.2)).Pairwise (· < ·) := by
  obtain ⟨h1, h2, h3, _⟩ := (collectWith_spec (fun it : NoSufIt => it.src) (fun _ => True)
    (R := (· < ·)) (fun _ _ _ => Nat.lt_trans)
    (fun it _ => (NoSufIt.next_spec da it).mono (fun _ h => h) (fun _ h => ⟨trivial, h⟩))
    _ ⟨startSrc h, rootIdx⟩ trivial).of_ok hr
  exact ⟨h1, h2.trans (Nat.zero_add _), h3⟩

theorem ovAll_lazy {da : DA V} {h : List Nat} {l : List (Match V × Nat)} {fin : Nat}
    (hr : ovAll da h = .ok (l, fin)) :
    Lazy l ∧ fin = h.length ∧ (l.map (·.2)).Pairwise (· ≤ ·) := by
  obtain ⟨h1, h2, h3, _⟩ := (collectWith_spec (fun it : OvIt => it.src) OvIt.Inv
    (R := (· ≤ ·)) (fun _ _ _ => Nat.le_trans)
    (fun it hinv => OvIt.next_spec da hinv) _ ⟨startSrc h, rootIdx, 0, 0⟩ (fun hc => absurd rfl hc)).of_ok hr
  exact ⟨h1, h2.trans (Nat.zero_add _), h3⟩

/-- Every returned match consumes input, so more fuel than bytes left is enough. -/
theorem collectWith_fuel_ok {σ : Type} {next : σ → Except Fault (Step σ V)} (src : σ → Src)
    (hstep : ∀ it, Holds (· ≠ .fuel) (fun stp => StepSpec (· < ·) (src it) (src stp.it) stp.result)
      (next it))
    (fuel : Nat) (it : σ) (hf : (src it).rest.length < fuel) :
    collectWith next (fun it => (src it).pulled) fuel it ≠ .error .fuel := by
  fun_induction collectWith next (fun it => (src it).pulled) fuel it with
  | case1 => exact absurd hf (Nat.not_lt_zero _)
  | case2 _ it e hn => exact fun h => (hstep it).of_error hn (Except.error.inj h)
  | case3 | case5 => nofun
  | case4 _ it m it' hn e hc ih =>
    have p := (hstep it).of_ok hn
    have hc' : (src it').pulled + (src it').rest.length = (src it).pulled + (src it).rest.length :=
      p.conserve
    have hlt : (src it').rest.length < (src it).rest.length :=
      Nat.lt_of_add_lt_add_left (hc' ▸ Nat.add_lt_add_right (p.stop m rfl).2 _)
    exact fun h => ih (Nat.lt_of_lt_of_le hlt (Nat.le_of_lt_succ hf)) (hc.trans h)

theorem collectFuel_gt (da : DA V) (h : List Nat) : h.length < collectFuel da h :=
  Nat.lt_succ_of_le (Nat.le_trans (Nat.le_succ _) (Nat.le_mul_of_pos_right _ (Nat.succ_pos _)))

theorem findAll_fuel_ok_partial {da : DA V} (hn : da.NextNoFuel) (h : List Nat) :
    findAll da h ≠ .error .fuel :=
  collectWith_fuel_ok (fun it : FindIt => it.src)
    (fun it => (FindIt.next_spec da it).mono (fun _ he => he hn) (fun _ h => h))
    _ ⟨startSrc h⟩ (collectFuel_gt da h)

theorem noSufAll_fuel_ok_partial {da : DA V} (hn : da.NextNoFuel) (h : List Nat) :
    noSufAll da h ≠ .error .fuel :=
  collectWith_fuel_ok (fun it : NoSufIt => it.src)
    (fun it => (NoSufIt.next_spec da it).mono (fun _ he => he hn) (fun _ h => h))
    _ ⟨startSrc h, rootIdx⟩ (collectFuel_gt da h)

#print axioms findAll_lazy
#print axioms noSufAll_lazy
#print axioms ovAll_lazy
#print axioms findAll_fuel_ok_partial
#print axioms noSufAll_fuel_ok_partial
