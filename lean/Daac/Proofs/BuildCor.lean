/-
Corollaries about the whole construction pipeline `buildDA` (`Daac/Model/Build.lean`):
it succeeds only on valid collections, fails in the insertion phase with a documented error on
invalid ones, records kind and variant, reports `1 + #distinct non-empty prefixes` states, and
(for the non-leftmost-first kinds) does not depend on the order of the patterns.
-/
import Daac.Model.Build
import Daac.Proofs.TrieFacts
namespace Daac
variable {V : Type}

def buildRest (variant : Variant) (cfg : Cfg) (mapper : Mapper) (t : Trie V) (len : Nat) :
    Except BuildErr (DA V) :=
  if len = 0 then .error .invalidArgument else
  if variant = .bytewise ∧ len > u24Max then .error .automatonScale else
  let nfa := buildNfa t (cfg.kind != 0)
  match buildLayout variant cfg mapper t nfa with
  | .error e => .error e
  | .ok states =>
    .ok { variant := variant, states := states, outputs := nfa.out.outs, mapTable := mapper.table,
          alphaSize := mapper.alphaSize, kind := cfg.kind, numStates := t.size }

def mapperFor (variant : Variant) (P : List (LPat V)) : Mapper :=
  match variant with
  | .bytewise => (⟨#[], 0⟩ : Mapper)
  | .charwise => Mapper.build P

theorem buildDA_eq (variant : Variant) (cfg : Cfg) (P : List (LPat V)) :
    buildDA variant cfg P =
      if cfg.nfb = 0 then .error (.panic "assert!(n >= 1)") else
      match NfaAcc.init.addAll (cfg.kind == 2) P with
      | .error e => .error e
      | .ok acc => buildRest variant cfg (mapperFor variant P) acc.trie acc.len := by
  rfl

theorem buildRest_ok (variant : Variant) (cfg : Cfg) (m : Mapper) (t : Trie V) (len : Nat)
    (da : DA V) (h : buildRest variant cfg m t len = .ok da) :
    len ≠ 0 ∧ da.kind = cfg.kind ∧ da.variant = variant ∧ da.numStates = t.size := by
  unfold buildRest at h
  split at h
  · cases h
  · rename_i hl
    refine ⟨hl, ?_⟩
    split at h
    · cases h
    · simp only at h
      split at h
      · cases h
      · cases h; exact ⟨rfl, rfl, rfl⟩

theorem buildDA_ok_decomp (variant : Variant) (cfg : Cfg) (P : List (LPat V)) (da : DA V)
    (h : buildDA variant cfg P = .ok da) :
    cfg.nfb ≠ 0 ∧ ∃ acc, NfaAcc.init.addAll (cfg.kind == 2) P = .ok acc ∧ acc.len ≠ 0 ∧
      buildTrie cfg.kind P = .ok acc.trie ∧
      buildRest variant cfg (mapperFor variant P) acc.trie acc.len = .ok da := by
  rw [buildDA_eq] at h
  split at h
  · cases h
  · rename_i h0
    cases hadd : NfaAcc.init.addAll (cfg.kind == 2) P with
    | error e => rw [hadd] at h; cases h
    | ok acc =>
      rw [hadd] at h
      have hl := (buildRest_ok _ _ _ _ _ _ h).1
      refine ⟨h0, acc, rfl, hl, ?_, h⟩
      unfold buildTrie
      rw [hadd]
      exact if_neg hl

theorem buildDA_ok_valid (variant : Variant) (cfg : Cfg) (P : List (LPat V)) (h : keysOk P)
    (da : DA V) : buildDA variant cfg P = .ok da →
      P ≠ [] ∧ (∀ p ∈ P, p.key ≠ []) ∧ (P.map (·.key)).Nodup := by
  intro hb
  obtain ⟨_, acc, _, _, ht, _⟩ := buildDA_ok_decomp variant cfg P da hb
  exact (buildTrie_ok_iff cfg.kind P h).mp ⟨_, ht⟩

theorem buildDA_of_buildTrie_err (variant : Variant) (cfg : Cfg) (P : List (LPat V))
    (hn : cfg.nfb ≠ 0) (e : BuildErr) (he : buildTrie cfg.kind P = .error e) :
    buildDA variant cfg P = .error e := by
  rw [buildDA_eq, if_neg hn]
  unfold buildTrie at he
  cases hadd : NfaAcc.init.addAll (cfg.kind == 2) P with
  | error e' =>
    rw [hadd] at he
    cases he
    rfl
  | ok acc =>
    rw [hadd] at he
    simp only at he
    split at he
    · rename_i hl
      cases he
      exact if_pos hl
    · cases he

theorem buildDA_invalid_err (variant : Variant) (cfg : Cfg) (P : List (LPat V)) (h : keysOk P)
    (hn : cfg.nfb ≠ 0)
    (hinv : ¬ (P ≠ [] ∧ (∀ p ∈ P, p.key ≠ []) ∧ (P.map (·.key)).Nodup)) :
    ∃ e, buildDA variant cfg P = .error e ∧
      ((e = .invalidArgument ∧ (P = [] ∨ ∃ p ∈ P, p.key = [])) ∨
       (e = .duplicatePattern ∧ ¬ (P.map (·.key)).Nodup)) := by
  cases ht : buildTrie cfg.kind P with
  | ok t => exact absurd ((buildTrie_ok_iff cfg.kind P h).mp ⟨t, ht⟩) hinv
  | error e =>
    exact ⟨e, buildDA_of_buildTrie_err variant cfg P hn e ht, buildTrie_err_kind cfg.kind P h e ht⟩

theorem buildDA_kind_variant (variant : Variant) (cfg : Cfg) (P : List (LPat V)) (da : DA V) :
    buildDA variant cfg P = .ok da → da.kind = cfg.kind ∧ da.variant = variant := by
  intro hb
  obtain ⟨_, acc, _, _, _, hr⟩ := buildDA_ok_decomp variant cfg P da hb
  have := buildRest_ok _ _ _ _ _ _ hr
  exact ⟨this.2.1, this.2.2.1⟩

theorem buildDA_numStates (variant : Variant) (cfg : Cfg) (P : List (LPat V)) (h : keysOk P)
    (da : DA V) (hb : buildDA variant cfg P = .ok da) (L : List (List Nat)) (hL : L.Nodup)
    (hmem : ∀ u, u ∈ L ↔
      ∃ k ∈ retainedKeys (cfg.kind == 2) (P.map (·.key)), u ∈ nprefixes k) :
    da.numStates = 1 + L.length := by
  obtain ⟨_, acc, _, _, ht, hr⟩ := buildDA_ok_decomp variant cfg P da hb
  have := (buildRest_ok _ _ _ _ _ _ hr).2.2.2
  rw [this, buildTrie_size cfg.kind P h acc.trie ht L hL hmem]

def Mapper.ofFreqs (len : Nat) (freqs : Array Nat) : Mapper := Id.run do
  let mut sorted : List (Nat × Nat) := []
  for c in [0:len] do
    if freqs[c]! != 0 then sorted := insertFreq (c, freqs[c]!) sorted
  let mut table : Array Nat := Array.replicate len invalidCode
  let mut i := 0
  for x in sorted do
    table := table.set! x.1 i
    i := i + 1
  return ⟨table, sorted.length⟩

def maxLabel (P : List (LPat V)) : Nat := P.foldl (fun m p => p.key.foldl max m) 0
def tableLen (P : List (LPat V)) : Nat :=
  if P.any (fun p => !p.key.isEmpty) then maxLabel P + 1 else 0

def bump (a : Array Nat) (c : Nat) : Array Nat := a.modify c (· + 1)

def freqsOf (len : Nat) (P : List (LPat V)) : Array Nat :=
  (P.flatMap (·.key)).foldl bump (Array.replicate len 0)

theorem Mapper.build_eq (P : List (LPat V)) :
    Mapper.build P = Mapper.ofFreqs (tableLen P) (freqsOf (tableLen P) P) := by
  have hf : freqsOf (tableLen P) P = Id.run (do
      let mut freqs : Array Nat := Array.replicate (tableLen P) 0
      for p in P do
        for c in p.key do
          freqs := freqs.modify c (· + 1)
      return freqs) := by
    simp [freqsOf, List.foldl_flatMap]
    rfl
  rw [hf]
  rfl

theorem bump_comm (a : Array Nat) (i j : Nat) : bump (bump a i) j = bump (bump a j) i := by
  unfold bump
  apply Array.ext_getElem?
  intro k
  rw [Array.getElem?_modify, Array.getElem?_modify, Array.getElem?_modify, Array.getElem?_modify]
  split <;> split <;> rfl

theorem foldl_max_le_iff {L : List Nat} {m N : Nat} :
    L.foldl max m ≤ N ↔ m ≤ N ∧ ∀ c ∈ L, c ≤ N := by
  induction L generalizing m with
  | nil => exact ⟨fun h => ⟨h, nofun⟩, fun h => h.1⟩
  | cons a L ih => rw [List.foldl_cons, ih, Nat.max_le, List.forall_mem_cons, and_assoc]

theorem foldl_keys_max_le {P : List (LPat V)} {m N : Nat} :
    P.foldl (fun m p => p.key.foldl max m) m ≤ N ↔ m ≤ N ∧ ∀ p ∈ P, ∀ c ∈ p.key, c ≤ N := by
  induction P generalizing m with
  | nil => exact ⟨fun h => ⟨h, nofun⟩, fun h => h.1⟩
  | cons p P ih => rw [List.foldl_cons, ih, foldl_max_le_iff, List.forall_mem_cons, and_assoc]

theorem maxLabel_le {P : List (LPat V)} {N : Nat} :
    maxLabel P ≤ N ↔ ∀ p ∈ P, ∀ c ∈ p.key, c ≤ N :=
  foldl_keys_max_le.trans (and_iff_right (Nat.zero_le N))

theorem maxLabel_perm {P P' : List (LPat V)} (hp : P.Perm P') : maxLabel P = maxLabel P' :=
  Nat.le_antisymm
    (maxLabel_le.2 fun p h => maxLabel_le.1 (Nat.le_refl _) p (hp.mem_iff.1 h))
    (maxLabel_le.2 fun p h => maxLabel_le.1 (Nat.le_refl _) p (hp.mem_iff.2 h))

theorem tableLen_lt_of_labels (P : List (LPat V)) (N : Nat) (hN : 1 < N)
    (h : ∀ p ∈ P, ∀ c ∈ p.key, c + 1 < N) : tableLen P < N := by
  unfold tableLen
  split
  · have : maxLabel P ≤ N - 2 := maxLabel_le.2 fun p hp c hc => Nat.le_sub_of_add_le (h p hp c hc)
    omega
  · exact Nat.lt_trans Nat.zero_lt_one hN

theorem tableLen_perm {P P' : List (LPat V)} (hp : P.Perm P') : tableLen P = tableLen P' := by
  unfold tableLen
  rw [hp.any_eq, maxLabel_perm hp]

theorem freqsOf_perm (len : Nat) {P P' : List (LPat V)} (hp : P.Perm P') :
    freqsOf len P = freqsOf len P' :=
  (hp.flatMap_right _).foldl_eq' (fun x _ y _ z => bump_comm z x y) _

theorem Mapper.build_perm {P P' : List (LPat V)} (hp : P.Perm P') :
    Mapper.build P = Mapper.build P' := by
  rw [Mapper.build_eq, Mapper.build_eq, tableLen_perm hp, freqsOf_perm _ hp]

theorem mapperFor_perm (variant : Variant) {P P' : List (LPat V)} (hp : P.Perm P') :
    mapperFor variant P = mapperFor variant P' := by
  cases variant
  · rfl
  · exact Mapper.build_perm hp

/-- Order independence of the whole pipeline (standard and leftmost-longest kinds), given order
independence of the insertion phase (`hadd`, provided by `addAll_perm` of `TriePerm.lean`). -/
theorem buildDA_perm (variant : Variant) (cfg : Cfg) (hk : cfg.kind ≠ 2) (P P' : List (LPat V))
    (hp : P.Perm P')
    (hadd : ∀ a1, NfaAcc.init.addAll false P = .ok a1 →
      ∃ a2, NfaAcc.init.addAll false P' = .ok a2 ∧ a2.trie = a1.trie ∧ a2.len = a1.len)
    (da : DA V) : buildDA variant cfg P = .ok da → buildDA variant cfg P' = .ok da := by
  intro hb
  have hlf : (cfg.kind == 2) = false := by simpa using hk
  obtain ⟨hn, acc, ha, _, _, hr⟩ := buildDA_ok_decomp variant cfg P da hb
  rw [hlf] at ha
  obtain ⟨a2, h2, ht, hl⟩ := hadd acc ha
  rw [buildDA_eq]
  simp only [hn, if_false, hlf, h2]
  rw [ht, hl, ← mapperFor_perm variant hp]
  exact hr

#print axioms buildDA_ok_valid
#print axioms buildDA_invalid_err
#print axioms buildDA_kind_variant
#print axioms buildDA_numStates
#print axioms Mapper.build_perm
#print axioms buildDA_perm
end Daac
