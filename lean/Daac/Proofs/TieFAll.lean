/-
Translation tie, sparse-NFA construction end to end: the GENERATED insertion fold (`add` from
`NfaBuilder::new`), the fail pass selected by the match kind and `build_outputs`
(Daac/Gen/Nfa.lean, from `src/nfa_builder.rs`; the sequencing mirrors `build_sparse_nfa` of
src/bytewise/builder.rs / src/charwise/builder.rs) refine the hand-written model
`buildTrie` / `buildNfa` (Daac/Model/Trie.lean, Daac/Model/Nfa.lean).
-/
import Daac.Proofs.TieFLm
import Daac.Proofs.TieFFresh
namespace Daac.Tie.F
open Daac Daac.Gen Daac.Gen.N Daac.Tie.N

variable {V : Type}

/-- `match self.match_kind { Standard => nfa.build_fails(), LeftmostLongest | LeftmostFirst =>
nfa.build_fails_leftmost() }` of `build_sparse_nfa` (kinds as bytes: `Gen.kindBytes`). -/
def failPass (kind : Nat) (g : NfaBuilder V) : Except BuildErr (Array Nat × NfaBuilder V) :=
  if kind = 0 then NfaBuilder.build_fails g else NfaBuilder.build_fails_leftmost g

theorem passes_refine (kind : Nat) (g : NfaBuilder V) (pth : Pth) (t : Trie V)
    (hrep : Rep g.states pth t 0 [])
    (hfail0 : ∀ (i : Nat) (s : NfaBuilderState V), g.states[i]? = some s → s.fail = 0)
    (hpos0 : ∀ (i : Nat) (s : NfaBuilderState V), g.states[i]? = some s → s.output_pos = none)
    (hout0 : g.outputs = #[])
    (hd1 : ∃ sd : NfaBuilderState V, g.states[Gen.deadStateId]? = some sd) (hpd : pth Gen.deadStateId = none)
    (hne : t.queue ≠ []) (hsz : g.states.size ≤ 4294967295) :
    ∃ q g1 g2, failPass kind g = .ok (q, g1) ∧ NfaBuilder.build_outputs g1 q = .ok ((), g2) ∧
      SameShape g.states g2.states ∧ q.toList.map pth = t.queue.map some ∧
      (∀ u i, idAt g.states 0 u = some i → ∃ s : NfaBuilderState V, g2.states[i]? = some s ∧
        FailRel g.states ((buildNfa t (kind != 0)).fail.get u) s.fail ∧
        OposRel s.output_pos ((buildNfa t (kind != 0)).out.opos.getD u 0)) ∧
      OutsRel g2.outputs (buildNfa t (kind != 0)).out.outs := by
  have hfail : ∃ q g1, failPass kind g = .ok (q, g1) ∧ Passed g t (buildFailMap t (kind != 0)) q g1 := by
    unfold failPass
    by_cases hk : kind = 0
    · rw [if_pos hk, hk]; exact build_fails_refines g pth t hrep hfail0
    · rw [if_neg hk, bne_iff_ne.mpr hk]; exact build_fails_leftmost_refines g pth t hrep hpd hfail0
  obtain ⟨q, g1, h1, hp⟩ := hfail
  obtain ⟨g2, h2, r⟩ := pass_then_outputs g g1 pth t (buildFailMap t (kind != 0)) q hrep hpos0 hout0 hd1
    hpd hne hsz hp
  exact ⟨q, g1, g2, h1, h2, r⟩

/-- `sparse_nfa_refines` below, stated against the model accumulator `a` of the insertion fold (its
trie is the `t` there) and with the ghost labelling known to leave the dead state unlabelled. -/
theorem sparse_nfa_refines' (nb : Nat → Nat) (kind : Nat) (P : List (LPat V)) (g : NfaBuilder V)
    (hsz : 2 + (P.map (·.key.length)).sum ≤ 4294967295)
    (hlen : ∀ p ∈ P, (p.key.map nb).sum = p.blen ∧ p.blen ≤ 4294967295)
    (hadd : addAllGen nb (NfaBuilder.new kind) P = .ok g) (hl : g.len ≠ 0) :
    ∃ a pth q g1 g2, (NfaAcc.init : NfaAcc V).addAll (kind == 2) P = .ok a ∧ g.len = a.len ∧
      Rep g.states pth a.trie 0 [] ∧ pth Gen.deadStateId = none ∧
      failPass kind g = .ok (q, g1) ∧ NfaBuilder.build_outputs g1 q = .ok ((), g2) ∧
      SameShape g.states g2.states ∧ q.toList.map pth = a.trie.queue.map some ∧
      (∀ u i, idAt g.states 0 u = some i → ∃ s : NfaBuilderState V, g2.states[i]? = some s ∧
        FailRel g.states ((buildNfa a.trie (kind != 0)).fail.get u) s.fail ∧
        OposRel s.output_pos ((buildNfa a.trie (kind != 0)).out.opos.getD u 0)) ∧
      OutsRel g2.outputs (buildNfa a.trie (kind != 0)).out.outs := by
  rcases (build_agree nb kind P hsz hlen).cases with ⟨e, hg, _⟩ | ⟨g', a, hg, hm, pth, hrep, hlen', _, hd, hpd⟩
  · rw [hadd] at hg; cases hg
  · rw [hadd] at hg; cases hg
    have hal : a.len ≠ 0 := hlen' ▸ hl
    obtain ⟨⟨hfr, hout0⟩, hsize, _⟩ := addAllGen_fresh nb P (NfaBuilder.new kind) g hadd (new_fresh kind)
    have hne : a.trie.queue ≠ [] := queue_ne_nil_of_len (kind == 2) P a hm
      (fun p hp hk => by
        have := (hlen p hp).1
        rw [hk] at this; exact this.symm) hal
    obtain ⟨q, g1, g2, h1, h2, r⟩ := passes_refine kind g pth a.trie hrep (fun i s hs => (hfr i s hs).1)
      (fun i s hs => (hfr i s hs).2) hout0 ⟨_, hd⟩ hpd hne (Nat.le_trans hsize hsz)
    exact ⟨a, pth, q, g1, g2, hm, hlen', hrep, hpd, h1, h2, r⟩

/-- If the translated insertion fold succeeds and registered a pattern, the translated fail pass and
`build_outputs` succeed (no panic, no fuel exhaustion) and the final builder represents
`buildNfa t (kind != 0)` for the model trie `t = buildTrie kind P`: queue, fail links, output
positions and output records. `hsz`: the u32 scale bound; `hlen`: `blen` is the byte length of `key`
under `nb`. -/
theorem sparse_nfa_refines (nb : Nat → Nat) (kind : Nat) (P : List (LPat V)) (g : NfaBuilder V)
    (hsz : 2 + (P.map (·.key.length)).sum ≤ 4294967295)
    (hlen : ∀ p ∈ P, (p.key.map nb).sum = p.blen ∧ p.blen ≤ 4294967295)
    (hadd : addAllGen nb (NfaBuilder.new kind) P = .ok g) (hl : g.len ≠ 0) :
    ∃ t pth q g1 g2, buildTrie kind P = .ok t ∧ Rep g.states pth t 0 [] ∧
      failPass kind g = .ok (q, g1) ∧ NfaBuilder.build_outputs g1 q = .ok ((), g2) ∧
      SameShape g.states g2.states ∧ q.toList.map pth = t.queue.map some ∧
      (∀ u i, idAt g.states 0 u = some i → ∃ s : NfaBuilderState V, g2.states[i]? = some s ∧
        FailRel g.states ((buildNfa t (kind != 0)).fail.get u) s.fail ∧
        OposRel s.output_pos ((buildNfa t (kind != 0)).out.opos.getD u 0)) ∧
      OutsRel g2.outputs (buildNfa t (kind != 0)).out.outs := by
  obtain ⟨a, pth, q, g1, g2, hm, hlen', hrep, _, r⟩ := sparse_nfa_refines' nb kind P g hsz hlen hadd hl
  have hal : ¬ a.len = 0 := hlen' ▸ hl
  exact ⟨a.trie, pth, q, g1, g2, by simp only [buildTrie, hm, if_neg hal], hrep, r⟩

end Daac.Tie.F
