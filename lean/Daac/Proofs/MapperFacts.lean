/-
Facts about the code mapper `Mapper.build` (`Daac/Model/Build.lean`): codes are dense
(`< alphaSize`), injective, and every code point occurring in a pattern is mapped.
-/
import Daac.Proofs.BuildCor
namespace Daac
variable {V : Type}

def sortedOf (len : Nat) (freqs : Array Nat) : List (Nat × Nat) :=
  (List.range' 0 len).foldl
    (fun s c => if freqs[c]! = 0 then s else insertFreq (c, freqs[c]!) s) []

def fillTable (sorted : List (Nat × Nat)) (table : Array Nat) (i : Nat) : Array Nat :=
  match sorted with
  | [] => table
  | x :: r => fillTable r (table.setIfInBounds x.1 i) (i + 1)

theorem forIn_ite_yield {α β : Type} (l : List α) (p : α → Prop) [DecidablePred p]
    (g : α → β → β) (init : β) :
    (forIn (m := Id) l init fun c s =>
        if p c then pure (ForInStep.yield s) else pure (ForInStep.yield (g c s))) =
      pure (l.foldl (fun s c => if p c then s else g c s) init) := by
  induction l generalizing init with
  | nil => rfl
  | cons a l ih =>
    rw [List.forIn_cons, List.foldl_cons]
    by_cases h : p a
    · rw [if_pos h, if_pos h]; exact ih _
    · rw [if_neg h, if_neg h]; exact ih _

theorem fillTable_foldl (l : List (Nat × Nat)) (t : Array Nat) (i : Nat) :
    (List.foldl (fun (b : Array Nat × Nat) (a : Nat × Nat) =>
      (b.fst.setIfInBounds a.fst b.snd, b.snd + 1)) (t, i) l).fst = fillTable l t i := by
  induction l generalizing t i with
  | nil => rfl
  | cons a l ih => simp only [List.foldl_cons, fillTable]; exact ih _ _

theorem Mapper.ofFreqs_eq (len : Nat) (freqs : Array Nat) :
    Mapper.ofFreqs len freqs =
      ⟨fillTable (sortedOf len freqs) (Array.replicate len invalidCode) 0,
        (sortedOf len freqs).length⟩ := by
  unfold Mapper.ofFreqs
  simp
  rw [forIn_ite_yield (List.range' 0 len) (fun c => freqs[c]! = 0)
    (fun c s => insertFreq (c, freqs[c]!) s) []]
  exact ⟨fillTable_foldl _ _ _, rfl⟩

theorem insertFreq_perm (x : Nat × Nat) (l : List (Nat × Nat)) : (insertFreq x l).Perm (x :: l) := by
  induction l with
  | nil => exact List.Perm.refl _
  | cons y r ih =>
    unfold insertFreq
    split
    · exact List.Perm.refl _
    · exact ((List.Perm.cons y ih).trans (List.Perm.swap x y r))

theorem insertFold_perm (f : Nat → Nat) (L : List Nat) (s : List (Nat × Nat)) :
    ((L.foldl (fun s c => if f c = 0 then s else insertFreq (c, f c) s) s).map Prod.fst).Perm
      (L.filter (fun c => f c ≠ 0) ++ s.map Prod.fst) := by
  induction L generalizing s with
  | nil => exact List.Perm.refl _
  | cons a L ih =>
    rw [List.foldl_cons]
    refine (ih _).trans ?_
    by_cases h : f a = 0
    · rw [if_pos h, List.filter_cons_of_neg (p := fun c => decide (f c ≠ 0))
        fun hd => of_decide_eq_true hd h]
    · rw [if_neg h, List.filter_cons_of_pos (p := fun c => decide (f c ≠ 0)) (decide_eq_true h)]
      exact (((insertFreq_perm (a, f a) s).map Prod.fst).append_left _).trans List.perm_middle

theorem sortedOf_perm (len : Nat) (freqs : Array Nat) :
    ((sortedOf len freqs).map Prod.fst).Perm
      ((List.range' 0 len).filter (fun c => freqs[c]! ≠ 0)) := by
  have h := insertFold_perm (fun c => freqs[c]!) (List.range' 0 len) []
  rwa [List.map_nil, List.append_nil] at h

theorem sortedOf_nodup (len : Nat) (freqs : Array Nat) :
    ((sortedOf len freqs).map Prod.fst).Nodup :=
  (sortedOf_perm len freqs).nodup_iff.mpr (List.Nodup.sublist List.filter_sublist List.nodup_range')

theorem mem_sortedOf (len : Nat) (freqs : Array Nat) (c : Nat) :
    c ∈ (sortedOf len freqs).map Prod.fst ↔ c < len ∧ freqs[c]! ≠ 0 := by
  rw [(sortedOf_perm len freqs).mem_iff, List.mem_filter, List.mem_range'_1]
  simp only [Nat.zero_le, Nat.zero_add, true_and, decide_eq_true_eq]

theorem sortedOf_length_le (len : Nat) (freqs : Array Nat) : (sortedOf len freqs).length ≤ len := by
  have h := (sortedOf_perm len freqs).length_eq
  have h2 := List.length_filter_le (fun c => decide (freqs[c]! ≠ 0)) (List.range' 0 len)
  rw [List.length_map] at h
  rw [List.length_range'] at h2
  exact h ▸ h2

theorem fillTable_size (l : List (Nat × Nat)) (t : Array Nat) (i : Nat) :
    (fillTable l t i).size = t.size := by
  induction l generalizing t i with
  | nil => rfl
  | cons x r ih => rw [fillTable, ih]; simp

theorem fillTable_not_mem (l : List (Nat × Nat)) (t : Array Nat) (i c : Nat)
    (hc : c ∉ l.map Prod.fst) : (fillTable l t i)[c]? = t[c]? := by
  induction l generalizing t i with
  | nil => rfl
  | cons x r ih =>
    simp only [List.map_cons, List.mem_cons, not_or] at hc
    rw [fillTable, ih _ _ hc.2, Array.getElem?_setIfInBounds_ne (Ne.symm hc.1)]

theorem fillTable_getElem (l : List (Nat × Nat)) (t : Array Nat) (i j : Nat)
    (hnd : (l.map Prod.fst).Nodup) (hlt : ∀ c ∈ l.map Prod.fst, c < t.size) (hj : j < l.length) :
    (fillTable l t i)[(l[j]).1]? = some (i + j) := by
  induction l generalizing t i j with
  | nil => simp at hj
  | cons x r ih =>
    obtain ⟨hx, hnd'⟩ := List.nodup_cons.1 hnd
    rw [fillTable]
    cases j with
    | zero =>
      rw [List.getElem_cons_zero, Nat.add_zero, fillTable_not_mem _ _ _ _ hx]
      exact Array.getElem?_setIfInBounds_self_of_lt (hlt x.1 List.mem_cons_self)
    | succ j =>
      rw [List.getElem_cons_succ, ih _ _ _ hnd'
        (fun c hc => by rw [Array.size_setIfInBounds]; exact hlt c (List.mem_cons_of_mem _ hc))
        (Nat.lt_of_succ_lt_succ hj), Nat.add_assoc, Nat.add_comm 1 j]

theorem ofFreqs_table_idx (len : Nat) (freqs : Array Nat) (j : Nat)
    (hj : j < (sortedOf len freqs).length) :
    (Mapper.ofFreqs len freqs).table[((sortedOf len freqs)[j]).1]? = some j := by
  rw [Mapper.ofFreqs_eq]
  have h := fillTable_getElem (sortedOf len freqs) (Array.replicate len invalidCode) 0 j
    (sortedOf_nodup len freqs)
    (fun c hc => by simpa using ((mem_sortedOf len freqs c).mp hc).1) hj
  simpa using h

theorem ofFreqs_table_not_mem (len : Nat) (freqs : Array Nat) (c : Nat)
    (hc : c ∉ (sortedOf len freqs).map Prod.fst) :
    (Mapper.ofFreqs len freqs).get c = none := by
  unfold Mapper.get
  rw [Mapper.ofFreqs_eq]
  simp only
  rw [fillTable_not_mem _ _ _ _ hc, Array.getElem?_replicate]
  by_cases hl : c < len <;> simp [hl]

theorem ofFreqs_get_some (len : Nat) (freqs : Array Nat) (c k : Nat)
    (h : (Mapper.ofFreqs len freqs).get c = some k) :
    ∃ hk : k < (sortedOf len freqs).length, ((sortedOf len freqs)[k]).1 = c := by
  by_cases hc : c ∈ (sortedOf len freqs).map Prod.fst
  · obtain ⟨j, hj, hjc⟩ := List.getElem_of_mem hc
    simp only [List.length_map] at hj
    simp only [List.getElem_map] at hjc
    have ht := ofFreqs_table_idx len freqs j hj
    rw [hjc] at ht
    unfold Mapper.get at h
    rw [ht] at h
    simp only at h
    split at h
    · cases h
    · cases h; exact ⟨hj, hjc⟩
  · rw [ofFreqs_table_not_mem len freqs c hc] at h; cases h

theorem ofFreqs_get_idx (len : Nat) (freqs : Array Nat) (hsz : len < 4294967295) (j : Nat)
    (hj : j < (sortedOf len freqs).length) :
    (Mapper.ofFreqs len freqs).get ((sortedOf len freqs)[j]).1 = some j := by
  unfold Mapper.get
  rw [ofFreqs_table_idx len freqs j hj]
  have hne : j ≠ invalidCode :=
    Nat.ne_of_lt (Nat.lt_trans (Nat.lt_of_lt_of_le hj (sortedOf_length_le len freqs)) hsz)
  exact if_neg hne

theorem ofFreqs_alphaSize (len : Nat) (freqs : Array Nat) :
    (Mapper.ofFreqs len freqs).alphaSize = (sortedOf len freqs).length := by
  rw [Mapper.ofFreqs_eq]

theorem ofFreqs_table_size (len : Nat) (freqs : Array Nat) :
    (Mapper.ofFreqs len freqs).table.size = len := by
  rw [Mapper.ofFreqs_eq]; simp [fillTable_size]

def MapperOk (m : Mapper) : Prop :=
  (∀ c k, m.get c = some k → k < m.alphaSize) ∧
  (∀ c c' k, m.get c = some k → m.get c' = some k → c = c')

theorem mapperOk_ofFreqs (len : Nat) (freqs : Array Nat) : MapperOk (Mapper.ofFreqs len freqs) := by
  refine ⟨fun c k h => ?_, fun c c' k h h' => ?_⟩
  · rw [ofFreqs_alphaSize]
    exact (ofFreqs_get_some len freqs c k h).1
  · obtain ⟨_, h1⟩ := ofFreqs_get_some len freqs c k h
    obtain ⟨_, h2⟩ := ofFreqs_get_some len freqs c' k h'
    rw [← h1, ← h2]

theorem label_lt_tableLen (P : List (LPat V)) (p : LPat V) (hp : p ∈ P) (c : Nat)
    (hc : c ∈ p.key) : c < tableLen P := by
  have hany : P.any (fun p => !p.key.isEmpty) = true :=
    List.any_eq_true.2 ⟨p, hp, by cases hk : p.key with
      | nil => rw [hk] at hc; cases hc
      | cons a r => rfl⟩
  unfold tableLen
  rw [hany, if_pos rfl]
  exact Nat.lt_succ_of_le (maxLabel_le.1 (Nat.le_refl _) p hp c hc)

theorem bump_size (a : Array Nat) (c : Nat) : (bump a c).size = a.size := by simp [bump]

theorem bump_get (a : Array Nat) (c d : Nat) :
    (bump a c)[d]! = if c = d ∧ d < a.size then a[d]! + 1 else a[d]! := by
  unfold bump
  by_cases hd : d < a.size
  · by_cases hcd : c = d <;> simp [Array.getElem_modify, hd, hcd]
  · simp [hd]

theorem foldl_bump_size (L : List Nat) (a : Array Nat) : (L.foldl bump a).size = a.size := by
  induction L generalizing a with
  | nil => rfl
  | cons x L ih => rw [List.foldl_cons, ih, bump_size]

theorem foldl_bump_mono (L : List Nat) (a : Array Nat) (d : Nat) :
    a[d]! ≤ (L.foldl bump a)[d]! := by
  induction L generalizing a with
  | nil => exact Nat.le_refl _
  | cons x L ih =>
    rw [List.foldl_cons]
    refine Nat.le_trans ?_ (ih _)
    rw [bump_get]
    split
    · exact Nat.le_succ _
    · exact Nat.le_refl _

theorem foldl_bump_pos (L : List Nat) (a : Array Nat) (d : Nat) (hd : d < a.size) (hm : d ∈ L) :
    (L.foldl bump a)[d]! ≠ 0 := by
  induction L generalizing a with
  | nil => cases hm
  | cons x L ih =>
    rw [List.foldl_cons]
    rcases List.mem_cons.mp hm with rfl | hm
    · have h1 := foldl_bump_mono L (bump a d) d
      rw [bump_get, if_pos ⟨rfl, hd⟩] at h1
      exact Nat.ne_of_gt (Nat.lt_of_lt_of_le (Nat.succ_pos _) h1)
    · exact ih _ (by rw [bump_size]; exact hd) hm

theorem freqsOf_label_ne_zero (P : List (LPat V)) (p : LPat V) (hp : p ∈ P) (c : Nat)
    (hc : c ∈ p.key) : (freqsOf (tableLen P) P)[c]! ≠ 0 := by
  unfold freqsOf
  exact foldl_bump_pos _ _ c (by simpa using label_lt_tableLen P p hp c hc)
    (List.mem_flatMap.mpr ⟨p, hp, hc⟩)

/-- Codes are dense and injective (no size hypothesis needed: a rank equal to `invalidCode`
would merely be read as "unmapped"). -/
theorem mapperOk_build' (P : List (LPat V)) : MapperOk (Mapper.build P) := by
  rw [Mapper.build_eq]; exact mapperOk_ofFreqs _ _

theorem mapperOk_build (P : List (LPat V)) (_hsz : tableLen P < 4294967295) :
    MapperOk (Mapper.build P) := mapperOk_build' P

theorem mapper_maps_labels (P : List (LPat V)) (hsz : tableLen P < 4294967295) :
    ∀ p ∈ P, ∀ c ∈ p.key, ∃ k, (Mapper.build P).get c = some k := by
  intro p hp c hc
  rw [Mapper.build_eq]
  have hmem := (mem_sortedOf (tableLen P) (freqsOf (tableLen P) P) c).mpr
    ⟨label_lt_tableLen P p hp c hc, freqsOf_label_ne_zero P p hp c hc⟩
  obtain ⟨j, hj, hjc⟩ := List.getElem_of_mem hmem
  simp only [List.length_map] at hj
  simp only [List.getElem_map] at hjc
  exact ⟨j, hjc ▸ ofFreqs_get_idx _ _ hsz j hj⟩

theorem mapper_alpha_le (P : List (LPat V)) :
    (Mapper.build P).alphaSize ≤ tableLen P ∧ (Mapper.build P).table.size = tableLen P := by
  rw [Mapper.build_eq, ofFreqs_alphaSize, ofFreqs_table_size]
  exact ⟨sortedOf_length_le _ _, rfl⟩

theorem mapper_get_some_used (P : List (LPat V)) (c k : Nat)
    (h : (Mapper.build P).get c = some k) :
    c < tableLen P ∧ (freqsOf (tableLen P) P)[c]! ≠ 0 := by
  rw [Mapper.build_eq] at h
  obtain ⟨hk, hkc⟩ := ofFreqs_get_some _ _ c k h
  refine (mem_sortedOf _ _ c).mp ?_
  rw [← hkc]
  exact List.mem_map.mpr ⟨_, List.getElem_mem hk, rfl⟩

#print axioms mapperOk_build
#print axioms mapper_maps_labels
#print axioms mapper_alpha_le
end Daac
