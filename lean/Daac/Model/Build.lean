/-
Model of the construction pipeline after the sparse NFA exists: the free-slot bookkeeping
(src/build_helper.rs), the code mapper (src/charwise/mapper.rs) and both double-array layout
passes (src/bytewise/builder.rs, src/charwise/builder.rs). Everything is a function of the trie
built by `Daac.buildTrie`, the NFA of `Daac.buildNfa` and the configuration, which is what makes
construction order-independent in the model.

Loops are structural or fuel-bounded recursions; asserts, `unwrap`s and out-of-range `Vec`
indexing are `BuildErr.panic`. Trie nodes are named by their path (`idx : path ↦ array index`
replaces `state_id_map`). Tied to the implementation by suite K-build (identical tables).
-/
import Daac.Model.Trie
import Daac.Model.Nfa
namespace Daac
variable {V : Type}

def rootId : Nat := Gen.rootStateId
def deadId : Nat := Gen.deadStateId

/-! ### `BuildHelper` -/

structure Helper where
  next : Array Nat
  prev : Array Nat
  usedBase : Array Bool
  usedIndex : Array Bool
  blockLen : Nat
  nfb : Nat
  numBlocks : Nat
  head : Option Nat

def u32Max : Nat := 4294967295

def Helper.new (blockLen nfb : Nat) : Except BuildErr Helper :=
  let cap := blockLen * nfb
  if cap > u32Max then .error .automatonScale
  else if cap = 0 then .error (.panic "assert_ne!(capacity, 0)")
  else .ok ⟨Array.replicate cap 0, Array.replicate cap 0, Array.replicate cap false,
            Array.replicate cap false, blockLen, nfb, 0, none⟩

def Helper.cap (h : Helper) : Nat := h.next.size
def Helper.numElements (h : Helper) : Nat := h.numBlocks * h.blockLen
def Helper.activeStart (h : Helper) : Nat := h.numBlocks - h.nfb
def Helper.droppedBlock (h : Helper) : Option Nat :=
  if h.cap ≤ h.numElements then some h.activeStart else none

/-- `offset`: asserts that `idx` is in the active index range. -/
def Helper.off (h : Helper) (idx : Nat) : Except BuildErr Nat :=
  if h.activeStart * h.blockLen ≤ idx && idx < h.numBlocks * h.blockLen then .ok (idx % h.cap)
  else .error (.panic "assert!(active_index_range().contains(&idx))")

def Helper.isUsedBase (h : Helper) (b : Nat) : Except BuildErr Bool :=
  match h.off b with
  | .error e => .error e
  | .ok o => .ok (h.usedBase.getD o false)

def Helper.isUsedIndex (h : Helper) (i : Nat) : Except BuildErr Bool :=
  match h.off i with
  | .error e => .error e
  | .ok o => .ok (h.usedIndex.getD o false)

def Helper.useBase (h : Helper) (b : Nat) : Except BuildErr Helper :=
  match h.off b with
  | .error e => .error e
  | .ok o => .ok { h with usedBase := h.usedBase.setIfInBounds o true }

/-- `use_index`: mark used, unlink from the circular vacant list, advance the head if needed. -/
def Helper.useIndex (h : Helper) (idx : Nat) : Except BuildErr Helper :=
  match h.off idx with
  | .error e => .error e
  | .ok o =>
    if h.usedIndex.getD o false then .error (.panic "debug_assert!(!is_used_index(idx))") else
    let nx := h.next.getD o 0
    let pv := h.prev.getD o 0
    match h.off pv with
    | .error e => .error e
    | .ok po =>
      match h.off nx with
      | .error e => .error e
      | .ok no =>
        match h.head with
        | none => .error (.panic "head_idx.unwrap()")
        | some hd =>
          .ok { h with usedIndex := h.usedIndex.setIfInBounds o true,
                       next := h.next.setIfInBounds po nx,
                       prev := h.prev.setIfInBounds no pv,
                       head := if hd = idx then (if nx ≠ idx then some nx else none) else some hd }

/-- The `while let Some(head_idx)` loop of `push_block`: mark the leftovers of the closed block
(vacant indices below `endIdx`) used. -/
def Helper.closeLoop : Nat → Nat → Helper → Except BuildErr Helper
  | 0, _, _ => .error (.panic "closing a block does not terminate")
  | fuel + 1, endIdx, h =>
    match h.head with
    | none => .ok h
    | some hd =>
      if endIdx ≤ hd then .ok h else
      match h.useIndex hd with
      | .error e => .error e
      | .ok h' => h'.closeLoop fuel endIdx

/-- The `for idx in old_len..new_len` loop of `push_block`: reset the items of the new block and
chain them `idx-1 ← idx → idx+1`. -/
def Helper.resetLoop : Nat → Nat → Helper → Except BuildErr Helper
  | 0, _, h => .ok h
  | n + 1, idx, h =>
    match h.off idx with
    | .error e => .error e
    | .ok o =>
      Helper.resetLoop n (idx + 1)
        { h with next := h.next.setIfInBounds o (idx + 1),
                 prev := h.prev.setIfInBounds o (if idx = 0 then u32Max else idx - 1),
                 usedBase := h.usedBase.setIfInBounds o false,
                 usedIndex := h.usedIndex.setIfInBounds o false }

/-- `push_block`. -/
def Helper.pushBlock (h0 : Helper) : Except BuildErr Helper :=
  if h0.numElements > u32Max - h0.blockLen then .error .automatonScale else
  let closed : Except BuildErr Helper :=
    match h0.droppedBlock with
    | some cb => h0.closeLoop (h0.blockLen + 1) ((cb + 1) * h0.blockLen)
    | none => .ok h0
  match closed with
  | .error e => .error e
  | .ok h1 =>
    let oldLen := h1.numElements
    let newLen := oldLen + h1.blockLen
    match Helper.resetLoop h1.blockLen oldLen { h1 with numBlocks := h1.numBlocks + 1 } with
    | .error e => .error e
    | .ok h2 =>
      match h2.head with
      | some hd =>
        match h2.off hd, h2.off oldLen, h2.off (newLen - 1) with
        | .ok ho, .ok oo, .ok no =>
          let tail := h2.prev.getD ho 0
          match h2.off tail with
          | .error e => .error e
          | .ok to =>
            let prev1 := h2.prev.setIfInBounds oo tail
            let next1 := h2.next.setIfInBounds to oldLen
            let next2 := next1.setIfInBounds no hd
            let prev2 := prev1.setIfInBounds ho (newLen - 1)
            .ok { h2 with next := next2, prev := prev2 }
        | .error e, _, _ => .error e
        | _, .error e, _ => .error e
        | _, _, .error e => .error e
      | none =>
        match h2.off oldLen, h2.off (newLen - 1) with
        | .ok oo, .ok no =>
          .ok { h2 with prev := h2.prev.setIfInBounds oo (newLen - 1),
                        next := h2.next.setIfInBounds no oldLen,
                        head := some oldLen }
        | .error e, _ => .error e
        | _, .error e => .error e

/-- The indices `vacant_iter()` yields, in order (fuel = capacity + 1). -/
def Helper.vacantFrom (h : Helper) (hd : Nat) : Nat → Nat → Except BuildErr (List Nat)
  | 0, _ => .ok []
  | fuel + 1, cur =>
    match h.off cur with
    | .error e => .error e
    | .ok o =>
      let nx := h.next.getD o 0
      if nx = hd then .ok [cur] else
      match h.vacantFrom hd fuel nx with
      | .error e => .error e
      | .ok l => .ok (cur :: l)

def Helper.vacant (h : Helper) : Except BuildErr (List Nat) :=
  match h.head with
  | none => .ok []
  | some hd => h.vacantFrom hd (h.cap + 1) hd

/-- `unused_base_in_block`: the first BASE value of the block that no state uses. -/
def Helper.unusedBaseFrom (h : Helper) : Nat → Nat → Except BuildErr (Option Nat)
  | 0, _ => .ok none
  | n + 1, base =>
    match h.isUsedBase base with
    | .error e => .error e
    | .ok false => .ok (some base)
    | .ok true => h.unusedBaseFrom n (base + 1)

def Helper.unusedBaseInBlock (h : Helper) (b : Nat) : Except BuildErr (Option Nat) :=
  h.unusedBaseFrom h.blockLen (b * h.blockLen)

/-! ### Code mapper -/

structure Mapper where
  table : Array Nat
  alphaSize : Nat

/-- Insertion into a list sorted by (frequency descending, code point ascending). -/
def insertFreq (x : Nat × Nat) : List (Nat × Nat) → List (Nat × Nat)
  | [] => [x]
  | y :: r => if x.2 > y.2 || (x.2 == y.2 && x.1 < y.1) then x :: y :: r else y :: insertFreq x r

/-- `CodeMapper::new(freqs)` where `freqs[c]` = number of occurrences of `c` in the patterns. -/
def Mapper.build (P : List (LPat V)) : Mapper := Id.run do
  let maxc := P.foldl (fun m p => p.key.foldl max m) 0
  let anyChar := P.any (fun p => !p.key.isEmpty)
  let len := if anyChar then maxc + 1 else 0
  let mut freqs : Array Nat := Array.replicate len 0
  for p in P do
    for c in p.key do
      freqs := freqs.modify c (· + 1)
  let mut sorted : List (Nat × Nat) := []
  for c in [0:len] do
    if freqs[c]! != 0 then sorted := insertFreq (c, freqs[c]!) sorted
  let mut table : Array Nat := Array.replicate len invalidCode
  let mut i := 0
  for x in sorted do
    table := table.set! x.1 i
    i := i + 1
  return ⟨table, sorted.length⟩

def Mapper.get (m : Mapper) (c : Nat) : Option Nat :=
  match m.table[c]? with
  | some code => if code = invalidCode then none else some code
  | none => none

def insertByCode (x : Nat × Nat) : List (Nat × Nat) → List (Nat × Nat)
  | [] => [x]
  | y :: r => if x.1 < y.1 then x :: y :: r else y :: insertByCode x r

/-! ### Layout (both variants) -/

structure Cfg where
  kind : Nat
  nfb : Nat

def u24Max : Nat := Gen.u24Max
def bytewiseBlockLen : Nat := Gen.blockLen

def stDefaultB : St := ⟨0, 0, 0, 0⟩
/-- `State::default()` of the char-wise automaton: CHECK and FAIL are the dead index. -/
def stDefaultC : St :=
  ⟨Gen.charStateDefault.1, Gen.charStateDefault.2.1, Gen.charStateDefault.2.2.1, Gen.charStateDefault.2.2.2⟩

def stDefault (v : Variant) : St :=
  match v with
  | .bytewise => stDefaultB
  | .charwise => stDefaultC

/-- State of the layout pass: the array, the helper, and `state_id_map` (by path). -/
structure Lay where
  states : Array St
  h : Helper
  idx : Std.HashMap (List Nat) Nat

/-- `self.states[i].f(..)` with Rust's bounds-checked indexing. -/
def setSt (states : Array St) (i : Nat) (f : St → St) : Except BuildErr (Array St) :=
  if i < states.size then .ok (states.modify i f) else .error (.panic "states[i]: index out of bounds")

/-- The loop body of `remove_invalid_checks` for the labels `c, c+1, …`. -/
def sanitiseLoop (h : Helper) (ub : Nat) : Nat → Nat → Array St → Except BuildErr (Array St)
  | 0, _, states => .ok states
  | n + 1, c, states =>
    let i := ub ^^^ c
    let vacant : Except BuildErr Bool :=
      if i = rootIdx ∨ i = deadIdx then .ok true else
      match h.isUsedIndex i with
      | .error e => .error e
      | .ok u => .ok (!u)
    match vacant with
    | .error e => .error e
    | .ok false => sanitiseLoop h ub n (c + 1) states
    | .ok true =>
      match setSt states i (fun s => { s with check := c }) with
      | .error e => .error e
      | .ok states' => sanitiseLoop h ub n (c + 1) states'

/-- `remove_invalid_checks(block_idx)`. -/
def removeInvalidChecks (states : Array St) (h : Helper) (b : Nat) : Except BuildErr (Array St) :=
  match h.unusedBaseInBlock b with
  | .error e => .error e
  | .ok none => .ok states
  | .ok (some ub) => sanitiseLoop h ub 256 0 states

/-- `check_valid_base` (byte-wise: the BASE must be unused) / `verify_base` (char-wise). -/
def allUnused (h : Helper) (b : Nat) : List Nat → Except BuildErr Bool
  | [] => .ok true
  | c :: cs =>
    match h.isUsedIndex (b ^^^ c) with
    | .error e => .error e
    | .ok true => .ok false
    | .ok false => allUnused h b cs

def baseOk (v : Variant) (h : Helper) (b : Nat) (codes : List Nat) : Except BuildErr Bool :=
  match v with
  | .bytewise =>
    match h.isUsedBase b with
    | .error e => .error e
    | .ok true => .ok false
    | .ok false =>
      match allUnused h b codes with
      | .error e => .error e
      | .ok r => .ok (r && b != 0)
  | .charwise =>
    match allUnused h b codes with
    | .error e => .error e
    | .ok r => .ok (r && b != 0)

/-- The `for idx in helper.vacant_iter()` loop of `find_base`. -/
def findBaseIn (v : Variant) (h : Helper) (c0 : Nat) (codes : List Nat) : List Nat → Except BuildErr (Option Nat)
  | [] => .ok none
  | i :: r =>
    match baseOk v h (i ^^^ c0) codes with
    | .error e => .error e
    | .ok true => .ok (some (i ^^^ c0))
    | .ok false => findBaseIn v h c0 codes r

/-- `find_base`: a valid BASE among the vacant indices, else the fallback just past the array. -/
def findBase (v : Variant) (lay : Lay) (codes : List Nat) : Except BuildErr Nat :=
  let c0 := codes.headD 0
  match lay.h.vacant with
  | .error e => .error e
  | .ok vac =>
    match findBaseIn v lay.h c0 codes vac with
    | .error e => .error e
    | .ok (some b) => .ok b
    | .ok none =>
      match v with
      | .bytewise => .ok lay.states.size
      | .charwise => .ok (lay.states.size ^^^ c0)

/-- `extend_array`. -/
def extendArray (v : Variant) (lay : Lay) : Except BuildErr Lay :=
  if lay.states.size > u32Max - lay.h.blockLen then .error .automatonScale else
  let sanitised : Except BuildErr (Array St) :=
    match v, lay.h.droppedBlock with
    | .bytewise, some cb => removeInvalidChecks lay.states lay.h cb
    | _, _ => .ok lay.states
  match sanitised with
  | .error e => .error e
  | .ok states =>
    match lay.h.pushBlock with
    | .error e => .error e
    | .ok h' => .ok { lay with states := states ++ Array.replicate lay.h.blockLen (stDefault v), h := h' }

/-- The `for (c, child) in edges` loop: claim the child's slot, write its CHECK, record its index. -/
def placeChildren (v : Variant) (sidx base : Nat) : List (Nat × List Nat) → Lay → Except BuildErr Lay
  | [], lay => .ok lay
  | (c, child) :: rest, lay =>
    let ci := base ^^^ c
    match lay.h.useIndex ci with
    | .error e => .error e
    | .ok h' =>
      let chk := match v with
        | .bytewise => c
        | .charwise => sidx
      match setSt lay.states ci (fun st => { st with check := chk }) with
      | .error e => .error e
      | .ok states' => placeChildren v sidx base rest ⟨states', h', lay.idx.insert child ci⟩

def insertByCodeP (x : Nat × List Nat) : List (Nat × List Nat) → List (Nat × List Nat)
  | [] => [x]
  | y :: r => if x.1 < y.1 then x :: y :: r else y :: insertByCodeP x r

/-- The labels of the edges of `u` with their codes, in the order the builder visits them:
label order for the byte-wise builder, `mapped.sort_by(code)` for the char-wise one. -/
def edgeCodes (v : Variant) (m : Mapper) (t : Trie V) (u : List Nat) : Except BuildErr (List (Nat × List Nat)) :=
  match v with
  | .bytewise => .ok ((t.childPaths u).map fun w => (w.getLastD 0, w))
  | .charwise =>
    (t.childPaths u).reverse.foldl (fun (acc : Except BuildErr (List (Nat × List Nat))) (w : List Nat) =>
      match acc, m.get (w.getLastD 0) with
      | .error e, _ => .error e
      | .ok l, some code => .ok (insertByCodeP (code, w) l)
      | .ok _, none => .error (.panic "mapper.get(label).unwrap()")) (.ok [])

/-- One iteration of `while let Some(state_id) = stack.pop()`. -/
def layoutStep (v : Variant) (m : Mapper) (t : Trie V) (u : List Nat) (stack : List (List Nat)) (lay : Lay) :
    Except BuildErr (List (List Nat) × Lay) :=
  match edgeCodes v m t u with
  | .error e => .error e
  | .ok [] => .ok (stack, lay)
  | .ok edges =>
    let sidx := lay.idx.getD u deadIdx
    let codes := edges.map (·.1)
    match findBase v lay codes with
    | .error e => .error e
    | .ok base =>
      let extended : Except BuildErr Lay :=
        if lay.states.size ≤ base then extendArray v lay else .ok lay
      match extended with
      | .error e => .error e
      | .ok lay1 =>
        match placeChildren v sidx base edges lay1 with
        | .error e => .error e
        | .ok lay2 =>
          match setSt lay2.states sidx (fun st => { st with base := base }) with
          | .error e => .error e
          | .ok states' =>
            let helper : Except BuildErr Helper :=
              match v with
              | .bytewise => lay2.h.useBase base
              | .charwise => .ok lay2.h
            match helper with
            | .error e => .error e
            | .ok h' => .ok ((edges.map (·.2)).reverse ++ stack, { lay2 with states := states', h := h' })

/-- The DFS loop over the stack of state ids. -/
def layoutLoop (v : Variant) (m : Mapper) (t : Trie V) : Nat → List (List Nat) → Lay → Except BuildErr Lay
  | _, [], lay => .ok lay
  | 0, _ :: _, _ => .error (.panic "layout loop does not terminate")
  | fuel + 1, u :: stack, lay =>
    match layoutStep v m t u stack lay with
    | .error e => .error e
    | .ok (stack', lay') => layoutLoop v m t fuel stack' lay'

/-- "Sets fail & output_pos values": one write per trie node. -/
def setFailOut (v : Variant) (nfa : Nfa V) : List (List Nat) → Lay → Except BuildErr Lay
  | [], lay => .ok lay
  | u :: rest, lay =>
    let i := lay.idx.getD u deadIdx
    let op := nfa.out.opos.getD u 0
    if v = .bytewise ∧ op > u24Max then .error .automatonScale else
    let f := match nfa.fail.get u with
      | .dead => deadIdx
      | .node w => lay.idx.getD w deadIdx
    match setSt lay.states i (fun s => { s with opos := op, fail := f }) with
    | .error e => .error e
    | .ok states' => setFailOut v nfa rest { lay with states := states' }

/-- The final `for closed_block_idx in helper.active_block_range()` loop (byte-wise only). -/
def sanitiseBlocks (h : Helper) : Nat → Nat → Array St → Except BuildErr (Array St)
  | 0, _, states => .ok states
  | n + 1, b, states =>
    match removeInvalidChecks states h b with
    | .error e => .error e
    | .ok states' => sanitiseBlocks h n (b + 1) states'

/-- `init_array` + `build_double_array`. -/
def buildLayout (v : Variant) (cfg : Cfg) (m : Mapper) (t : Trie V) (nfa : Nfa V) : Except BuildErr (Array St) :=
  let blockLen := match v with
    | .bytewise => bytewiseBlockLen
    | .charwise => max 2 (Nat.nextPowerOfTwo m.alphaSize)
  match Helper.new blockLen cfg.nfb with
  | .error e => .error e
  | .ok h0 =>
    match h0.pushBlock with
    | .error _ => .error (.panic "push_block().unwrap()")
    | .ok h1 =>
      match h1.useIndex rootIdx with
      | .error e => .error e
      | .ok h2 =>
        match h2.useIndex deadIdx with
        | .error e => .error e
        | .ok h3 =>
          let lay0 : Lay := ⟨Array.replicate blockLen (stDefault v), h3, ({} : Std.HashMap (List Nat) Nat).insert [] rootIdx⟩
          match layoutLoop v m t (t.size + 1) [[]] lay0 with
          | .error e => .error e
          | .ok lay1 =>
            match setFailOut v nfa (t.paths []) lay1 with
            | .error e => .error e
            | .ok lay2 =>
              match v with
              | .charwise => .ok lay2.states
              | .bytewise =>
                sanitiseBlocks lay2.h (lay2.h.numBlocks - lay2.h.activeStart) lay2.h.activeStart lay2.states

/-! ### The whole pipeline -/

/-- `build_with_values` of either builder, from label-level patterns. -/
def buildDA (variant : Variant) (cfg : Cfg) (P : List (LPat V)) : Except BuildErr (DA V) :=
  if cfg.nfb = 0 then .error (.panic "assert!(n >= 1)") else
  -- char-wise: an insertion error returns before the mapper exists; otherwise the mapper is
  -- built from *all* patterns (shadowed ones included), then the emptiness test runs
  match NfaAcc.init.addAll (cfg.kind == 2) P with
  | .error e => .error e
  | .ok acc =>
    let mapper := match variant with
      | .bytewise => (⟨#[], 0⟩ : Mapper)
      | .charwise => Mapper.build P
    if acc.len = 0 then .error .invalidArgument else
    if variant = .bytewise ∧ acc.len > u24Max then .error .automatonScale else
    let nfa := buildNfa acc.trie (cfg.kind != 0)
    match buildLayout variant cfg mapper acc.trie nfa with
    | .error e => .error e
    | .ok states =>
      .ok { variant := variant, states := states, outputs := nfa.out.outs, mapTable := mapper.table,
            alphaSize := mapper.alphaSize, kind := cfg.kind, numStates := acc.trie.size }

/-! ### The entry point `build` (values are the input positions) -/

/-- `patterns.enumerate().map(|(i, p)| V::try_from(i).map(|i| (p, i))).collect::<Result<_,_>>()`:
`conv i` is `V::try_from(i)`; the first failing position aborts the collection. An input is a
pattern's labels and its byte length. -/
def convAll (conv : Nat → Option V) : Nat → List (List Nat × Nat) → Option (List (LPat V))
  | _, [] => some []
  | i, (k, b) :: r =>
    match conv i with
    | none => none
    | some v =>
      match convAll conv (i + 1) r with
      | none => none
      | some P => some (⟨k, b, v⟩ :: P)

/-- `build` of either builder: convert the positions, then `build_with_values`. -/
def buildPositions (conv : Nat → Option V) (variant : Variant) (cfg : Cfg)
    (K : List (List Nat × Nat)) : Except BuildErr (DA V) :=
  match convAll conv 0 K with
  | none => .error .invalidConversion
  | some P => buildDA variant cfg P

end Daac
