/-
Model of `NfaBuilder::add` (src/nfa_builder.rs:80-121) and of the loop that feeds it
(`build_sparse_nfa` / `build_original_nfa_and_mapper`).

The trie is a tree whose children are kept in label order (the `BTreeMap` of the code); a node
is identified by its path. State ids of the implementation do not appear: they never reach the
built automaton (only label order does), see DESIGN.md §3.1.
-/
import Daac.Basic
import Daac.Inv
namespace Daac

mutual
/-- A trie node: the output registered at it (value, byte length) and its children. -/
inductive Trie (V : Type) where
  | node (out : Option (V × Nat)) (kids : Kids V)
/-- Children in strictly increasing label order. -/
inductive Kids (V : Type) where
  | nil
  | cons (label : Nat) (child : Trie V) (rest : Kids V)
end

variable {V : Type}

def Trie.empty : Trie V := .node none .nil

def Trie.out : Trie V → Option (V × Nat)
  | .node o _ => o

def Trie.kids : Trie V → Kids V
  | .node _ k => k

/-- `edges.get(&c)` -/
def Kids.find? : Kids V → Nat → Option (Trie V)
  | .nil, _ => none
  | .cons l t r, c => if l = c then some t else r.find? c

/-- `edges.insert(c, t)` for a label that may or may not be present, keeping label order. -/
def Kids.set : Kids V → Nat → Trie V → Kids V
  | .nil, c, t => .cons c t .nil
  | .cons l t' r, c, t =>
    if c < l then .cons c t (.cons l t' r)
    else if c = l then .cons l t r
    else .cons l t' (r.set c t)

/-- Outcome of the insertion loop of `add`. -/
inductive AddRes (V : Type) where
  | ok (t : Trie V)   -- pattern registered (nodes created as needed)
  | shadowed          -- leftmost-first: the path crossed an already registered pattern end
  | dup               -- the terminal node already has an output

/-- The `for &c in pattern` loop of `add` from the node `t` with the remaining labels `cs`,
followed by the registration at the terminal node. `lf` = `match_kind.is_leftmost_first()`. -/
def Trie.insert (lf : Bool) (o : V × Nat) : Trie V → List Nat → AddRes V
  | .node out kids, [] =>
    if out.isSome then .dup else .ok (.node (some o) kids)
  | .node out kids, c :: cs =>
    if lf && out.isSome then .shadowed else
    match Trie.insert lf o ((kids.find? c).getD Trie.empty) cs with
    | .ok t' => .ok (.node out (kids.set c t'))
    | .shadowed => .shadowed
    | .dup => .dup

/-- Node reached by following `u` from `t`. -/
def Trie.walk : Trie V → List Nat → Option (Trie V)
  | t, [] => some t
  | .node _ kids, c :: cs =>
    match kids.find? c with
    | some t' => t'.walk cs
    | none => none

/-- `is_registered` (added by the fix for the shadowed-duplicate defect). -/
def Trie.isRegistered (t : Trie V) (u : List Nat) : Bool :=
  match t.walk u with
  | some n => n.out.isSome
  | none => false

inductive BuildErr where
  | invalidArgument
  | duplicatePattern
  | invalidConversion
  | automatonScale
  | panic (site : String)
deriving DecidableEq, Repr

/-- State of `NfaBuilder` while patterns are being added. -/
structure NfaAcc (V : Type) where
  trie : Trie V
  len : Nat                       -- number of registered patterns
  shadowed : List (List Nat)      -- the `BTreeSet` of skipped patterns

/-- `NfaBuilder::add`. Sizes beyond `u32` are outside the model (theorems carry size hypotheses). -/
def NfaAcc.add (lf : Bool) (a : NfaAcc V) (p : LPat V) : Except BuildErr (NfaAcc V) :=
  if p.blen = 0 then .error .invalidArgument else
  match a.trie.insert lf (p.value, p.blen) p.key with
  | .ok t => .ok { a with trie := t, len := a.len + 1 }
  | .dup => .error .duplicatePattern
  | .shadowed =>
    if a.trie.isRegistered p.key || a.shadowed.contains p.key then .error .duplicatePattern
    else .ok { a with shadowed := p.key :: a.shadowed }

def NfaAcc.addAll (lf : Bool) : NfaAcc V → List (LPat V) → Except BuildErr (NfaAcc V)
  | a, [] => .ok a
  | a, p :: ps =>
    match a.add lf p with
    | .error e => .error e
    | .ok a' => a'.addAll lf ps

def NfaAcc.init : NfaAcc V := ⟨Trie.empty, 0, []⟩

/-- The pattern-insertion phase of construction, including the emptiness test that follows it. -/
def buildTrie (kind : Nat) (P : List (LPat V)) : Except BuildErr (Trie V) :=
  match NfaAcc.init.addAll (kind == 2) P with
  | .error e => .error e
  | .ok a => if a.len = 0 then .error .invalidArgument else .ok a.trie

mutual
/-- Number of nodes of the trie (root included). -/
def Trie.size : Trie V → Nat
  | .node _ kids => 1 + kids.size
def Kids.size : Kids V → Nat
  | .nil => 0
  | .cons _ t r => t.size + r.size
end

mutual
/-- All node paths below (and including) this node, prefixed by `pre`. -/
def Trie.paths : Trie V → List Nat → List (List Nat)
  | .node _ kids, pre => pre :: kids.paths pre
def Kids.paths : Kids V → List Nat → List (List Nat)
  | .nil, _ => []
  | .cons l t r, pre => t.paths (pre ++ [l]) ++ r.paths pre
end

end Daac
