/-
Specification layer: what each search method must return, as small executable functions over
byte strings. Nothing here knows about automata. `Daac/Proofs/SpecProps.lean` proves that these
functions satisfy the declarative restatements of the properties (`mem_specOverlapping`,
`FindSpec`, `LLSpec`, ...).
-/
import Daac.Basic
namespace Daac
variable {V : Type}

/-- `IsOcc P h m`: `m` is an occurrence of a registered pattern: `h[m.start..m.stop]` equals
the key of a pattern of `P` carrying `m.value`. -/
def IsOcc (P : List (Pat V)) (h : List Nat) (m : Match V) : Prop :=
  ∃ p ∈ P, p.value = m.value ∧ m.start + p.key.length = m.stop ∧ m.stop ≤ h.length ∧
    (h.take m.stop).drop m.start = p.key

/-- Patterns of `P` (with multiplicity, in registration order) whose key is `s`. -/
def patsWithKey (P : List (Pat V)) (s : List Nat) : List (Pat V) :=
  P.filter (fun p => p.key = s)

/-- The patterns that are suffixes of `x`, longest first; the empty suffix is not a pattern
occurrence (the empty pattern is never registered). -/
def sufPats (P : List (Pat V)) (x : List Nat) : List (Pat V) :=
  (sufs x).flatMap (fun s => if s = [] then [] else patsWithKey P s)

/-- The match for pattern `p` ending at byte offset `e`. -/
def matchAt (p : Pat V) (e : Nat) : Match V := ⟨e - p.key.length, e, p.value⟩

/-- Overlapping search: for every end position `e = 1..|h|` in increasing order, all
occurrences ending at `e`, longest first. -/
def specOverlappingFrom (P : List (Pat V)) (pre : List Nat) : List Nat → List (Match V)
  | [] => []
  | c :: rest =>
    (sufPats P (pre ++ [c])).map (fun p => matchAt p (pre.length + 1)) ++
      specOverlappingFrom P (pre ++ [c]) rest

def specOverlapping (P : List (Pat V)) (h : List Nat) : List (Match V) :=
  specOverlappingFrom P [] h

/-- No-suffix overlapping search: per end position the longest occurrence ending there. -/
def specNoSuffixFrom (P : List (Pat V)) (pre : List Nat) : List Nat → List (Match V)
  | [] => []
  | c :: rest =>
    ((sufPats P (pre ++ [c])).head?.map (fun p => matchAt p (pre.length + 1))).toList ++
      specNoSuffixFrom P (pre ++ [c]) rest

def specNoSuffix (P : List (Pat V)) (h : List Nat) : List (Match V) :=
  specNoSuffixFrom P [] h

/-- Standard non-overlapping search. `pos` = end of the previous match, `seen` = the text
consumed since `pos` (so the absolute offset is `pos + seen.length`). An occurrence counts only
if it lies entirely inside `seen`. -/
def specFindFrom (P : List (Pat V)) (pos : Nat) (seen : List Nat) : List Nat → List (Match V)
  | [] => []
  | c :: rest =>
    match (sufPats P (seen ++ [c])).head? with
    | some p => matchAt p (pos + seen.length + 1) :: specFindFrom P (pos + seen.length + 1) [] rest
    | none => specFindFrom P pos (seen ++ [c]) rest

def specFind (P : List (Pat V)) (h : List Nat) : List (Match V) :=
  specFindFrom P 0 [] h

/-- The patterns that are prefixes of `x` (non-empty keys only), in registration order. -/
def prefPats (P : List (Pat V)) (x : List Nat) : List (Pat V) :=
  P.filter (fun p => p.key ≠ [] ∧ p.key <+: x)

/-- The longest element (first among equals) of a list of patterns. -/
def longestPat : List (Pat V) → Option (Pat V)
  | [] => none
  | p :: ps =>
    match longestPat ps with
    | none => some p
    | some q => if q.key.length > p.key.length then some q else some p

/-- Leftmost search with a chooser `pick` among the patterns occurring at the leftmost start.
`s` = absolute offset of the head of the remaining text, `skip` = bytes still covered by the
previous match. -/
def specLeftmostGo (pick : List (Pat V) → Option (Pat V)) (P : List (Pat V)) :
    List Nat → Nat → Nat → List (Match V)
  | [], _, _ => []
  | _ :: r, s, skip + 1 => specLeftmostGo pick P r (s + 1) skip
  | c :: r, s, 0 =>
    match pick (prefPats P (c :: r)) with
    | none => specLeftmostGo pick P r (s + 1) 0
    | some p => ⟨s, s + p.key.length, p.value⟩ :: specLeftmostGo pick P r (s + 1) (p.key.length - 1)

/-- Leftmost-longest search. -/
def specLL (P : List (Pat V)) (h : List Nat) : List (Match V) :=
  specLeftmostGo longestPat P h 0 0

/-- Leftmost-first search (earliest registered among those occurring at the leftmost start). -/
def specLF (P : List (Pat V)) (h : List Nat) : List (Match V) :=
  specLeftmostGo List.head? P h 0 0

/-- Patterns that can ever be reported under leftmost-first semantics: those without an
earlier-registered proper prefix (registration order preserved). -/
def retainedGo : List (Pat V) → List (Pat V) → List (Pat V)
  | _, [] => []
  | earlier, p :: ps =>
    if earlier.any (fun q => q.key <+: p.key ∧ q.key ≠ p.key) then retainedGo (earlier ++ [p]) ps
    else p :: retainedGo (earlier ++ [p]) ps

def retained (P : List (Pat V)) : List (Pat V) := retainedGo [] P

/-- Validity of a pattern collection (property C10). -/
def ValidPats (P : List (Pat V)) : Prop :=
  P ≠ [] ∧ (∀ p ∈ P, p.key ≠ []) ∧ (P.map (·.key)).Nodup

instance (P : List (Pat V)) : Decidable (ValidPats P) := by unfold ValidPats; infer_instance

end Daac
