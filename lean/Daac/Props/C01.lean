/-
Property C01 — overlapping search reports every occurrence of every pattern exactly once,
in increasing order of end position, longest first.

Rung 1 (proved here, all haystacks): tables that satisfy the evaluated invariants `tableInv` +
`sizeInv` for a valid pattern list answer the overlapping search of every haystack exactly like
the specification. The invariants are evaluated by the compiled driver on the tables the
implementation actually built (hook `verif_raw`), for every automaton a run generates, for every
`num_free_blocks` and both construction entry points; the model iterator is tied to the real one
by suites K-search / K-trans. Rung 2 (proved here in the model of the builder, for every valid
pattern collection and every `num_free_blocks`): from `buildDA … = .ok da` alone, with no invariant
hypothesis, the same conclusion; the model builder is tied to the real one by suite K-build.
-/
import Daac.Proofs.Glue
import Daac.Proofs.SpecProps
import Daac.Proofs.Rung2
namespace Daac.Props.C01
open Daac
variable {V : Type} [DecidableEq V]

/-- **Byte-wise automaton, byte-level statement.** For every haystack of bytes the model of
`find_overlapping_iter` returns — without fault and within its fuel — exactly
`specOverlapping Ps h`. -/
theorem overlapping_correct_bytewise (da : DA V) (Ps : List (Pat V)) (hV : ValidPats Ps)
    (hv : da.variant = .bytewise)
    (hT : da.tableInv (Ps.map lp) = true) (hZ : da.sizeInv (Ps.map lp) = true)
    (h : List Nat) (hb : ∀ b ∈ h, b < 256) :
    ∃ l fin, ovAll da h = .ok (l, fin) ∧ l.map (·.1) = specOverlapping Ps h :=
  ovAll_bytewise_eq_spec hv (stdSem_bytes da Ps hV hT hZ) hb
    (by simpa using DA.sizeInv_outputs hZ)

/-- **Either variant, character (item) level.** For any label-level pattern list `P` and any
haystack that decodes into `items`, the overlapping iterator returns exactly the item-level
specification: for every item, all patterns that are suffixes of the labels read so far, longest
first, with byte offsets taken from the items. (For the char-wise automaton `items` are the
decoded characters with their end offsets; Props/C08 relates this to the byte-level
specification.) -/
theorem overlapping_correct_items (da : DA V) (P : List (LPat V))
    (hP : P ≠ []) (hkeys : (P.map (·.key)).Nodup) (hne : ∀ p ∈ P, p.key ≠ [])
    (hT : da.tableInv P = true) (hZ : da.sizeInv P = true)
    (h : List Nat) (items : List Item) (hI : itemsOfHay da.variant h = .ok items)
    (hL : ∀ it ∈ items, LabelOk da it.label) :
    ∃ l fin, ovAll da h = .ok (l, fin) ∧ l.map (·.1) = specOvItems P [] items :=
  ovAll_eq_spec (stdSem_of_tableInv da P hP hkeys hne hT (DA.sizeInv_depth hZ)) hI hL
    (DA.sizeInv_outputs hZ)


/-! ### The specification function meets the declarative statement of the property -/

/-- None missed, none invented: the specification lists exactly the triples (start, end, value)
for which `h[start..end]` equals a registered pattern carrying that value. -/
theorem spec_exactly_occurrences (Ps : List (Pat V)) (hV : ValidPats Ps) (h : List Nat) (m : Match V) :
    m ∈ specOverlapping Ps h ↔ IsOcc Ps h m := mem_specOverlapping hV
/-- None repeated. -/
theorem spec_no_repeats (Ps : List (Pat V)) (hV : ValidPats Ps) (h : List Nat) :
    (specOverlapping Ps h).Nodup := specOverlapping_nodup hV h
/-- Increasing order of end position and, among matches ending at the same position, longest
first. -/
theorem spec_order (Ps : List (Pat V)) (hV : ValidPats Ps) (h : List Nat) :
    (specOverlapping Ps h).Pairwise (fun a b => a.stop < b.stop ∨ (a.stop = b.stop ∧ a.start < b.start)) :=
  specOverlapping_sorted hV h


/-! ### Rung 2 — every pattern collection, every `num_free_blocks`, in the model of the builder

`buildDA` is the model of `build_with_values` (Model/Trie.lean, Model/Nfa.lean, Model/Build.lean),
tied to the implementation by suite K-build (byte-identical tables). The chain of proofs:
insertion phase (Proofs/TrieFacts, NfaQueue) → fail links and outputs (Proofs/NfaStd, NfaLm, NfaG)
→ layout with the ring-buffer helper, BASE uniqueness and CHECK sanitising (Proofs/HelperFacts,
LayoutB, LayoutC, MapperFacts) → table semantics (Proofs/LayoutSem) → iterators (Rung 1). -/

/-- **Full strength in the model, byte-wise**: for EVERY valid collection of byte patterns and
every `num_free_blocks`, if the model builder succeeds then the overlapping search of every
haystack returns exactly `specOverlapping`. No invariant hypothesis is left. -/
theorem overlapping_correct_build_bytewise (nfb : Nat) (Ps : List (Pat V)) (hV : ValidPats Ps)
    (hbytes : ∀ p ∈ Ps, ∀ b ∈ p.key, b < 256) (da : DA V)
    (hb : buildDA .bytewise ⟨0, nfb⟩ (Ps.map lp) = .ok da) (h : List Nat) (hh : ∀ b ∈ h, b < 256) :
    ∃ l fin, ovAll da h = .ok (l, fin) ∧ l.map (·.1) = specOverlapping Ps h :=
  bytewise_overlapping_correct nfb Ps hV hbytes da hb h hh

/-- **Full strength in the model, char-wise**: for every valid collection of UTF-8 patterns
(as scalar-value lists) and every valid UTF-8 haystack, with byte offsets. -/
theorem overlapping_correct_build_charwise (nfb : Nat) (Q : List (List Nat × V)) (hQ : ScalarPats Q)
    (hQ0 : Q ≠ []) (hnd : (Q.map (·.1)).Nodup) (da : DA V)
    (hb : buildDA .charwise ⟨0, nfb⟩ (Q.map charPat) = .ok da) (t : List Nat) (ht : Scalars t) :
    ∃ l fin, ovAll da (encAll t) = .ok (l, fin) ∧
      l.map (·.1) = specOverlapping (Q.map bytePat) (encAll t) :=
  charwise_overlapping_correct nfb Q hQ hQ0 hnd da hb t ht

end Daac.Props.C01
