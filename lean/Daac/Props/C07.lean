/-
Property C07 — searching never performs undefined behaviour despite unchecked indexing.

In the model every `get_unchecked`, `unwrap_unchecked`, `char::from_u32_unchecked` and
`str::get_unchecked(pos..)` of the implementation is a *checked* access that returns a `Fault`
when the precondition of the unchecked operation would be violated (the list of unchecked sites
in the source is compared with the recorded list on every run: scan `unsafe`). The theorems say
the faults cannot occur. `boundsInv` is evaluated over ALL elements of every dumped table
(vacant ones included), so the closure argument covers every in-range state and every label.

Residue (not expressible in the model): the behaviour of the compiled code on real memory —
covered only by running every generated case with std's unsafe-precondition checks armed
(`-C debug-assertions=on`; an abort is reported with the failing input).
-/
import Daac.Proofs.NoFault
import Daac.Proofs.Utf8
import Daac.Proofs.Bounds2
import Daac.Proofs.SerialRT
namespace Daac.Props.C07
open Daac
variable {V : Type}

/-- **No out-of-bounds table access, any search method, any haystack**: on tables satisfying
`boundsInv`, an error of a search can never be `oobStates` or `oobOutputs` (for the byte-wise
variant the haystack elements are bytes, `HayOk`; for the char-wise one this is unconditional). -/
theorem overlapping_no_oob (da : DA V) (hB : da.boundsInv = true) (h : List Nat) (hb : HayOk da h) :
    ∀ e, ovAll da h = .error e → NoOob e := ovAll_no_oob da hB h hb
theorem find_no_oob (da : DA V) (hB : da.boundsInv = true) (h : List Nat) (hb : HayOk da h) :
    ∀ e, findAll da h = .error e → NoOob e := findAll_no_oob da hB h hb
theorem nosuffix_no_oob (da : DA V) (hB : da.boundsInv = true) (h : List Nat) (hb : HayOk da h) :
    ∀ e, noSufAll da h = .error e → NoOob e := noSufAll_no_oob da hB h hb
theorem leftmost_no_oob (da : DA V) (hB : da.boundsInv = true) (h : List Nat) (hb : HayOk da h) :
    ∀ e, lmAll da h = .error e → NoOob e := lmAll_no_oob da hB h hb

/-- The XOR addressing stays inside the table: from an in-range state and a label code below
the block length, the child index is in range. -/
theorem child_in_range (da : DA V) (hB : da.boundsInv = true) (s c : Nat)
    (hs : s < da.states.size) (hc : CodeOk da c) :
    ∃ r, da.child s c = .ok r ∧ ∀ t, r = some t → t < da.states.size :=
  child_no_oob da (bounds_of_boundsInv da hB) hs hc

/-- The transition functions map in-range states to in-range states and can only fail by
running out of the model's fuel (termination: Props/C13). -/
theorem next_in_range (da : DA V) (hB : da.boundsInv = true) (s label : Nat)
    (hs : s < da.states.size) (hl : LabelCodeOk da label) :
    (∀ t, da.next s label = .ok t → t < da.states.size) ∧
      (∀ e, da.next s label = .error e → e = .fuel) :=
  next_no_oob da (bounds_of_boundsInv da hB) hs hl
theorem nextLm_in_range (da : DA V) (hB : da.boundsInv = true) (s label : Nat)
    (hs : s < da.states.size) (hl : LabelCodeOk da label) :
    (∀ t, da.nextLm s label = .ok t → t < da.states.size) ∧
      (∀ e, da.nextLm s label = .error e → e = .fuel) :=
  nextLm_no_oob da (bounds_of_boundsInv da hB) hs hl

/-- Every mapped character code is below the block length (char-wise), so `LabelCodeOk` holds
for every code point; unmapped characters never touch the tables. -/
theorem charwise_labels_ok (da : DA V) (hB : da.boundsInv = true) (hv : da.variant = .charwise)
    (label : Nat) : LabelCodeOk da label :=
  labelCodeOk_charwise da (bounds_of_boundsInv da hB) hv label

/-- **The hand-written UTF-8 decoder on valid UTF-8**: never reads past the end
(`unwrap_unchecked`), never manufactures an invalid `char` (`from_u32_unchecked`), and yields
exactly the characters of the text with their byte end offsets. -/
theorem decode_valid_no_fault (bs : List Nat) (hv : ValidUtf8 bs) :
    ∃ items, allItems .charwise (bs.length + 1) ⟨bs, 0⟩ = .ok items ∧
      (∀ it ∈ items, isScalar it.label = true ∧ it.width = utf8Width it.label ∧
        it.width ≤ it.stop ∧ it.stop ≤ bs.length) ∧
      (∀ it, items.getLast? = some it → it.stop = bs.length) ∧
      items.Pairwise (fun a b => a.stop < b.stop) ∧ encAll (items.map (·.label)) = bs :=
  Daac.decode_valid_no_fault bs hv

/-- One decoding step inverts the reference encoder, for every scalar value. -/
theorem decode_encode (c : Nat) (hc : isScalar c = true) (r : List Nat) (p : Nat) :
    decodeNext ⟨encScalar c ++ r, p⟩ = .ok (some (⟨c, p + utf8Width c⟩, ⟨r, p + utf8Width c⟩)) :=
  decodeNext_encScalar c hc r p

/-- **`get_unchecked(self.pos..)` of the char-wise leftmost iterator is safe** at every offset
the iterator can hold (0 or the end of a decoded character): the offset is a character boundary
and the remaining text decodes. -/
theorem leftmost_slice_ok (cs : List Nat) (h : ∀ c ∈ cs, isScalar c = true) (it : WItem)
    (hit : it ∈ itemsOf cs 0) :
    isBoundary (encAll cs) it.stop = true ∧
      ∃ t2, itemsOf t2 it.stop <:+ itemsOf cs 0 ∧
        lmItems .charwise (encAll cs) it.stop = .ok (itemsOf t2 it.stop) :=
  lmItems_at_stop cs h it hit

/-- The constants of the decoder as the source has them now (generated): thresholds 0x80, 0xE0,
0xF0, continuation mask 0x3F, lead masks and shifts. A change breaks this obligation. -/
theorem decoder_constants :
    Gen.utf8Thresholds = [0x80, 0xe0, 0xf0] ∧ Gen.utf8ContMask = 0x3f ∧
      Gen.utf8LeadMasks = [0x1f, 0x0f, 0x07] ∧ Gen.utf8Shifts = [6, 12, 18] := by decide

/-- Block length of the byte-wise automaton as the source has it now: 256 = 2^8 ≥ every byte. -/
theorem block_len_constant : Gen.blockLen = 2 ^ 8 := by decide


/-- For EVERY collection, kind, variant and `num_free_blocks`: a successful model build satisfies
`boundsInv` (every index stored anywhere in the tables is in range, block structure intact). -/
theorem build_bounds (variant : Variant) (cfg : Cfg) (P : List (LPat V)) (da : DA V)
    (hb : buildDA variant cfg P = .ok da) (hk : keysOk P)
    (hbytes : variant = .bytewise → ∀ p ∈ P, ∀ c ∈ p.key, c < 256) : da.boundsInv = true :=
  boundsInv_of_build variant cfg P da hb hk hbytes

/-- … hence no search on it can fault with an out-of-range table access, on any haystack. -/
theorem build_no_oob (variant : Variant) (cfg : Cfg) (P : List (LPat V)) (da : DA V)
    (hb : buildDA variant cfg P = .ok da) (hk : keysOk P)
    (hbytes : variant = .bytewise → ∀ p ∈ P, ∀ c ∈ p.key, c < 256) (h : List Nat) (hh : HayOk da h) :
    (∀ e, ovAll da h = .error e → NoOob e) ∧ (∀ e, findAll da h = .error e → NoOob e) ∧
    (∀ e, noSufAll da h = .error e → NoOob e) ∧ (∀ e, lmAll da h = .error e → NoOob e) := by
  have hB := boundsInv_of_build variant cfg P da hb hk hbytes
  exact ⟨ovAll_no_oob da hB h hh, findAll_no_oob da hB h hh, noSufAll_no_oob da hB h hh,
    lmAll_no_oob da hB h hh⟩

/-- With Props/C09 (`roundtrip`): an automaton restored from the bytes a built automaton
serialises to is *equal* to it, so it inherits `boundsInv` and the theorems above. -/
theorem restored_bounds (S : Ser V) (D : V → Prop) (hS : S.LawfulOn D) (da : DA V) (hwf : da.WF S D)
    (hB : da.boundsInv = true) (rest : List Nat) :
    ∃ da', deserialize S da.variant (serialize S da ++ rest) = some (da', rest) ∧ da'.boundsInv = true :=
  ⟨da, deserialize_serialize S D hS da hwf rest, hB⟩

end Daac.Props.C07
