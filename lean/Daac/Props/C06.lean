/-
Property C06 — every reported match carries the value registered for the matched pattern.

Corollary of the correctness theorems: each search method returns exactly its specification, and
every element of every specification is an occurrence `IsOcc Ps h m`, i.e. `h[m.start..m.stop]`
is byte for byte the key of a registered pattern and `m.value` is the value registered with it,
with `m.start < m.stop ≤ |h|`. The model is parametric in the value type `V` (values are only
copied), so "whatever the value type" is the `∀ V` of these theorems; keys are duplicate-free, so
the value is unique even when several patterns share it. Ties: K-search with every value type
and adversarial assignments (repeats, 0, MIN/MAX), before and after a serialisation round trip.
-/
import Daac.Props.C01
import Daac.Props.C02
import Daac.Props.C03
import Daac.Props.C04
import Daac.Props.C05
import Daac.Proofs.SpecProps
namespace Daac.Props.C06
open Daac
variable {V : Type} [DecidableEq V]

/-- What `IsOcc` says, spelled out: bounds, the matched bytes are a registered key, and the value
is the one registered with that key. -/
theorem isOcc_meaning (Ps : List (Pat V)) (hV : ValidPats Ps) (h : List Nat) (m : Match V)
    (ho : IsOcc Ps h m) :
    m.start < m.stop ∧ m.stop ≤ h.length ∧
      ∃ p ∈ Ps, (h.take m.stop).drop m.start = p.key ∧ m.value = p.value := by
  have hlt := ho.start_lt_stop hV.key_ne
  obtain ⟨p, hp, hval, -, hstop, hkey⟩ := ho
  exact ⟨hlt, hstop, p, hp, hkey, hval.symm⟩

theorem overlapping_values (Ps : List (Pat V)) (hV : ValidPats Ps) (h : List Nat) (m : Match V)
    (hm : m ∈ specOverlapping Ps h) : IsOcc Ps h m := (mem_specOverlapping hV).1 hm
theorem nosuffix_values (Ps : List (Pat V)) (hV : ValidPats Ps) (h : List Nat) (m : Match V)
    (hm : m ∈ specNoSuffix Ps h) : IsOcc Ps h m := ((mem_specNoSuffix hV).1 hm).1
theorem find_values (Ps : List (Pat V)) (hV : ValidPats Ps) (h : List Nat) (m : Match V)
    (hm : m ∈ specFind Ps h) : IsOcc Ps h m :=
  ((specFind_spec hV h).all_occ m hm).1
theorem leftmost_longest_values (Ps : List (Pat V)) (hV : ValidPats Ps) (h : List Nat) (m : Match V)
    (hm : m ∈ specLL Ps h) : IsOcc Ps h m :=
  ((specLL_leftmost hV h).all_occ m hm).1
theorem leftmost_first_values (Ps : List (Pat V)) (hV : ValidPats Ps) (h : List Nat) (m : Match V)
    (hm : m ∈ specLF Ps h) : IsOcc Ps h m :=
  ((specLF_leftmost hV h).all_occ m hm).1

/-- End to end for the byte-wise overlapping search: every match the automaton returns is an
occurrence carrying its registered value. (The other methods compose in the same way with
Props/C02, C03, C04, C05.) -/
theorem overlapping_matches_carry_values (da : DA V) (Ps : List (Pat V)) (hV : ValidPats Ps)
    (hv : da.variant = .bytewise) (hT : da.tableInv (Ps.map lp) = true)
    (hZ : da.sizeInv (Ps.map lp) = true) (h : List Nat) (hb : ∀ b ∈ h, b < 256) :
    ∃ l fin, ovAll da h = .ok (l, fin) ∧ ∀ x ∈ l, IsOcc Ps h x.1 := by
  obtain ⟨l, fin, h1, h2⟩ := C01.overlapping_correct_bytewise da Ps hV hv hT hZ h hb
  exact ⟨l, fin, h1, fun x hx => overlapping_values Ps hV h x.1 (h2 ▸ List.mem_map_of_mem hx)⟩

/-- Values built from bare patterns are the positions: `build(patterns)` is
`build_with_values(patterns.enumerate())` after the index conversion — in the model the entry
point `P` is exactly that (driver `modelBuild`), tied by K-build with entry `P` and every
value type, including the conversion failure for positions beyond the type's range. -/
theorem positions_are_values (keys : List (List Nat)) (i : Nat) (k : List Nat)
    (h : keys[i]? = some k) :
    ((keys.zipIdx.map fun (k, i) => (⟨k, i⟩ : Pat Nat))[i]?) = some ⟨k, i⟩ := by
  rw [List.getElem?_map, List.getElem?_zipIdx, h, Nat.zero_add]
  rfl

end Daac.Props.C06
