/-
Translation tie, accessors — what Proofs/TieA buys.

The translation units for the search side and the layout primitives (tools/rs2lean.py) read the
Rust `State` / `Output` through the model records `St` / `Out`: `state.check()` is `s.check`,
`state.output_pos()` is `nonZero s.opos`, `set_check(c)` writes `s.check`. `Daac/Gen/Access.lean` is
the CURRENT source text of those accessors (and of the `U24nU8` packing of src/intpack.rs behind the
byte-wise ones) translated by tools/acc2lean.py on every run; Proofs/TieA proves that, on the Rust
representation of a model state (`toStB` / `toStC` / `toOut`), every translated accessor returns the
model's field and every translated setter writes exactly that field — never panicking
(`u8::try_from(..).unwrap()` in `b()`) and with `set_output_pos` failing with the documented error
kind exactly above 2^24 − 1. So the reading of the accessors is not part of the trusted base.
-/
import Daac.Proofs.TieA
namespace Daac.Props.TieAcc
open Daac Daac.Gen Daac.Tie.S Daac.Tie.A
variable {V : Type}

theorem generated_reads_bytewise (s : St) (hc : s.check < 256) :
    A.B.State.base (toStB s) = optNZ s.base ∧ A.B.State.check (toStB s) = some s.check ∧
    A.B.State.fail (toStB s) = s.fail ∧ A.B.State.output_pos (toStB s) = optNZ s.opos :=
  ⟨B_base s, B_check s hc, B_fail s, B_output_pos s hc⟩

/-- Byte-wise `State`: every translated setter writes exactly its field and never panics;
`set_output_pos` returns the scale error exactly when the position does not fit 24 bits. -/
theorem generated_writes_bytewise (s : St) (x : Nat) (o : Option Nat) (hc : s.check < 256) :
    (x ≠ 0 → A.B.State.set_base (toStB s) x = toStB { s with base := x }) ∧
    A.B.State.set_fail (toStB s) x = toStB { s with fail := x } ∧
    A.B.State.set_check (toStB s) x = toStB { s with check := x } ∧
    A.B.State.set_output_pos (toStB s) o =
      some (if Rs.map_or_0_get o ≤ Gen.u24Max
            then .ok (toStB { s with opos := Rs.map_or_0_get o })
            else .error .automatonScale) :=
  ⟨B_set_base s x, B_set_fail s x, B_set_check s x hc, B_set_output_pos s o hc⟩

theorem generated_reads_charwise (s : St) (o : Out V) :
    A.C.State.base (toStC s) = optNZ s.base ∧ A.C.State.check (toStC s) = s.check ∧
    A.C.State.fail (toStC s) = s.fail ∧ A.C.State.output_pos (toStC s) = optNZ s.opos ∧
    A.Output.value (toOut o) = o.value ∧ A.Output.length (toOut o) = o.length ∧
    A.Output.parent (toOut o) = optNZ o.parent :=
  ⟨rfl, rfl, rfl, rfl, rfl, rfl, rfl⟩

/-- The accessor meanings assumed by the search-side prelude (Gen/Prelude.lean) are what the
translated accessors compute. -/
theorem prelude_discharged (s : St) (o : Out V) (hc : s.check < 256) :
    Rs.St.base s = A.B.State.base (toStB s) ∧ Rs.St.outputPos s = A.B.State.output_pos (toStB s) ∧
    Rs.St.base s = A.C.State.base (toStC s) ∧ Rs.St.outputPos s = A.C.State.output_pos (toStC s) ∧
    Rs.Out.parent o = A.Output.parent (toOut o) :=
  ⟨prelude_base s, prelude_output_pos s hc, (C_prelude s).1, (C_prelude s).2, prelude_parent o⟩

/-- The translated `U24nU8` = the model's (shift and mask from the constants translator). -/
theorem generated_packing (x y : Nat) :
    A.U24nU8.a x = Daac.U24nU8.a x ∧ A.U24nU8.b x = some (Daac.U24nU8.b x) ∧
    A.U24nU8.set_a x y = some (Daac.U24nU8.setA x y) ∧ A.U24nU8.set_b x y = Daac.U24nU8.setB x y :=
  ⟨a_eq x, b_eq x, set_a_eq x y, set_b_eq x y⟩

/-- Non-vacuity of `check < 256`: a state with the largest packed fields. -/
example : (⟨7, 255, 3, 16777215⟩ : St).check < 256 := by decide

end Daac.Props.TieAcc
