/-
Translation tie — the property theorems restated for the definitions GENERATED from /repo's Rust
source (tools/rs2lean.py → Daac/Gen/SearchB.lean, SearchC.lean).

`Tie.B.ovAll da h` etc. run the *translated* entry point (`none` = its documented panic on a
match-kind mismatch) and then the *translated* `next()` until `None`. Proofs/TieB, TieC, TieAll
show these equal the hand-written model's searches; composed with Rung 2 (Props/C01–C05):
for EVERY valid pattern collection and every `num_free_blocks`, the translated Rust search code,
run on the table the model builder produces, returns exactly the specification on every haystack
(byte-wise: bytes below 256; char-wise: every valid UTF-8 text).
What remains outside: the table here is the model builder's (Props/TieTop, TieTopC tie the
translated builders to it), the prelude (Daac/Gen/Prelude.lean) fixes the meaning of the std items,
the translator itself is trusted.
-/
import Daac.Proofs.TieAll
import Daac.Props.C01
import Daac.Props.C02
import Daac.Props.C03
import Daac.Props.C04
import Daac.Props.C05
import Daac.Props.C12
namespace Daac.Props.Tie
open Daac Daac.Tie
variable {V : Type} [DecidableEq V]

theorem bytewise_generated_eq_model (da : DA V) (hv : da.variant = .bytewise) (h : List Nat) :
    B.ovAll da h = (if da.kind = 0 then some (Daac.ovAll da h) else none) ∧
    B.findAll da h = (if da.kind = 0 then some (Daac.findAll da h) else none) ∧
    B.noSufAll da h = (if da.kind = 0 then some (Daac.noSufAll da h) else none) ∧
    B.lmAll da h = (if da.kind = 1 ∨ da.kind = 2 then some (Daac.lmAll da h) else none) :=
  ⟨B.ovAll_eq da hv h, B.findAll_eq da hv h, B.noSufAll_eq da hv h, B.lmAll_eq da hv h⟩

theorem charwise_generated_eq_model (da : DA V) (hv : da.variant = .charwise) (h : List Nat) :
    C.ovAll da h = (if da.kind = 0 then some (Daac.ovAll da h) else none) ∧
    C.findAll da h = (if da.kind = 0 then some (Daac.findAll da h) else none) ∧
    C.noSufAll da h = (if da.kind = 0 then some (Daac.noSufAll da h) else none) :=
  ⟨C.ovAll_eq da hv h, C.findAll_eq da hv h, C.noSufAll_eq da hv h⟩

theorem charwise_generated_lm_eq_model (da : DA V) (hv : da.variant = .charwise) (t : List Nat)
    (ht : ∀ c ∈ t, isScalar c = true) :
    C.lmAll da (encAll t) =
      (if da.kind = 1 ∨ da.kind = 2 then some (Daac.lmAll da (encAll t)) else none) :=
  C.lmAll_eq da hv t ht

/-- C12, first half, for the translated code: the `_from_iter` entry points behave exactly like
the slice entry points (same matches, same pulled counts, same panics), for arbitrary tables. -/
theorem from_iter_eq_slice_bytewise (da : DA V) (hv : da.variant = .bytewise) (h : List Nat) :
    B.findAllFromIter da h = B.findAll da h ∧ B.ovAllFromIter da h = B.ovAll da h ∧
    B.noSufAllFromIter da h = B.noSufAll da h := by
  rw [B.findAllFromIter_eq da hv, B.findAll_eq da hv, B.ovAllFromIter_eq da hv, B.ovAll_eq da hv,
    B.noSufAllFromIter_eq da hv, B.noSufAll_eq da hv]
  exact ⟨rfl, rfl, rfl⟩

theorem from_iter_eq_slice_charwise (da : DA V) (hv : da.variant = .charwise) (h : List Nat) :
    C.findAllFromIter da h = C.findAll da h ∧ C.ovAllFromIter da h = C.ovAll da h ∧
    C.noSufAllFromIter da h = C.noSufAll da h := by
  rw [C.findAllFromIter_eq da hv, C.findAll_eq da hv, C.ovAllFromIter_eq da hv, C.ovAll_eq da hv,
    C.noSufAllFromIter_eq da hv, C.noSufAll_eq da hv]
  exact ⟨rfl, rfl, rfl⟩

/-- Calling an entry point of another match kind panics (`none`) — it never starts a search. -/
theorem kind_mismatch_panics_bytewise (da : DA V) (hv : da.variant = .bytewise) (h : List Nat) :
    (da.kind ≠ 0 → B.ovAll da h = none ∧ B.findAll da h = none ∧ B.noSufAll da h = none) ∧
    (da.kind = 0 → B.lmAll da h = none) := by
  constructor
  · intro hk
    rw [B.ovAll_eq da hv, B.findAll_eq da hv, B.noSufAll_eq da hv]
    simp [hk]
  · intro hk
    rw [B.lmAll_eq da hv]
    simp [hk]

/-- `Match::start()`, `end()`, `value()` as translated from src/lib.rs are the three components of
the model's match (`start = end - length`). -/
theorem match_accessors (m : Gen.Rs.Match V) :
    Gen.B.Match.start m = (Gen.Rs.Match.toModel m).start ∧
    Gen.B.Match.end_ m = (Gen.Rs.Match.toModel m).stop ∧
    Gen.B.Match.value m = (Gen.Rs.Match.toModel m).value := ⟨rfl, rfl, rfl⟩

/-! ### C12 for the translated `_from_iter` entry points: lazy, single pass (arbitrary tables) -/

private theorem some_ok_of_eq {α : Type} {x : Option α} {c : Prop} [Decidable c] {m y : α}
    (h1 : x = if c then some m else none) (h2 : x = some y) : m = y := by
  rw [h1] at h2
  split at h2
  · exact Option.some.inj h2
  · cases h2

theorem find_from_iter_lazy_bytewise (da : DA V) (hv : da.variant = .bytewise) (h : List Nat)
    (l : List (Match V × Nat)) (fin : Nat) (hr : B.findAllFromIter da h = some (.ok (l, fin))) :
    Lazy l ∧ fin = h.length ∧ (l.map (·.2)).Pairwise (· < ·) :=
  C12.find_lazy da h l fin (some_ok_of_eq (B.findAllFromIter_eq da hv h) hr)

theorem nosuffix_from_iter_lazy_bytewise (da : DA V) (hv : da.variant = .bytewise) (h : List Nat)
    (l : List (Match V × Nat)) (fin : Nat) (hr : B.noSufAllFromIter da h = some (.ok (l, fin))) :
    Lazy l ∧ fin = h.length ∧ (l.map (·.2)).Pairwise (· < ·) :=
  C12.nosuffix_lazy da h l fin (some_ok_of_eq (B.noSufAllFromIter_eq da hv h) hr)

theorem overlapping_from_iter_lazy_bytewise (da : DA V) (hv : da.variant = .bytewise) (h : List Nat)
    (l : List (Match V × Nat)) (fin : Nat) (hr : B.ovAllFromIter da h = some (.ok (l, fin))) :
    Lazy l ∧ fin = h.length ∧ (l.map (·.2)).Pairwise (· ≤ ·) :=
  C12.overlapping_lazy da h l fin (some_ok_of_eq (B.ovAllFromIter_eq da hv h) hr)

theorem find_from_iter_lazy_charwise (da : DA V) (hv : da.variant = .charwise) (h : List Nat)
    (l : List (Match V × Nat)) (fin : Nat) (hr : C.findAllFromIter da h = some (.ok (l, fin))) :
    Lazy l ∧ fin = h.length ∧ (l.map (·.2)).Pairwise (· < ·) :=
  C12.find_lazy da h l fin (some_ok_of_eq (C.findAllFromIter_eq da hv h) hr)

theorem nosuffix_from_iter_lazy_charwise (da : DA V) (hv : da.variant = .charwise) (h : List Nat)
    (l : List (Match V × Nat)) (fin : Nat) (hr : C.noSufAllFromIter da h = some (.ok (l, fin))) :
    Lazy l ∧ fin = h.length ∧ (l.map (·.2)).Pairwise (· < ·) :=
  C12.nosuffix_lazy da h l fin (some_ok_of_eq (C.noSufAllFromIter_eq da hv h) hr)

theorem overlapping_from_iter_lazy_charwise (da : DA V) (hv : da.variant = .charwise) (h : List Nat)
    (l : List (Match V × Nat)) (fin : Nat) (hr : C.ovAllFromIter da h = some (.ok (l, fin))) :
    Lazy l ∧ fin = h.length ∧ (l.map (·.2)).Pairwise (· ≤ ·) :=
  C12.overlapping_lazy da h l fin (some_ok_of_eq (C.ovAllFromIter_eq da hv h) hr)

theorem ov_bytewise (nfb : Nat) (Ps : List (Pat V)) (hV : ValidPats Ps)
    (hbytes : ∀ p ∈ Ps, ∀ b ∈ p.key, b < 256) (da : DA V)
    (hb : buildDA .bytewise ⟨0, nfb⟩ (Ps.map lp) = .ok da) (h : List Nat) (hh : ∀ b ∈ h, b < 256) :
    ∃ l fin, B.ovAll da h = some (.ok (l, fin)) ∧ l.map (·.1) = specOverlapping Ps h := by
  obtain ⟨hk, hv⟩ := buildDA_kind_variant _ _ _ _ hb
  obtain ⟨l, fin, h1, h2⟩ := C01.overlapping_correct_build_bytewise nfb Ps hV hbytes da hb h hh
  exact ⟨l, fin, by rw [B.ovAll_eq da hv, if_pos hk, h1], h2⟩

theorem ov_charwise (nfb : Nat) (Q : List (List Nat × V)) (hQ : ScalarPats Q)
    (hQ0 : Q ≠ []) (hnd : (Q.map (·.1)).Nodup) (da : DA V)
    (hb : buildDA .charwise ⟨0, nfb⟩ (Q.map charPat) = .ok da) (t : List Nat) (ht : Scalars t) :
    ∃ l fin, C.ovAll da (encAll t) = some (.ok (l, fin)) ∧
      l.map (·.1) = specOverlapping (Q.map bytePat) (encAll t) := by
  obtain ⟨hk, hv⟩ := buildDA_kind_variant _ _ _ _ hb
  obtain ⟨l, fin, h1, h2⟩ := C01.overlapping_correct_build_charwise nfb Q hQ hQ0 hnd da hb t ht
  exact ⟨l, fin, by rw [C.ovAll_eq da hv, if_pos hk, h1], h2⟩

theorem find_bytewise (nfb : Nat) (Ps : List (Pat V)) (hV : ValidPats Ps)
    (hbytes : ∀ p ∈ Ps, ∀ b ∈ p.key, b < 256) (da : DA V)
    (hb : buildDA .bytewise ⟨0, nfb⟩ (Ps.map lp) = .ok da) (h : List Nat) (hh : ∀ b ∈ h, b < 256) :
    ∃ l fin, B.findAll da h = some (.ok (l, fin)) ∧ l.map (·.1) = specFind Ps h := by
  obtain ⟨hk, hv⟩ := buildDA_kind_variant _ _ _ _ hb
  obtain ⟨l, fin, h1, h2⟩ := C02.find_correct_build_bytewise nfb Ps hV hbytes da hb h hh
  exact ⟨l, fin, by rw [B.findAll_eq da hv, if_pos hk, h1], h2⟩

theorem find_charwise (nfb : Nat) (Q : List (List Nat × V)) (hQ : ScalarPats Q)
    (hQ0 : Q ≠ []) (hnd : (Q.map (·.1)).Nodup) (da : DA V)
    (hb : buildDA .charwise ⟨0, nfb⟩ (Q.map charPat) = .ok da) (t : List Nat) (ht : Scalars t) :
    ∃ l fin, C.findAll da (encAll t) = some (.ok (l, fin)) ∧
      l.map (·.1) = specFind (Q.map bytePat) (encAll t) := by
  obtain ⟨hk, hv⟩ := buildDA_kind_variant _ _ _ _ hb
  obtain ⟨l, fin, h1, h2⟩ := C02.find_correct_build_charwise nfb Q hQ hQ0 hnd da hb t ht
  exact ⟨l, fin, by rw [C.findAll_eq da hv, if_pos hk, h1], h2⟩

theorem nosuf_bytewise (nfb : Nat) (Ps : List (Pat V)) (hV : ValidPats Ps)
    (hbytes : ∀ p ∈ Ps, ∀ b ∈ p.key, b < 256) (da : DA V)
    (hb : buildDA .bytewise ⟨0, nfb⟩ (Ps.map lp) = .ok da) (h : List Nat) (hh : ∀ b ∈ h, b < 256) :
    ∃ l fin, B.noSufAll da h = some (.ok (l, fin)) ∧ l.map (·.1) = specNoSuffix Ps h := by
  obtain ⟨hk, hv⟩ := buildDA_kind_variant _ _ _ _ hb
  obtain ⟨l, fin, h1, h2⟩ := C05.nosuffix_correct_build_bytewise nfb Ps hV hbytes da hb h hh
  exact ⟨l, fin, by rw [B.noSufAll_eq da hv, if_pos hk, h1], h2⟩

theorem nosuf_charwise (nfb : Nat) (Q : List (List Nat × V)) (hQ : ScalarPats Q)
    (hQ0 : Q ≠ []) (hnd : (Q.map (·.1)).Nodup) (da : DA V)
    (hb : buildDA .charwise ⟨0, nfb⟩ (Q.map charPat) = .ok da) (t : List Nat) (ht : Scalars t) :
    ∃ l fin, C.noSufAll da (encAll t) = some (.ok (l, fin)) ∧
      l.map (·.1) = specNoSuffix (Q.map bytePat) (encAll t) := by
  obtain ⟨hk, hv⟩ := buildDA_kind_variant _ _ _ _ hb
  obtain ⟨l, fin, h1, h2⟩ := C05.nosuffix_correct_build_charwise nfb Q hQ hQ0 hnd da hb t ht
  exact ⟨l, fin, by rw [C.noSufAll_eq da hv, if_pos hk, h1], h2⟩

theorem leftmost_longest_bytewise (nfb : Nat) (Ps : List (Pat V)) (hV : ValidPats Ps)
    (hbytes : ∀ p ∈ Ps, ∀ b ∈ p.key, b < 256) (da : DA V)
    (hb : buildDA .bytewise ⟨1, nfb⟩ (Ps.map lpOf) = .ok da) (h : List Nat) (hh : ∀ b ∈ h, b < 256) :
    ∃ l, B.lmAll da h = some (.ok (l, 0)) ∧ l.map (·.1) = specLL Ps h := by
  obtain ⟨hk, hv⟩ := buildDA_kind_variant _ _ _ _ hb
  obtain ⟨l, h1, h2⟩ := C03.leftmost_longest_correct_build_bytewise nfb Ps hV hbytes da hb h hh
  exact ⟨l, by rw [B.lmAll_eq da hv, if_pos (Or.inl hk), h1], h2⟩

theorem leftmost_longest_charwise (nfb : Nat) (Q : List (List Nat × V)) (hQ : ScalarPats Q)
    (hQ0 : Q ≠ []) (hnd : (Q.map (·.1)).Nodup) (da : DA V)
    (hb : buildDA .charwise ⟨1, nfb⟩ (Q.map charPat) = .ok da) (t : List Nat) (ht : Scalars t) :
    ∃ l, C.lmAll da (encAll t) = some (.ok (l, 0)) ∧ l.map (·.1) = specLL (Q.map bytePat) (encAll t) := by
  obtain ⟨hk, hv⟩ := buildDA_kind_variant _ _ _ _ hb
  obtain ⟨l, h1, h2⟩ := C03.leftmost_longest_correct_build_charwise nfb Q hQ hQ0 hnd da hb t ht
  exact ⟨l, by rw [C.lmAll_eq da hv t ht, if_pos (Or.inl hk), h1], h2⟩

theorem leftmost_first_bytewise (nfb : Nat) (Ps : List (Pat V)) (hV : ValidPats Ps)
    (hbytes : ∀ p ∈ Ps, ∀ b ∈ p.key, b < 256) (da : DA V)
    (hb : buildDA .bytewise ⟨2, nfb⟩ (Ps.map lpOf) = .ok da) (h : List Nat) (hh : ∀ b ∈ h, b < 256) :
    ∃ l, B.lmAll da h = some (.ok (l, 0)) ∧ l.map (·.1) = specLF Ps h := by
  obtain ⟨hk, hv⟩ := buildDA_kind_variant _ _ _ _ hb
  obtain ⟨l, h1, h2⟩ := C04.leftmost_first_correct_build_bytewise nfb Ps hV hbytes da hb h hh
  exact ⟨l, by rw [B.lmAll_eq da hv, if_pos (Or.inr hk), h1], h2⟩

theorem leftmost_first_charwise (nfb : Nat) (Q : List (List Nat × V)) (hQ : ScalarPats Q)
    (hQ0 : Q ≠ []) (hnd : (Q.map (·.1)).Nodup) (da : DA V)
    (hb : buildDA .charwise ⟨2, nfb⟩ (Q.map charPat) = .ok da) (t : List Nat) (ht : Scalars t) :
    ∃ l, C.lmAll da (encAll t) = some (.ok (l, 0)) ∧ l.map (·.1) = specLF (Q.map bytePat) (encAll t) := by
  obtain ⟨hk, hv⟩ := buildDA_kind_variant _ _ _ _ hb
  obtain ⟨l, h1, h2⟩ := C04.leftmost_first_correct_build_charwise nfb Q hQ hQ0 hnd da hb t ht
  exact ⟨l, by rw [C.lmAll_eq da hv t ht, if_pos (Or.inr hk), h1], h2⟩

end Daac.Props.Tie
