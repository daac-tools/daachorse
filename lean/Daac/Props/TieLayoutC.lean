/-
Translation tie, char-wise layout loop — what Proofs/TieDC buys.

`Daac/Gen/BuildC.lean` is `CharwiseDoubleArrayAhoCorasickBuilder::build_double_array` of /repo's
src/charwise/builder.rs as translated by tools/dbl2lean.py on every run: `init_array`, the DFS over the
sparse NFA with its explicit stack of state ids and `state_id_map`; per state the `mapped` list
(`self.mapper.get(label).unwrap()` for every edge, then `sort_by` on the code), `find_base` /
`extend_array` / `use_index` / `set_check(state_idx)` / `set_base`; and the pass that writes `fail` and
`output_pos`.  It calls the already translated `BuildHelper` and char-wise layout primitives
(Gen/Helper.lean, Gen/LayoutC.lean).  Proofs/TieDC proves, by the same simulation as the byte-wise tie
(id-keyed loop state against the model's path-keyed one) plus the agreement of the stable `sort_by`
with the model's `insertByCodeP` on edge lists with pairwise distinct codes, that the table it
computes is the model's `buildLayout .charwise` — on which every Rung-2 theorem about char-wise
layouts (Proofs/LayoutC.lean: CHECK = parent index, BASE xor code = child index, injective in-range
index map) is stated.  So those theorems hold of the table computed by the TRANSLATED loop, for every
NFA it is given that represents a model NFA and every mapper that maps the trie's labels injectively
below its alphabet size — in particular `Mapper.build P` (Proofs/MapperFacts.lean).

Outside this file: the construction of the code mapper itself (`CodeMapper::new`, the frequency loop of
`build_original_nfa_and_mapper`: translated and tied to the model's `Mapper.build` in Proofs/TieM.lean,
Props/TieMapper.lean; here `b.mapper = mapper` is a hypothesis); the prelude Daac/Gen/PreludeDbl.lean
(the four char-wise `State` setters as field writes; `sort_by` on the code read as the stable
insertion sort `Rs.sortByFst`; `CodeMapper.get`, which the translator compares textually with the
definition generated from src/charwise/mapper.rs into Gen/SearchC.lean); four `debug_assert_ne!`
statements that the translator drops (listed in the generated header); that the `NfaBuilder` handed
to the loop represents the model NFA (`NfaRep`: a hypothesis here; Proofs/TieP, TiePC establish it
for the translated pipelines).
-/
import Daac.Proofs.TieDC
import Daac.Proofs.MapperFacts
namespace Daac.Props.TieLayoutC
open Daac Daac.Gen Daac.Tie.H Daac.Tie.D Daac.Tie.DC
variable {V : Type}

/-- **The translated char-wise `build_double_array` computes the model's table** (up to panic texts:
both fail with the same error kind or both return the same `states` array), for every sorted trie
whose labels the builder's mapper maps (injectively, below its alphabet size), every
`num_free_blocks ≥ 1`, every sparse NFA `g` representing a model NFA whose fail targets are trie
nodes. -/
theorem generated_build_double_array_charwise (cfg : Cfg) (mapper : Mapper) (t : Trie V) (nfa : Nfa V)
    (g : N.NfaBuilder V) (ido : List Nat → Nat) (R : NfaRep g t nfa ido) (hfn : FailNodes t nfa)
    (hsort : t.Sorted) (hm : LayC.MapperOk mapper)
    (hmap : ∀ u, t.hasNode u = true → ∀ c ∈ u, ∃ k, mapper.get c = some k) (hnfb : 1 ≤ cfg.nfb)
    (b : LC.Builder) (hb : b.states = #[]) (hn : b.num_free_blocks = cfg.nfb) (hmp : b.mapper = mapper) :
    norm ((DC.Builder.build_double_array b g).map (·.2.states))
      = norm (buildLayout .charwise cfg mapper t nfa) :=
  build_double_array_refines_charwise cfg mapper t nfa g ido R hfn hsort hm hmap hnfb b hb hn hmp

/-- The same for the mapper the model builds from the patterns: `Mapper.build P` is injective with codes
below its alphabet size (Proofs/MapperFacts.lean), so only "every label of the trie is mapped" remains
(`mapper_maps_labels` gives it for the labels of the patterns `P` themselves). -/
theorem generated_build_double_array_charwise_of_patterns (cfg : Cfg) (P : List (LPat V)) (t : Trie V)
    (nfa : Nfa V) (g : N.NfaBuilder V) (ido : List Nat → Nat) (R : NfaRep g t nfa ido)
    (hfn : FailNodes t nfa) (hsort : t.Sorted)
    (hmap : ∀ u, t.hasNode u = true → ∀ c ∈ u, ∃ k, (Mapper.build P).get c = some k) (hnfb : 1 ≤ cfg.nfb)
    (b : LC.Builder) (hb : b.states = #[]) (hn : b.num_free_blocks = cfg.nfb)
    (hmp : b.mapper = Mapper.build P) :
    norm ((DC.Builder.build_double_array b g).map (·.2.states))
      = norm (buildLayout .charwise cfg (Mapper.build P) t nfa) :=
  build_double_array_refines_charwise cfg (Mapper.build P) t nfa g ido R hfn hsort (mapperOk_build' P) hmap
    hnfb b hb hn hmp

/-- `sort_by` on the code (stable insertion sort, as translated) of the mapped edges = the model's
`edgeCodes .charwise` edge list (`insertByCodeP`), for pairwise distinct codes. -/
theorem generated_sort_eq_model (ido : List Nat → Nat) (kf : List Nat → Nat) (cp : List (List Nat))
    (hnd : (cp.map kf).Nodup) :
    Rs.sortByFst (cp.map (fun w => (kf w, ido w))) = (edgesOf kf cp).map (toId ido) :=
  sortByFst_map_eq ido kf cp hnd

end Daac.Props.TieLayoutC

#print axioms Daac.Props.TieLayoutC.generated_build_double_array_charwise
#print axioms Daac.Props.TieLayoutC.generated_build_double_array_charwise_of_patterns
