/-
Property C15 — reported automaton statistics are truthful.
Model: `buildDA` (tie K-build: `num_states` equal on every case) + the evaluated `countInv`
(the real tables contain that many distinct reachable states) + direct checks of
`num_elements()` / `heap_bytes()` against the dumped tables in the driver.
-/
import Daac.Proofs.BuildCor
import Daac.Proofs.Stats2
import Daac.Model.Stats
namespace Daac.Props.C15
open Daac
variable {V : Type}

/-- The reported state count is one (the root) plus the number of distinct non-empty prefixes
of the patterns that can ever be reported (all patterns, except those shadowed under
leftmost-first semantics), for every collection, kind, variant and `num_free_blocks`.
`L` is any duplicate-free enumeration of those prefixes. -/
theorem num_states (variant : Variant) (cfg : Cfg) (P : List (LPat V)) (h : keysOk P) (da : DA V)
    (hb : buildDA variant cfg P = .ok da) (L : List (List Nat)) (hL : L.Nodup)
    (hmem : ∀ u, u ∈ L ↔ ∃ k ∈ retainedKeys (cfg.kind == 2) (P.map (·.key)), u ∈ nprefixes k) :
    da.numStates = 1 + L.length :=
  buildDA_numStates variant cfg P h da hb L hL hmem

/-- Which keys are reportable: all of them, or under leftmost-first those without an
earlier-registered proper prefix. -/
theorem reportable_keys (ks : List (List Nat)) (k : List Nat) :
    k ∈ retKeys ks ↔ ∃ i, ∃ h : i < ks.length, ks[i] = k ∧ ∀ q ∈ ks.take i, ¬ (q <+: k ∧ q ≠ k) :=
  mem_retKeys ks k

/-- Every node of the trie is reachable from the root along its own path (so every counted
state exists), and the trie has exactly one node per distinct prefix. -/
theorem nodes_are_prefixes (kind : Nat) (P : List (LPat V)) (h : keysOk P) (t : Trie V)
    (ht : buildTrie kind P = .ok t) :
    t.size = (t.paths []).length ∧ (t.paths []).Nodup ∧
      ∀ u, u ∈ t.paths [] ↔ (u = [] ∨ ∃ k ∈ retainedKeys (kind == 2) (P.map (·.key)), u ∈ nprefixes k) :=
  buildTrie_paths kind P h t ht


/-- Every one of the reported states is actually reachable from the root: there are exactly
`numStates` distinct trie nodes, each reached by following the child lookups of the TABLES along
its own path, at pairwise distinct in-range indices. All kinds, both variants, every
`num_free_blocks`. -/
theorem all_states_reachable (variant : Variant) (nfb kind : Nat) (P : List (LPat V)) (da : DA V)
    (hb : buildDA variant ⟨kind, nfb⟩ P = .ok da) (hk : keysOk P)
    (hlabels : variant = .bytewise → ∀ p ∈ P, ∀ c ∈ p.key, c < 256) :
    ∃ (nodes : List (List Nat)) (idx : List Nat → Nat),
      nodes.Nodup ∧ nodes.length = da.numStates ∧
      (∀ u ∈ nodes, da.walk u = some (idx u) ∧ idx u < da.states.size) ∧
      (∀ u ∈ nodes, ∀ w ∈ nodes, idx u = idx w → u = w) :=
  states_reachable variant nfb kind P da hb hk hlabels

/-- The reported element count is never smaller than the state count (so `heap_bytes`, which is
`size_of::<State>() * num_elements + …`, is at least 12 resp. 16 bytes per state). -/
theorem num_elements_ge (variant : Variant) (nfb kind : Nat) (P : List (LPat V)) (da : DA V)
    (hb : buildDA variant ⟨kind, nfb⟩ P = .ok da) (hk : keysOk P)
    (hlabels : variant = .bytewise → ∀ p ∈ P, ∀ c ∈ p.key, c < 256) :
    da.numStates ≤ da.states.size :=
  num_elements_ge_num_states variant nfb kind P da hb hk hlabels

/-- The reported heap size is at least `size_of::<State>()` bytes per reported state — the
documented 12 bytes per state for the byte-wise automaton — whatever the outputs and the mapper
add. All kinds, both variants, every `num_free_blocks`. -/
theorem heap_bytes_ge (variant : Variant) (nfb kind : Nat) (P : List (LPat V)) (da : DA V)
    (hb : buildDA variant ⟨kind, nfb⟩ P = .ok da) (hk : keysOk P)
    (hlabels : variant = .bytewise → ∀ p ∈ P, ∀ c ∈ p.key, c < 256) (szSt szOut : Nat) :
    da.numStates * szSt ≤ da.heapBytes szSt szOut ∧ da.numStates ≤ da.numElements := by
  have h := num_elements_ge_num_states variant nfb kind P da hb hk hlabels
  refine ⟨Nat.le_trans (Nat.mul_le_mul_right szSt h) ?_, h⟩
  -- the element array is the first summand of either variant's heap size
  unfold DA.heapBytes
  split
  · exact Nat.le_add_right _ _
  · rw [Nat.add_assoc]; exact Nat.le_add_right _ _

end Daac.Props.C15
