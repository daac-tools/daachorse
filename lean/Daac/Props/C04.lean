/-
Property C04 — leftmost-first search picks the leftmost start, then the earliest-registered.

Under leftmost-first the builder registers only the *retained* patterns (those without an
earlier-registered proper prefix; Props/C10/C15 prove the insertion phase does exactly that) and
then builds the same leftmost automaton as for leftmost-longest. So the automaton answers
`specLL (retained Ps)`, and the specification-level theorem `specLF Ps = specLL (retained Ps)`
(among the patterns occurring at one start the earliest registered is the longest retained one)
closes the gap. The invariant `leftmostInv` is evaluated for the retained list on every
leftmost-first automaton the implementation builds; every permutation of small pattern sets is
generated, since order is the interesting input.
-/
import Daac.Props.C03
import Daac.Proofs.SpecProps
import Daac.Proofs.Rung2
import Daac.Proofs.Rung2LF
namespace Daac.Props.C04
open Daac
variable {V : Type} [DecidableEq V]

/-- **Byte-wise, byte-level**: tables satisfying `leftmostInv` for the retained patterns answer
every haystack with `specLF Ps` — leftmost start, then earliest registered. -/
theorem leftmost_first_correct_bytewise (da : DA V) (Ps : List (Pat V)) (hV : ValidPats Ps)
    (hv : da.variant = .bytewise) (hT : da.leftmostInv ((retained Ps).map lpOf) = true)
    (h : List Nat) (hb : ∀ b ∈ h, b < 256) :
    ∃ l, lmAll da h = .ok (l, 0) ∧ l.map (·.1) = specLF Ps h := by
  obtain ⟨l, h1, h2⟩ := C03.leftmost_longest_correct_bytewise da (retained Ps) (retained_valid hV) hv hT h hb
  exact ⟨l, h1, by rw [h2, specLF_eq_specLL_retained hV]⟩

/-- The declarative reading of `specLF` (leftmost start among occurrences at or after the
previous match end, then smallest registration index, resume at its end, stop when none). -/
theorem specLF_meets_spec (Ps : List (Pat V)) (hV : ValidPats Ps) (h : List Nat) :
    LFSpec Ps h 0 (specLF Ps h) := specLF_spec hV h

/-- Which patterns are retained: exactly those without an earlier-registered proper prefix. -/
theorem retained_iff (Ps : List (Pat V)) (p : Pat V) :
    p ∈ retained Ps ↔ ∃ i : Nat, Ps[i]? = some p ∧ ∀ q ∈ Ps.take i, ¬ (q.key <+: p.key ∧ q.key ≠ p.key) :=
  retained_spec

/-- A pattern that has an earlier-registered proper prefix is never reported … -/
theorem shadowed_never_reported (Ps : List (Pat V)) (hV : ValidPats Ps) (h : List Nat) (i : Nat)
    (p q : Pat V) (hp : Ps[i]? = some p) (hq : q ∈ Ps.take i) (hpre : q.key <+: p.key)
    (hne : q.key ≠ p.key) (m : Match V) (hm : m ∈ specLF Ps h) :
    ¬ (m.stop ≤ h.length ∧ (h.take m.stop).drop m.start = p.key) :=
  specLF_never_reports_shadowed hV hp hq hpre hne hm

/-- … and its presence never changes what is reported for the other patterns. -/
theorem shadowed_irrelevant (Ps : List (Pat V)) (hV : ValidPats Ps) (h : List Nat) :
    specLF Ps h = specLF (retained Ps) h := specLF_retained hV h


/-! ### Rung 2 — every pattern collection, every `num_free_blocks`, in the model of the builder

The chain of proofs is that of Props/C03, with the retained patterns in place of all. -/

/-- **Full strength in the model, byte-wise**: every valid ordered collection, every
`num_free_blocks`: the automaton built with leftmost-first semantics from ALL patterns (shadowed
ones included) answers every haystack with `specLF`. -/
theorem leftmost_first_correct_build_bytewise (nfb : Nat) (Ps : List (Pat V)) (hV : ValidPats Ps)
    (hbytes : ∀ p ∈ Ps, ∀ b ∈ p.key, b < 256) (da : DA V)
    (hb : buildDA .bytewise ⟨2, nfb⟩ (Ps.map lpOf) = .ok da) (h : List Nat) (hh : ∀ b ∈ h, b < 256) :
    ∃ l, lmAll da h = .ok (l, 0) ∧ l.map (·.1) = specLF Ps h :=
  bytewise_leftmost_first_correct nfb Ps hV hbytes da hb h hh


/-- **Full strength in the model, char-wise**: every valid ordered collection of UTF-8 patterns,
every valid UTF-8 haystack, byte offsets. -/
theorem leftmost_first_correct_build_charwise (nfb : Nat) (Q : List (List Nat × V)) (hQ : ScalarPats Q)
    (hQ0 : Q ≠ []) (hnd : (Q.map (·.1)).Nodup) (da : DA V)
    (hb : buildDA .charwise ⟨2, nfb⟩ (Q.map charPat) = .ok da) (t : List Nat) (ht : Scalars t) :
    ∃ l, lmAll da (encAll t) = .ok (l, 0) ∧ l.map (·.1) = specLF (Q.map bytePat) (encAll t) :=
  charwise_leftmost_first_correct nfb Q hQ hQ0 hnd da hb t ht

end Daac.Props.C04
