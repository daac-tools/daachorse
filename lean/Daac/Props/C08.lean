/-
Property C08 — character-wise and byte-wise automata agree on UTF-8 input.

Both automata are shown equal to the *same* byte-level specification: the byte-wise one directly
(Props/C01, C02, C05, C03), the char-wise one by composing its item-level theorem with the
UTF-8 correspondence of Proofs/CharSpec.lean (self-synchronisation: an occurrence of an encoded
pattern in an encoded text starts and ends on character boundaries, and no pattern ends or
starts inside a character). `Q` is the pattern list as (code points, value) pairs;
`bytePat`/`charPat` are its byte-level / label-level views; `encAll` is the reference encoder and
the model decoder is proved to invert it (Proofs/Utf8.lean).
-/
import Daac.InvExtra
import Daac.Proofs.StdSem2
import Daac.Proofs.StdIter
import Daac.Proofs.Steps
import Daac.Proofs.CharSpec
import Daac.Proofs.LmSem
import Daac.Proofs.LmAbs
import Daac.Proofs.LmIter
import Daac.Proofs.Rung2
namespace Daac.Props.C08
open Daac
variable {V : Type} [DecidableEq V]

theorem charPat_keys (Q : List (List Nat × V)) : (Q.map charPat).map (·.key) = Q.map (·.1) := by
  rw [List.map_map]
  rfl

theorem charPat_key_ne {Q : List (List Nat × V)} (hQ : ScalarPats Q) :
    ∀ p ∈ Q.map charPat, p.key ≠ [] := by
  intro p hp
  obtain ⟨q, hq, rfl⟩ := List.mem_map.1 hp
  exact (hQ q hq).1

theorem stdSem_charPat (da : DA V) {Q : List (List Nat × V)} (hQ : ScalarPats Q) (hQ0 : Q ≠ [])
    (hnd : (Q.map (·.1)).Nodup) (hT : da.tableInv (Q.map charPat) = true)
    (hZ : da.sizeInv (Q.map charPat) = true) : StdSem da (Q.map charPat) :=
  stdSem_of_tableInv da (Q.map charPat) (fun h => hQ0 (List.map_eq_nil_iff.1 h))
    (charPat_keys Q ▸ hnd) (charPat_key_ne hQ) hT (DA.sizeInv_depth hZ)

theorem charwise_items {da : DA V} (hv : da.variant = .charwise) {t : List Nat} (ht : Scalars t) :
    itemsOfHay da.variant (encAll t) = .ok (charItems t) ∧
      ∀ it ∈ charItems t, LabelOk da it.label :=
  ⟨hv ▸ itemsOfHay_charwise t ht, fun it _ => labelOk_of_charwise hv it.label⟩

/-- Char-wise overlapping search of valid UTF-8 equals the byte-level specification. -/
theorem charwise_overlapping (da : DA V) (Q : List (List Nat × V)) (hQ : ScalarPats Q)
    (hQ0 : Q ≠ []) (hnd : (Q.map (·.1)).Nodup) (hv : da.variant = .charwise)
    (hT : da.tableInv (Q.map charPat) = true) (hZ : da.sizeInv (Q.map charPat) = true)
    (t : List Nat) (ht : Scalars t) :
    ∃ l fin, ovAll da (encAll t) = .ok (l, fin) ∧
      l.map (·.1) = specOverlapping (Q.map bytePat) (encAll t) := by
  obtain ⟨hI, hL⟩ := charwise_items hv ht
  obtain ⟨l, fin, h1, h2⟩ := ovAll_eq_spec (stdSem_charPat da hQ hQ0 hnd hT hZ) hI hL
    (DA.sizeInv_outputs hZ)
  exact ⟨l, fin, h1, by rw [h2, specOvItems_chars_eq hQ ht]⟩

theorem charwise_find (da : DA V) (Q : List (List Nat × V)) (hQ : ScalarPats Q)
    (hQ0 : Q ≠ []) (hnd : (Q.map (·.1)).Nodup) (hv : da.variant = .charwise)
    (hT : da.tableInv (Q.map charPat) = true) (hZ : da.sizeInv (Q.map charPat) = true)
    (t : List Nat) (ht : Scalars t) :
    ∃ l fin, findAll da (encAll t) = .ok (l, fin) ∧
      l.map (·.1) = specFind (Q.map bytePat) (encAll t) := by
  obtain ⟨hI, hL⟩ := charwise_items hv ht
  obtain ⟨l, fin, h1, h2⟩ := findAll_eq_spec (stdSem_charPat da hQ hQ0 hnd hT hZ) hI hL
  exact ⟨l, fin, h1, by rw [h2, specFindItems_chars_eq hQ ht]⟩

theorem charwise_nosuffix (da : DA V) (Q : List (List Nat × V)) (hQ : ScalarPats Q)
    (hQ0 : Q ≠ []) (hnd : (Q.map (·.1)).Nodup) (hv : da.variant = .charwise)
    (hT : da.tableInv (Q.map charPat) = true) (hZ : da.sizeInv (Q.map charPat) = true)
    (t : List Nat) (ht : Scalars t) :
    ∃ l fin, noSufAll da (encAll t) = .ok (l, fin) ∧
      l.map (·.1) = specNoSuffix (Q.map bytePat) (encAll t) := by
  obtain ⟨hI, hL⟩ := charwise_items hv ht
  obtain ⟨l, fin, h1, h2⟩ := noSufAll_eq_spec (stdSem_charPat da hQ hQ0 hnd hT hZ) hI hL
  exact ⟨l, fin, h1, by rw [h2, specNoSufItems_chars_eq hQ ht]⟩

/-- Char-wise leftmost-longest search of valid UTF-8 equals the byte-level specification. -/
theorem charwise_leftmost (da : DA V) (Q : List (List Nat × V)) (hQ : ScalarPats Q)
    (hnd : (Q.map (·.1)).Nodup) (hv : da.variant = .charwise)
    (hT : da.leftmostInv (Q.map charPat) = true) (t : List Nat) (ht : Scalars t) :
    ∃ l, lmAll da (encAll t) = .ok (l, 0) ∧ l.map (·.1) = specLL (Q.map bytePat) (encAll t) := by
  have hkeys : ((Q.map charPat).map (·.key)).Nodup := charPat_keys Q ▸ hnd
  have hne := charPat_key_ne hQ
  have hd := decodes_charwise t ht
  rw [← hv] at hd
  obtain ⟨l, h1, h2⟩ := lmAll_spec (lmSem_of_leftmostInv da (Q.map charPat) hkeys hne hT)
    (absLm_eq_bestIn (Q.map charPat) hne hkeys) hd (fun it _ => labelOk_of_charwise hv it.label)
  exact ⟨l, h1, by rw [h2, specLLItems_chars_eq hQ ht]⟩

/-- **Agreement**, for the overlapping search: a byte-wise and a char-wise automaton whose tables
satisfy the invariants for the same UTF-8 patterns return the same matches — same byte offsets,
same values — on every UTF-8 haystack. -/
theorem agree_overlapping (db dc : DA V) (Q : List (List Nat × V)) (hQ : ScalarPats Q)
    (hQ0 : Q ≠ []) (hnd : (Q.map (·.1)).Nodup) (hVb : ValidPats (Q.map bytePat))
    (hb : db.variant = .bytewise) (hc : dc.variant = .charwise)
    (hTb : db.tableInv ((Q.map bytePat).map lp) = true) (hZb : db.sizeInv ((Q.map bytePat).map lp) = true)
    (hTc : dc.tableInv (Q.map charPat) = true) (hZc : dc.sizeInv (Q.map charPat) = true)
    (t : List Nat) (ht : Scalars t) (hbytes : ∀ b ∈ encAll t, b < 256) :
    ∃ lb lc fb fc, ovAll db (encAll t) = .ok (lb, fb) ∧ ovAll dc (encAll t) = .ok (lc, fc) ∧
      lb.map (·.1) = lc.map (·.1) := by
  obtain ⟨lb, fb, h1, h2⟩ := ovAll_bytewise_eq_spec hb
    (stdSem_of_tableInv db _ (by simpa using hVb.1)
      (by simpa [lp, List.map_map, Function.comp_def] using hVb.2.2)
      (by intro p hp; obtain ⟨q, hq, rfl⟩ := List.mem_map.1 hp; exact hVb.2.1 q hq)
      hTb (DA.sizeInv_depth hZb)) hbytes (by simpa using DA.sizeInv_outputs hZb)
  obtain ⟨lc, fc, h3, h4⟩ := charwise_overlapping dc Q hQ hQ0 hnd hc hTc hZc t ht
  exact ⟨lb, lc, fb, fc, h1, h3, by rw [h2, h4]⟩

/-- On the encoding of `cs` the decoder yields exactly the characters of `cs`, each with its
width and its byte end offset. -/
theorem decode_is_inverse (cs : List Nat) (h : ∀ c ∈ cs, isScalar c = true) (p fuel : Nat)
    (hf : (encAll cs).length + 1 ≤ fuel) :
    allItems .charwise fuel ⟨encAll cs, p⟩ = .ok (itemsOf cs p) := allItems_encAll cs h p fuel hf

/-- Self-synchronisation: an occurrence of an encoded pattern inside an encoded text starts on a
character boundary of the text. -/
theorem occurrences_on_boundaries (p t : List Nat) (hp : ∀ c ∈ p, isScalar c = true)
    (ht : ∀ c ∈ t, isScalar c = true) (hne : p ≠ []) (s : Nat)
    (h : encAll p <+: (encAll t).drop s) :
    ∃ t1 t2, t = t1 ++ t2 ∧ (encAll t1).length = s ∧ p <+: t2 := self_sync p t hp ht hne s h

/-- A haystack character that occurs in no pattern has no code and sends the automaton to the
root without any table access ("simply interrupts matching"). -/
theorem unmapped_to_root (da : DA V) (s label : Nat) (h : da.code label = none) :
    da.next s label = .ok rootIdx ∧ da.nextLm s label = .ok rootIdx := by
  simp [DA.next, DA.nextLm, DA.nextS, DA.nextLmS, h, Except.map]

/-- The byte-wise automaton built from the UTF-8 bytes of the patterns and the char-wise
automaton built from the same patterns return the same overlapping matches (byte offsets and
values) on every valid UTF-8 haystack — for every collection and every `num_free_blocks`. -/
theorem agree_build_overlapping (nb nc : Nat) (Q : List (List Nat × V)) (hQ : ScalarPats Q)
    (hQ0 : Q ≠ []) (hnd : (Q.map (·.1)).Nodup) (hVb : ValidPats (Q.map bytePat))
    (hbytes : ∀ p ∈ Q.map bytePat, ∀ b ∈ p.key, b < 256) (db dc : DA V)
    (hb : buildDA .bytewise ⟨0, nb⟩ ((Q.map bytePat).map lp) = .ok db)
    (hc : buildDA .charwise ⟨0, nc⟩ (Q.map charPat) = .ok dc)
    (t : List Nat) (ht : Scalars t) (hbt : ∀ b ∈ encAll t, b < 256) :
    ∃ lb lc fb fc, ovAll db (encAll t) = .ok (lb, fb) ∧ ovAll dc (encAll t) = .ok (lc, fc) ∧
      lb.map (·.1) = lc.map (·.1) := by
  obtain ⟨lb, fb, a1, b1⟩ := bytewise_overlapping_correct nb (Q.map bytePat) hVb hbytes db hb (encAll t) hbt
  obtain ⟨lc, fc, a2, b2⟩ := charwise_overlapping_correct nc Q hQ hQ0 hnd dc hc t ht
  exact ⟨lb, lc, fb, fc, a1, a2, by rw [b1, b2]⟩

theorem agree_build_leftmost_longest (nb nc : Nat) (Q : List (List Nat × V)) (hQ : ScalarPats Q)
    (hQ0 : Q ≠ []) (hnd : (Q.map (·.1)).Nodup) (hVb : ValidPats (Q.map bytePat))
    (hbytes : ∀ p ∈ Q.map bytePat, ∀ b ∈ p.key, b < 256) (db dc : DA V)
    (hb : buildDA .bytewise ⟨1, nb⟩ ((Q.map bytePat).map lpOf) = .ok db)
    (hc : buildDA .charwise ⟨1, nc⟩ (Q.map charPat) = .ok dc)
    (t : List Nat) (ht : Scalars t) (hbt : ∀ b ∈ encAll t, b < 256) :
    ∃ lb lc, lmAll db (encAll t) = .ok (lb, 0) ∧ lmAll dc (encAll t) = .ok (lc, 0) ∧
      lb.map (·.1) = lc.map (·.1) := by
  obtain ⟨lb, a1, b1⟩ := bytewise_leftmost_longest_correct nb (Q.map bytePat) hVb hbytes db hb (encAll t) hbt
  obtain ⟨lc, a2, b2⟩ := charwise_leftmost_longest_correct nc Q hQ hQ0 hnd dc hc t ht
  exact ⟨lb, lc, a1, a2, by rw [b1, b2]⟩

end Daac.Props.C08
