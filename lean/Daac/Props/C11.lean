/-
Property C11 — builder tuning parameters never change search results.

`num_free_blocks` only influences the *layout* of the double array. The Rung-1 theorems say that
any two tables satisfying the evaluated invariants for the same patterns answer every search on
every haystack like the specification — hence like each other. The check builds every
multi-block pattern set with num_free_blocks ∈ {1,2,3,4,16,64,256} (so blocks are evicted and closed),
evaluates the invariants (`tableInv`/`leftmostInv`, `sizeInv`, `boundsInv`, `countInv`) on each
resulting table, and compares results and `num_states` across the group directly.
The model-level facts that the state count and the validation outcome do not depend on
`num_free_blocks` are theorems (below).
-/
import Daac.Props.C01
import Daac.Props.C02
import Daac.Props.C03
import Daac.Props.C05
import Daac.Proofs.BuildCor
import Daac.Proofs.Rung2
namespace Daac.Props.C11
open Daac
variable {V : Type} [DecidableEq V]

theorem same_of_spec {ε α β γ : Type} {r1 r2 : Except ε (List (α × β) × γ)} {spec : List α}
    (h1 : ∃ l f, r1 = .ok (l, f) ∧ l.map (·.1) = spec)
    (h2 : ∃ l f, r2 = .ok (l, f) ∧ l.map (·.1) = spec) :
    ∃ l1 l2 f1 f2, r1 = .ok (l1, f1) ∧ r2 = .ok (l2, f2) ∧ l1.map (·.1) = l2.map (·.1) := by
  obtain ⟨l1, f1, a1, b1⟩ := h1
  obtain ⟨l2, f2, a2, b2⟩ := h2
  exact ⟨l1, l2, f1, f2, a1, a2, b1.trans b2.symm⟩

theorem same_of_spec_lm {ε α β : Type} {r1 r2 : Except ε (List (α × β) × Nat)} {spec : List α}
    (h1 : ∃ l, r1 = .ok (l, 0) ∧ l.map (·.1) = spec)
    (h2 : ∃ l, r2 = .ok (l, 0) ∧ l.map (·.1) = spec) :
    ∃ l1 l2, r1 = .ok (l1, 0) ∧ r2 = .ok (l2, 0) ∧ l1.map (·.1) = l2.map (·.1) := by
  obtain ⟨l1, a1, b1⟩ := h1
  obtain ⟨l2, a2, b2⟩ := h2
  exact ⟨l1, l2, a1, a2, b1.trans b2.symm⟩

/-- Two byte-wise tables (e.g. built with different `num_free_blocks`) satisfying the invariants
for the same valid patterns give the same overlapping matches on every haystack. -/
theorem overlapping_same (d1 d2 : DA V) (Ps : List (Pat V)) (hV : ValidPats Ps)
    (h1 : d1.variant = .bytewise) (h2 : d2.variant = .bytewise)
    (hT1 : d1.tableInv (Ps.map lp) = true) (hZ1 : d1.sizeInv (Ps.map lp) = true)
    (hT2 : d2.tableInv (Ps.map lp) = true) (hZ2 : d2.sizeInv (Ps.map lp) = true)
    (h : List Nat) (hb : ∀ b ∈ h, b < 256) :
    ∃ l1 l2 f1 f2, ovAll d1 h = .ok (l1, f1) ∧ ovAll d2 h = .ok (l2, f2) ∧ l1.map (·.1) = l2.map (·.1) :=
  same_of_spec (C01.overlapping_correct_bytewise d1 Ps hV h1 hT1 hZ1 h hb)
    (C01.overlapping_correct_bytewise d2 Ps hV h2 hT2 hZ2 h hb)

theorem find_same (d1 d2 : DA V) (Ps : List (Pat V)) (hV : ValidPats Ps)
    (h1 : d1.variant = .bytewise) (h2 : d2.variant = .bytewise)
    (hT1 : d1.tableInv (Ps.map lp) = true) (hZ1 : d1.sizeInv (Ps.map lp) = true)
    (hT2 : d2.tableInv (Ps.map lp) = true) (hZ2 : d2.sizeInv (Ps.map lp) = true)
    (h : List Nat) (hb : ∀ b ∈ h, b < 256) :
    ∃ l1 l2 f1 f2, findAll d1 h = .ok (l1, f1) ∧ findAll d2 h = .ok (l2, f2) ∧ l1.map (·.1) = l2.map (·.1) :=
  same_of_spec (C02.find_correct_bytewise d1 Ps hV h1 hT1 hZ1 h hb)
    (C02.find_correct_bytewise d2 Ps hV h2 hT2 hZ2 h hb)

theorem nosuffix_same (d1 d2 : DA V) (Ps : List (Pat V)) (hV : ValidPats Ps)
    (h1 : d1.variant = .bytewise) (h2 : d2.variant = .bytewise)
    (hT1 : d1.tableInv (Ps.map lp) = true) (hZ1 : d1.sizeInv (Ps.map lp) = true)
    (hT2 : d2.tableInv (Ps.map lp) = true) (hZ2 : d2.sizeInv (Ps.map lp) = true)
    (h : List Nat) (hb : ∀ b ∈ h, b < 256) :
    ∃ l1 l2 f1 f2, noSufAll d1 h = .ok (l1, f1) ∧ noSufAll d2 h = .ok (l2, f2) ∧ l1.map (·.1) = l2.map (·.1) :=
  same_of_spec (C05.nosuffix_correct_bytewise d1 Ps hV h1 hT1 hZ1 h hb)
    (C05.nosuffix_correct_bytewise d2 Ps hV h2 hT2 hZ2 h hb)

theorem leftmost_same (d1 d2 : DA V) (Ps : List (Pat V)) (hV : ValidPats Ps)
    (h1 : d1.variant = .bytewise) (h2 : d2.variant = .bytewise)
    (hT1 : d1.leftmostInv (Ps.map lpOf) = true) (hT2 : d2.leftmostInv (Ps.map lpOf) = true)
    (h : List Nat) (hb : ∀ b ∈ h, b < 256) :
    ∃ l1 l2, lmAll d1 h = .ok (l1, 0) ∧ lmAll d2 h = .ok (l2, 0) ∧ l1.map (·.1) = l2.map (·.1) :=
  same_of_spec_lm (C03.leftmost_longest_correct_bytewise d1 Ps hV h1 hT1 h hb)
    (C03.leftmost_longest_correct_bytewise d2 Ps hV h2 hT2 h hb)

/-- Item-level version covering the char-wise variant: same items, same labels ⇒ same matches. -/
theorem overlapping_same_items (d1 d2 : DA V) (P : List (LPat V))
    (hP : P ≠ []) (hkeys : (P.map (·.key)).Nodup) (hne : ∀ p ∈ P, p.key ≠ [])
    (hT1 : d1.tableInv P = true) (hZ1 : d1.sizeInv P = true)
    (hT2 : d2.tableInv P = true) (hZ2 : d2.sizeInv P = true)
    (h : List Nat) (items : List Item)
    (hI1 : itemsOfHay d1.variant h = .ok items) (hI2 : itemsOfHay d2.variant h = .ok items)
    (hL1 : ∀ it ∈ items, LabelOk d1 it.label) (hL2 : ∀ it ∈ items, LabelOk d2 it.label) :
    ∃ l1 l2 f1 f2, ovAll d1 h = .ok (l1, f1) ∧ ovAll d2 h = .ok (l2, f2) ∧ l1.map (·.1) = l2.map (·.1) :=
  same_of_spec (C01.overlapping_correct_items d1 P hP hkeys hne hT1 hZ1 h items hI1 hL1)
    (C01.overlapping_correct_items d2 P hP hkeys hne hT2 hZ2 h items hI2 hL2)

/-- In the model, the reported state count does not depend on `num_free_blocks`. -/
theorem num_states_same (variant : Variant) (kind n1 n2 : Nat) (P : List (LPat V)) (h : keysOk P)
    (d1 d2 : DA V) (h1 : buildDA variant ⟨kind, n1⟩ P = .ok d1) (h2 : buildDA variant ⟨kind, n2⟩ P = .ok d2) :
    d1.numStates = d2.numStates := by
  obtain ⟨_, acc1, ha1, _, _, hr1⟩ := buildDA_ok_decomp _ _ _ _ h1
  obtain ⟨_, acc2, ha2, _, _, hr2⟩ := buildDA_ok_decomp _ _ _ _ h2
  simp only at ha1 ha2
  rw [ha1] at ha2
  cases ha2
  rw [(buildRest_ok _ _ _ _ _ _ hr1).2.2.2, (buildRest_ok _ _ _ _ _ _ hr2).2.2.2]

/-! In the model of the builder, for ANY two values of `num_free_blocks` for which construction
succeeds, a search returns the same matches on every haystack (both equal the specification,
Proofs/Rung2.lean). Stated for the four byte-wise searches and the char-wise overlapping search. -/

theorem nfb_irrelevant_overlapping (n1 n2 : Nat) (Ps : List (Pat V)) (hV : ValidPats Ps)
    (hbytes : ∀ p ∈ Ps, ∀ b ∈ p.key, b < 256) (d1 d2 : DA V)
    (h1 : buildDA .bytewise ⟨0, n1⟩ (Ps.map lp) = .ok d1) (h2 : buildDA .bytewise ⟨0, n2⟩ (Ps.map lp) = .ok d2)
    (h : List Nat) (hh : ∀ b ∈ h, b < 256) :
    ∃ l1 l2 f1 f2, ovAll d1 h = .ok (l1, f1) ∧ ovAll d2 h = .ok (l2, f2) ∧ l1.map (·.1) = l2.map (·.1) :=
  same_of_spec (bytewise_overlapping_correct n1 Ps hV hbytes d1 h1 h hh)
    (bytewise_overlapping_correct n2 Ps hV hbytes d2 h2 h hh)

theorem nfb_irrelevant_find (n1 n2 : Nat) (Ps : List (Pat V)) (hV : ValidPats Ps)
    (hbytes : ∀ p ∈ Ps, ∀ b ∈ p.key, b < 256) (d1 d2 : DA V)
    (h1 : buildDA .bytewise ⟨0, n1⟩ (Ps.map lp) = .ok d1) (h2 : buildDA .bytewise ⟨0, n2⟩ (Ps.map lp) = .ok d2)
    (h : List Nat) (hh : ∀ b ∈ h, b < 256) :
    ∃ l1 l2 f1 f2, findAll d1 h = .ok (l1, f1) ∧ findAll d2 h = .ok (l2, f2) ∧ l1.map (·.1) = l2.map (·.1) :=
  same_of_spec (bytewise_find_correct n1 Ps hV hbytes d1 h1 h hh)
    (bytewise_find_correct n2 Ps hV hbytes d2 h2 h hh)

theorem nfb_irrelevant_nosuffix (n1 n2 : Nat) (Ps : List (Pat V)) (hV : ValidPats Ps)
    (hbytes : ∀ p ∈ Ps, ∀ b ∈ p.key, b < 256) (d1 d2 : DA V)
    (h1 : buildDA .bytewise ⟨0, n1⟩ (Ps.map lp) = .ok d1) (h2 : buildDA .bytewise ⟨0, n2⟩ (Ps.map lp) = .ok d2)
    (h : List Nat) (hh : ∀ b ∈ h, b < 256) :
    ∃ l1 l2 f1 f2, noSufAll d1 h = .ok (l1, f1) ∧ noSufAll d2 h = .ok (l2, f2) ∧ l1.map (·.1) = l2.map (·.1) :=
  same_of_spec (bytewise_nosuffix_correct n1 Ps hV hbytes d1 h1 h hh)
    (bytewise_nosuffix_correct n2 Ps hV hbytes d2 h2 h hh)

theorem nfb_irrelevant_leftmost (kind : Nat) (hk : kind = 1 ∨ kind = 2) (n1 n2 : Nat) (Ps : List (Pat V))
    (hV : ValidPats Ps) (hbytes : ∀ p ∈ Ps, ∀ b ∈ p.key, b < 256) (d1 d2 : DA V)
    (h1 : buildDA .bytewise ⟨kind, n1⟩ (Ps.map lpOf) = .ok d1) (h2 : buildDA .bytewise ⟨kind, n2⟩ (Ps.map lpOf) = .ok d2)
    (h : List Nat) (hh : ∀ b ∈ h, b < 256) :
    ∃ l1 l2, lmAll d1 h = .ok (l1, 0) ∧ lmAll d2 h = .ok (l2, 0) ∧ l1.map (·.1) = l2.map (·.1) := by
  rcases hk with rfl | rfl
  · exact same_of_spec_lm (bytewise_leftmost_longest_correct n1 Ps hV hbytes d1 h1 h hh)
      (bytewise_leftmost_longest_correct n2 Ps hV hbytes d2 h2 h hh)
  · exact same_of_spec_lm (bytewise_leftmost_first_correct n1 Ps hV hbytes d1 h1 h hh)
      (bytewise_leftmost_first_correct n2 Ps hV hbytes d2 h2 h hh)

theorem nfb_irrelevant_overlapping_charwise (n1 n2 : Nat) (Q : List (List Nat × V)) (hQ : ScalarPats Q)
    (hQ0 : Q ≠ []) (hnd : (Q.map (·.1)).Nodup) (d1 d2 : DA V)
    (h1 : buildDA .charwise ⟨0, n1⟩ (Q.map charPat) = .ok d1) (h2 : buildDA .charwise ⟨0, n2⟩ (Q.map charPat) = .ok d2)
    (t : List Nat) (ht : Scalars t) :
    ∃ l1 l2 f1 f2, ovAll d1 (encAll t) = .ok (l1, f1) ∧ ovAll d2 (encAll t) = .ok (l2, f2) ∧
      l1.map (·.1) = l2.map (·.1) :=
  same_of_spec (charwise_overlapping_correct n1 Q hQ hQ0 hnd d1 h1 t ht)
    (charwise_overlapping_correct n2 Q hQ hQ0 hnd d2 h2 t ht)

end Daac.Props.C11
