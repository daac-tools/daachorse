/-
Property C02 — standard non-overlapping search: earliest-ending match, then restart after it.
Same structure as Props/C01 (Rung 1 proved for all haystacks; invariants evaluated per built
automaton; ties K-search(find), K-trans, K-build).
-/
import Daac.Proofs.Glue
import Daac.Proofs.SpecProps
import Daac.Proofs.Rung2
namespace Daac.Props.C02
open Daac
variable {V : Type} [DecidableEq V]

theorem find_correct_bytewise (da : DA V) (Ps : List (Pat V)) (hV : ValidPats Ps)
    (hv : da.variant = .bytewise)
    (hT : da.tableInv (Ps.map lp) = true) (hZ : da.sizeInv (Ps.map lp) = true)
    (h : List Nat) (hb : ∀ b ∈ h, b < 256) :
    ∃ l fin, findAll da h = .ok (l, fin) ∧ l.map (·.1) = specFind Ps h :=
  findAll_bytewise_eq_spec hv (stdSem_bytes da Ps hV hT hZ) hb

theorem find_correct_items (da : DA V) (P : List (LPat V))
    (hP : P ≠ []) (hkeys : (P.map (·.key)).Nodup) (hne : ∀ p ∈ P, p.key ≠ [])
    (hT : da.tableInv P = true) (hZ : da.sizeInv P = true)
    (h : List Nat) (items : List Item) (hI : itemsOfHay da.variant h = .ok items)
    (hL : ∀ it ∈ items, LabelOk da it.label) :
    ∃ l fin, findAll da h = .ok (l, fin) ∧ l.map (·.1) = specFindItems P [] items :=
  findAll_eq_spec (stdSem_of_tableInv da P hP hkeys hne hT (DA.sizeInv_depth hZ)) hI hL


/-! ### The specification function meets the declarative statement of the property -/

/-- `specFind` is the sequence the property describes (`FindSpec`: each step reports, among the
occurrences lying entirely at or after the end of the previous match, the one that ends first,
the longest if several end there; resumes at that end; stops when none remains) … -/
theorem spec_is_findspec (Ps : List (Pat V)) (hV : ValidPats Ps) (h : List Nat) :
    FindSpec Ps h 0 (specFind Ps h) := specFind_spec hV h
/-- … and the only such sequence. -/
theorem spec_unique (Ps : List (Pat V)) (hV : ValidPats Ps) (h : List Nat) (ms : List (Match V))
    (hms : FindSpec Ps h 0 ms) : ms = specFind Ps h :=
  FindSpec.unique hV.nodup hms (specFind_spec hV h)
/-- Reported matches never overlap, are strictly increasing, and every one is a true occurrence. -/
theorem spec_nonoverlapping (Ps : List (Pat V)) (hV : ValidPats Ps) (h : List Nat) :
    (specFind Ps h).Pairwise (fun a b => a.stop ≤ b.start) :=
  (specFind_spec hV h).nonoverlap
theorem spec_increasing (Ps : List (Pat V)) (hV : ValidPats Ps) (h : List Nat) :
    (specFind Ps h).Pairwise (fun a b => a.start < b.start ∧ a.stop < b.stop) := specFind_increasing hV h
theorem spec_true_occurrences (Ps : List (Pat V)) (hV : ValidPats Ps) (h : List Nat) (m : Match V)
    (hm : m ∈ specFind Ps h) : IsOcc Ps h m := ((specFind_spec hV h).all_occ m hm).1


/-! ### Rung 2 — every pattern collection, every `num_free_blocks`, in the model of the builder
(`buildDA`; the chain of proofs is described in Props/C01.lean) -/

theorem find_correct_build_bytewise (nfb : Nat) (Ps : List (Pat V)) (hV : ValidPats Ps)
    (hbytes : ∀ p ∈ Ps, ∀ b ∈ p.key, b < 256) (da : DA V)
    (hb : buildDA .bytewise ⟨0, nfb⟩ (Ps.map lp) = .ok da) (h : List Nat) (hh : ∀ b ∈ h, b < 256) :
    ∃ l fin, findAll da h = .ok (l, fin) ∧ l.map (·.1) = specFind Ps h :=
  bytewise_find_correct nfb Ps hV hbytes da hb h hh

theorem find_correct_build_charwise (nfb : Nat) (Q : List (List Nat × V)) (hQ : ScalarPats Q)
    (hQ0 : Q ≠ []) (hnd : (Q.map (·.1)).Nodup) (da : DA V)
    (hb : buildDA .charwise ⟨0, nfb⟩ (Q.map charPat) = .ok da) (t : List Nat) (ht : Scalars t) :
    ∃ l fin, findAll da (encAll t) = .ok (l, fin) ∧
      l.map (·.1) = specFind (Q.map bytePat) (encAll t) :=
  charwise_find_correct nfb Q hQ hQ0 hnd da hb t ht

end Daac.Props.C02
