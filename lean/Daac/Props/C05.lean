/-
Property C05 — no-suffix overlapping search reports exactly the longest match per end position.
Same structure as Props/C01.
-/
import Daac.Proofs.Glue
import Daac.Proofs.SpecProps
import Daac.Proofs.Rung2
namespace Daac.Props.C05
open Daac
variable {V : Type} [DecidableEq V]

theorem nosuffix_correct_bytewise (da : DA V) (Ps : List (Pat V)) (hV : ValidPats Ps)
    (hv : da.variant = .bytewise)
    (hT : da.tableInv (Ps.map lp) = true) (hZ : da.sizeInv (Ps.map lp) = true)
    (h : List Nat) (hb : ∀ b ∈ h, b < 256) :
    ∃ l fin, noSufAll da h = .ok (l, fin) ∧ l.map (·.1) = specNoSuffix Ps h :=
  noSufAll_bytewise_eq_spec hv (stdSem_bytes da Ps hV hT hZ) hb

theorem nosuffix_correct_items (da : DA V) (P : List (LPat V))
    (hP : P ≠ []) (hkeys : (P.map (·.key)).Nodup) (hne : ∀ p ∈ P, p.key ≠ [])
    (hT : da.tableInv P = true) (hZ : da.sizeInv P = true)
    (h : List Nat) (items : List Item) (hI : itemsOfHay da.variant h = .ok items)
    (hL : ∀ it ∈ items, LabelOk da it.label) :
    ∃ l fin, noSufAll da h = .ok (l, fin) ∧ l.map (·.1) = specNoSufItems P [] items :=
  noSufAll_eq_spec (stdSem_of_tableInv da P hP hkeys hne hT (DA.sizeInv_depth hZ)) hI hL


/-! ### The specification function meets the declarative statement of the property -/

/-- Exactly one match per end position that has an occurrence — the longest pattern ending
there — and nothing for any other position. -/
theorem spec_longest_per_end (Ps : List (Pat V)) (hV : ValidPats Ps) (h : List Nat) (m : Match V) :
    m ∈ specNoSuffix Ps h ↔
      IsOcc Ps h m ∧ ∀ m', IsOcc Ps h m' → m'.stop = m.stop → m.start ≤ m'.start := mem_specNoSuffix hV
/-- In increasing order of position (hence at most one per position). -/
theorem spec_order (Ps : List (Pat V)) (hV : ValidPats Ps) (h : List Nat) :
    (specNoSuffix Ps h).Pairwise (fun a b => a.stop < b.stop) := specNoSuffix_sorted hV h
/-- It is the overlapping result with only the first match of every end position kept (what the
bundled CLI relies on). -/
theorem spec_is_head_of_overlapping (Ps : List (Pat V)) (hV : ValidPats Ps) (h : List Nat) :
    specNoSuffix Ps h = (specOverlapping Ps h).filter
      (fun m => decide (∀ m' ∈ specOverlapping Ps h, m'.stop = m.stop → m.start ≤ m'.start)) :=
  specNoSuffix_eq_filter hV h


/-! ### Rung 2 — every pattern collection, every `num_free_blocks`, in the model of the builder
(`buildDA`; the chain of proofs is described in Props/C01.lean) -/

theorem nosuffix_correct_build_bytewise (nfb : Nat) (Ps : List (Pat V)) (hV : ValidPats Ps)
    (hbytes : ∀ p ∈ Ps, ∀ b ∈ p.key, b < 256) (da : DA V)
    (hb : buildDA .bytewise ⟨0, nfb⟩ (Ps.map lp) = .ok da) (h : List Nat) (hh : ∀ b ∈ h, b < 256) :
    ∃ l fin, noSufAll da h = .ok (l, fin) ∧ l.map (·.1) = specNoSuffix Ps h :=
  bytewise_nosuffix_correct nfb Ps hV hbytes da hb h hh

theorem nosuffix_correct_build_charwise (nfb : Nat) (Q : List (List Nat × V)) (hQ : ScalarPats Q)
    (hQ0 : Q ≠ []) (hnd : (Q.map (·.1)).Nodup) (da : DA V)
    (hb : buildDA .charwise ⟨0, nfb⟩ (Q.map charPat) = .ok da) (t : List Nat) (ht : Scalars t) :
    ∃ l fin, noSufAll da (encAll t) = .ok (l, fin) ∧
      l.map (·.1) = specNoSuffix (Q.map bytePat) (encAll t) :=
  charwise_nosuffix_correct nfb Q hQ hQ0 hnd da hb t ht

end Daac.Props.C05
