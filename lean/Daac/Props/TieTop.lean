/-
Translation tie, the TOP of the byte-wise builder — what Proofs/TieTop buys.

The sequencing of `DoubleArrayAhoCorasickBuilder::build_with_values` / `build_sparse_nfa`
(src/bytewise/builder.rs) — the `for (pattern, value) in patvals { nfa.add(..)? }` loop, the
`nfa.len == 0` and `nfa.len > U24::MAX` tests, the `match self.match_kind` choosing `build_fails` /
`build_fails_leftmost`, `build_outputs`, `build_double_array`, `num_states = u32::try_from(len - 1)`,
the struct literal — is written by hand as the glue `Tie.P.genBuildB`, and it is also a Lean
definition GENERATED from the repository's current Rust text on every run
(tools/top2lean.py → Gen/BuildTopB.lean: `TB.Builder.build_sparse_nfa`, `TB.Builder.build_with_values`,
`structure TB.DoubleArrayAhoCorasick`), calling the already generated `N.NfaBuilder.*` (Gen/Nfa.lean)
and `DB.Builder.build_double_array` (Gen/BuildB.lean).  Proofs/TieTop proves
  * `build_sparse_nfa_eq`: the translated `build_sparse_nfa` = the first part of the glue;
  * `build_with_values_states_eq`: the `states` of the translated `build_with_values` = `genBuildB`;
and composes with Proofs/TieP (`genBuildB_eq_buildDA`, `pipeline_refines`) into the statement below.

What is tied: on every list of byte patterns within the `u32` scale (`2 + Σ |pattern| ≤ u32::MAX`,
bytes `< 256`), every `MatchKind` byte `kind ≤ 2`, every `num_free_blocks ≥ 1`, the translated
`build_with_values` started from the empty builder and the model `buildDA .bytewise` fail with the same
error kind (panic texts ignored), or both succeed with EQUAL `states`, EQUAL `num_states`, and output
records related by `OutsRel`, and `match_kind = kind` = the model's kind
(`translated_build_with_values_eq_model_full`; the frame property `KindFrame` of the translated
`build_double_array` — it never writes `match_kind` — is proved in Proofs/TieTopFrame.lean).

Outside: the translators (tools/top2lean.py, nfa2lean.py, dbl2lean.py, rs2lean.py, acc2lean.py) and their
preludes (meaning of `Vec`, `BTreeMap`, `RefCell`, `IntoIterator` = list, `AsRef<[u8]>` = identity,
integer conversions, `MatchKind` = its byte).  `build` (the
position-conversion wrapper around `build_with_values`): Props/TieTopBuild.lean.  The char-wise counterpart: Props/TieTopC.lean.
-/
import Daac.Proofs.TieTop
import Daac.Proofs.TieTopFrame
namespace Daac.Props.TieTop
open Daac Daac.Gen Daac.Tie.H Daac.Tie.F Daac.Tie.Top
variable {V : Type}

/-- The translated byte-wise `build_with_values` (Gen/BuildTopB.lean) and the model `buildDA .bytewise`
agree on every collection of byte patterns within the `u32` scale: same error kind, or the same state
table, the same `num_states` and related output records. -/
theorem translated_build_with_values_eq_model (kind : Nat) (cfg : Cfg) (pv : List (List Nat × V))
    (hk : kind ≤ 2) (hkind : cfg.kind = kind) (hnfb : 1 ≤ cfg.nfb)
    (hbytes : ∀ p ∈ pv, ∀ c ∈ p.1, c < 256)
    (hsz : 2 + (pv.map (·.1.length)).sum ≤ 4294967295) :
    match TB.Builder.build_with_values ⟨#[], kind, cfg.nfb⟩ pv, buildDA .bytewise cfg (toLPats pv) with
    | .error e, .error e' => norm (.error e : Except BuildErr Unit) = norm (.error e')
    | .ok a, .ok da => a.states = da.states ∧ a.num_states = da.numStates ∧ OutsRel a.outputs da.outputs
    | _, _ => False :=
  generated_build_with_values_eq_buildDA kind cfg pv hk hkind hnfb hbytes hsz

/-- The translated `build_sparse_nfa` is the first part of the hand-written glue. -/
theorem translated_build_sparse_nfa_eq_glue (b : LB.Builder) (pv : List (List Nat × V)) (hk : b.match_kind ≤ 2) :
    TB.Builder.build_sparse_nfa b pv = sparseGlue b.match_kind (toLPats pv) :=
  build_sparse_nfa_eq b pv hk

/-- The same with the `match_kind` field: the translated byte-wise `build_with_values`
and the model `buildDA .bytewise` fail with the same error kind, or succeed with the same state table, the
same `num_states`, `match_kind = kind` = the model's kind, and related output records. -/
theorem translated_build_with_values_eq_model_full (kind : Nat) (cfg : Cfg) (pv : List (List Nat × V))
    (hk : kind ≤ 2) (hkind : cfg.kind = kind) (hnfb : 1 ≤ cfg.nfb)
    (hbytes : ∀ p ∈ pv, ∀ c ∈ p.1, c < 256)
    (hsz : 2 + (pv.map (·.1.length)).sum ≤ 4294967295) :
    match TB.Builder.build_with_values ⟨#[], kind, cfg.nfb⟩ pv, buildDA .bytewise cfg (toLPats pv) with
    | .error e, .error e' => norm (.error e : Except BuildErr Unit) = norm (.error e')
    | .ok a, .ok da => a.states = da.states ∧ a.num_states = da.numStates ∧ a.match_kind = kind ∧
        a.match_kind = da.kind ∧ OutsRel a.outputs da.outputs
    | _, _ => False :=
  generated_build_with_values_eq_buildDA_full kind cfg pv hk hkind hnfb hbytes hsz

/-- The translated byte-wise `build_double_array` never writes `match_kind`. -/
theorem translated_build_double_array_keeps_kind : KindFrame V := kindFrame

end Daac.Props.TieTop

#print axioms Daac.Props.TieTop.translated_build_with_values_eq_model
#print axioms Daac.Props.TieTop.translated_build_sparse_nfa_eq_glue
#print axioms Daac.Props.TieTop.translated_build_with_values_eq_model_full
#print axioms Daac.Props.TieTop.translated_build_double_array_keeps_kind
