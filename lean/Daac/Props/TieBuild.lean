/-
Translation tie, construction side — what the equalities of Proofs/TieH (and TieL) buy.

`Daac/Gen/Helper.lean` is the free-slot bookkeeping `BuildHelper` as translated from
/repo's `src/build_helper.rs` on every run. Proofs/TieH shows every operation equal to the model
`Helper` (through `repr`, up to panic texts). The model's invariants — the capacity bookkeeping `WF`
and the sorted circular vacant list `LL` (Proofs/HelperFacts, HelperLL), on which the layout and
totality proofs of Rung 2 rest — therefore hold of the TRANSLATED code: its vacant-list walk yields
exactly the vacant indices in ascending order, claiming a vacant slot and pushing a block never
panic and re-establish the invariant.
-/
import Daac.Proofs.TieH
import Daac.Proofs.TieL
import Daac.Proofs.HelperLL
namespace Daac.Props.TieBuild
open Daac Daac.Gen Daac.Tie.H

structure Good (g : Gen.H.BuildHelper) (vac : List Nat) : Prop where
  wf : Wf g
  mwf : (Tie.H.repr g).WF
  ll : (Tie.H.repr g).LL vac

theorem ok_of_norm {α : Type} {x : Except BuildErr α} {y : α} (h : norm x = norm (.ok y)) : x = .ok y :=
  eq_ok_of_norm h

theorem ok_map_of_norm {α β : Type} {x : Except BuildErr α} {f : α → β} {y : β}
    (h : norm (x.map f) = norm (.ok y)) : ∃ v, x = .ok v ∧ f v = y := by
  cases x with
  | ok v => exact ⟨v, rfl, Except.ok.inj h⟩
  | error e => cases eq_ok_of_norm h

theorem generated_helper_eq_model (g : Gen.H.BuildHelper) (hw : Wf g) (i : Nat) :
    norm (Gen.H.BuildHelper.offset g i) = norm ((Tie.H.repr g).off i) ∧
    norm (Gen.H.BuildHelper.is_used_base g i) = norm ((Tie.H.repr g).isUsedBase i) ∧
    norm (Gen.H.BuildHelper.is_used_index g i) = norm ((Tie.H.repr g).isUsedIndex i) ∧
    norm ((Gen.H.BuildHelper.use_base g i).map (fun p => Tie.H.repr p.2)) = norm ((Tie.H.repr g).useBase i) ∧
    norm ((Gen.H.BuildHelper.use_index g i).map (fun p => Tie.H.repr p.2)) = norm ((Tie.H.repr g).useIndex i) ∧
    norm ((Gen.H.BuildHelper.push_block g).map (fun p => Tie.H.repr p.2)) = norm ((Tie.H.repr g).pushBlock) ∧
    Gen.H.BuildHelper.dropped_block g = .ok (Tie.H.repr g).droppedBlock ∧
    norm (Gen.H.BuildHelper.unused_base_in_block g i) = norm ((Tie.H.repr g).unusedBaseInBlock i) ∧
    norm (genVacantFrom (g.items.size + 1) (Gen.H.BuildHelper.vacant_iter g)) = norm ((Tie.H.repr g).vacant) :=
  ⟨offset_eq g hw i, is_used_base_eq g hw i, is_used_index_eq g hw i, use_base_eq g hw i,
   use_index_eq g hw i, push_block_eq g hw, dropped_block_eq g hw, unused_base_in_block_eq g hw i,
   vacant_eq g hw⟩

/-- `vacant_iter()` of the translated code, iterated to exhaustion, never panics and yields exactly
the vacant active indices in ascending order. -/
theorem generated_vacant_walk (g : Gen.H.BuildHelper) (vac : List Nat) (G : Good g vac) :
    genVacantFrom (g.items.size + 1) (Gen.H.BuildHelper.vacant_iter g) = .ok vac := by
  have h := vacant_eq g G.wf
  rw [Helper.vacant_ll G.mwf G.ll] at h
  exact ok_of_norm h

/-- Claiming a vacant slot with the translated `use_index` never panics and re-establishes the
invariant with that slot removed from the vacant list. -/
theorem generated_use_index (g : Gen.H.BuildHelper) (vac : List Nat) (G : Good g vac) (i : Nat)
    (hi : i ∈ vac) :
    ∃ g', Gen.H.BuildHelper.use_index g i = .ok ((), g') ∧ Good g' (vac.erase i) := by
  obtain ⟨h', e, ll'⟩ := Helper.useIndex_ll G.mwf G.ll hi
  have h := use_index_eq g G.wf i
  rw [e] at h
  obtain ⟨⟨u, g'⟩, hg, hr⟩ := ok_map_of_norm h
  refine ⟨g', by cases u; exact hg, ?_, ?_, ?_⟩
  · exact wf_of_size G.wf (use_index_size G.wf hg)
  · simp only at hr; rw [hr]; exact (Helper.useIndex_same e).wf G.mwf
  · simp only at hr; rw [hr]; exact ll'

/-- The translated `push_block` never panics below the `u32` scale limit and re-establishes the
invariant: the leftovers of a dropped block leave the vacant list, the new block's slots join it. -/
theorem generated_push_block (g : Gen.H.BuildHelper) (vac : List Nat) (G : Good g vac)
    (hsz : (Tie.H.repr g).numElements ≤ u32Max - (Tie.H.repr g).blockLen) :
    ∃ g', Gen.H.BuildHelper.push_block g = .ok ((), g') ∧
      Good g' (vac.filter (fun j => decide ((Tie.H.repr g').activeStart * (Tie.H.repr g).blockLen ≤ j)) ++
        List.range' ((Tie.H.repr g).numBlocks * (Tie.H.repr g).blockLen) (Tie.H.repr g).blockLen) := by
  obtain ⟨h', e, ll'⟩ := Helper.pushBlock_ll G.mwf G.ll hsz
  have h := push_block_eq g G.wf
  rw [e] at h
  obtain ⟨⟨u, g'⟩, hg, hr⟩ := ok_map_of_norm h
  simp only at hr
  subst hr
  obtain ⟨_, _, _, mwf', _⟩ := Helper.pushBlock_ok G.mwf e
  exact ⟨g', by cases u; exact hg, wf_of_size G.wf (push_block_size G.wf hg), mwf', ll'⟩

/-! `find_base` walks the vacant list lazily while the model first collects it; the two agree whenever
the walk succeeds and the list is no longer than the capacity — both facts hold for every helper
satisfying the invariant (`Helper.vacant_ll`, `Helper.LL.length_le`). -/

theorem vac_len (g : Gen.H.BuildHelper) (vac : List Nat) (G : Good g vac) : vac.length ≤ g.items.size := by
  have h := Helper.LL.length_le G.mwf G.ll
  simpa [Helper.cap, Tie.H.repr] using h

theorem generated_find_base_bytewise (b : Gen.LB.Builder) (g : Gen.H.BuildHelper) (vac : List Nat)
    (G : Good g vac) (idx : Std.HashMap (List Nat) Nat) (labels : List Nat) (hl : labels ≠ [])
    (hs : 0 < b.states.size ∧ b.states.size ≤ 4294967295) :
    norm (Gen.LB.Builder.find_base b labels g) = norm (findBase .bytewise ⟨b.states, Tie.H.repr g, idx⟩ labels) :=
  Tie.L.B.find_base_eq b g G.wf idx labels hl vac (Helper.vacant_ll G.mwf G.ll) (vac_len g vac G) hs

theorem generated_find_base_charwise (b : Gen.LC.Builder) (g : Gen.H.BuildHelper) (vac : List Nat)
    (G : Good g vac) (idx : Std.HashMap (List Nat) Nat) (edges : List (Nat × Nat)) (hl : edges ≠ [])
    (hs : b.states.size ≤ 4294967295) (hz : b.states.size ^^^ (edges.map (·.1)).headD 0 ≠ 0) :
    norm (Gen.LC.Builder.find_base b edges g)
      = norm (findBase .charwise ⟨b.states, Tie.H.repr g, idx⟩ (edges.map (·.1))) :=
  Tie.L.C.find_base_eq b g G.wf idx edges hl vac (Helper.vacant_ll G.mwf G.ll) (vac_len g vac G) hs hz

theorem generated_layout_eq_model (b : Gen.LB.Builder) (c : Gen.LC.Builder) (g : Gen.H.BuildHelper) (hw : Wf g)
    (idx : Std.HashMap (List Nat) Nat) (base blk : Nat) (labels : List Nat) (edges : List (Nat × Nat)) :
    norm ((Gen.LB.Builder.check_valid_base base labels g).map Option.isSome) = norm (baseOk .bytewise (Tie.H.repr g) base labels) ∧
    norm ((Gen.LC.Builder.verify_base base edges g).map Option.isSome) = norm (baseOk .charwise (Tie.H.repr g) base (edges.map (·.1))) ∧
    norm ((Gen.LB.Builder.remove_invalid_checks b blk g).map (fun p => p.2.states)) = norm (removeInvalidChecks b.states (Tie.H.repr g) blk) ∧
    (g.block_len = Gen.blockLen →
      norm ((Gen.LB.Builder.extend_array b g).map (fun p => (p.2.1.states, Tie.H.repr p.2.2)))
        = norm ((extendArray .bytewise ⟨b.states, Tie.H.repr g, idx⟩).map (fun l => (l.states, l.h)))) ∧
    (g.block_len = c.block_len →
      norm ((Gen.LC.Builder.extend_array c g).map (fun p => (p.2.1.states, Tie.H.repr p.2.2)))
        = norm ((extendArray .charwise ⟨c.states, Tie.H.repr g, idx⟩).map (fun l => (l.states, l.h)))) ∧
    (b.states = #[] →
      norm ((Gen.LB.Builder.init_array b).map (fun p => (p.2.states, Tie.H.repr p.1)))
        = norm (Tie.L.initModel .bytewise bytewiseBlockLen b.num_free_blocks)) ∧
    (c.states = #[] →
      norm ((Gen.LC.Builder.init_array c).map (fun p => (p.2.states, Tie.H.repr p.1)))
        = norm (Tie.L.initModel .charwise (max 2 (Nat.nextPowerOfTwo c.mapper.alphaSize)) c.num_free_blocks)) :=
  ⟨Tie.L.B.check_valid_base_eq g hw base labels, Tie.L.C.verify_base_eq g hw base edges,
   Tie.L.B.remove_invalid_checks_eq b g hw blk, fun hb => Tie.L.B.extend_array_eq b g hw hb idx,
   fun hb => Tie.L.C.extend_array_eq c g hw hb idx, Tie.L.B.init_array_eq b, Tie.L.C.init_array_eq c⟩

end Daac.Props.TieBuild
