/-
Translation tie, end to end for the char-wise builder — what Proofs/TiePC buys.

Every step of `CharwiseDoubleArrayAhoCorasickBuilder::build_with_values` /
`build_original_nfa_and_mapper` is a Lean definition GENERATED from the repository's current Rust
source on every run:
  `NfaBuilder::new` / `add` (insertion, validation; label width `nb` = `char::len_utf8`)
                                                               tools/nfa2lean.py  → Gen/Nfa.lean
  the frequency loop `for &c in &chars { .. freqs[c] += 1 }`, `CodeMapper::new`
                                                               tools/map2lean.py  → Gen/MapperNew.lean
  `build_fails` / `build_fails_leftmost` / `build_outputs`     tools/nfa2lean.py  → Gen/Nfa.lean
  `build_double_array` (DFS layout over mapped codes, fail/output pass)
                                                               tools/dbl2lean.py  → Gen/BuildC.lean
  `BuildHelper`, `init_array`, `find_base`, `extend_array`     tools/rs2lean.py   → Gen/Helper, LayoutC
and each is tied to the hand-written path-keyed model by a kernel-checked refinement (Proofs/TieN,
TieF*, TieM, TieDC, TieH, TieL).  Proofs/TiePC composes them.

WHAT IS TIED.  `Tie.PC.genBuildC nb kind nfb P` runs the generated steps in the order of the Rust
text: per pattern the translated `add` and then — only if it returned `Ok`, as the `?` dictates — the
translated counting loop on that pattern's characters (`Tie.PC.addCountAllGen`; a pattern shadowed
under leftmost-first IS counted, an `add` error returns before any mapper exists); then the translated
`CodeMapper::new(&freqs)`; the `nfa.len == 0` test (AFTER the mapper, as in the Rust; there is no
`len > U24::MAX` test in the char-wise builder); the fail pass selected by the match kind;
`build_outputs`; and the translated `build_double_array` on the builder whose `mapper` field is the
mapper just computed.  `generated_builder_eq_model_charwise`:

    norm (genBuildC nb kind nfb P) = norm ((buildDA .charwise ⟨kind, nfb⟩ P).map (·.states))

for EVERY collection `P` whose labels are `char`s (code points ≤ 0x10FFFF) within the `u32` scale,
every match kind, every `num_free_blocks ≥ 1`: the translated pipeline and the model builder fail with
the same error kind or return the same state table.  `generated_parts_eq_model_charwise` adds the
other fields of the automaton: the mapper's table and alphabet size, the output records, `num_states`.
Every Rung-2 theorem about char-wise automata is about `buildDA .charwise`; composed with this
equation they are statements about the table the TRANSLATED Rust builder computes (last corollary).

WHAT IS OUTSIDE (trusted):
  * the translators and their preludes (meaning of `Vec`, `BTreeMap`, `sort_by` / `sort_unstable_by`,
    integer conversions; `char` = its code point);
  * the sequencing glue `genBuildC` / `addCountAllGen` / `failPass` (a dozen hand-written lines that
    call the generated units in the order of the Rust text; themselves tied to the TRANSLATED
    `build_original_nfa_and_mapper` / `build_with_values` in Props/TieTopC.lean) and the
    field-by-field conversion `Tie.PC.toMapper` between the two Lean records used for `CodeMapper` (Gen/MapperNew.lean vs the
    model's `Mapper` used by Gen/LayoutC.lean);
  * `build` (the position-conversion wrapper, model `buildPositions`; tied in Props/TieTopBuild.lean)
    and the final struct literal of `build_with_values` (`u32::try_from(nfa.states.len() - 1)`, which
    cannot fail within the scale; tied in Props/TieTopC.lean);
  * the `RefCell` borrow checks of the sparse NFA (`borrow` / `borrow_mut` never conflict: not
    modelled);
  * `u32` overflow of the frequency counters `freqs[c] += 1` (needs 2^32 occurrences of one character
    — excluded by `hsz` for the inputs covered here, but the translated counter is an unbounded `Nat`).
-/
import Daac.Proofs.TiePC
import Daac.Props.TieBuild
import Daac.Props.C01
namespace Daac.Props.TiePipelineC
open Daac Daac.Gen Daac.Gen.N Daac.Gen.M Daac.Tie.N Daac.Tie.F Daac.Tie.H Daac.Tie.M Daac.Tie.PC
variable {V : Type}

/-- **Translated char-wise builder = model builder**, as one equation (errors included). -/
theorem generated_builder_eq_model_charwise (nb : Nat → Nat) (kind : Nat) (cfg : Cfg) (P : List (LPat V))
    (hkind : cfg.kind = kind) (hnfb : 1 ≤ cfg.nfb) (hch : ∀ p ∈ P, ∀ c ∈ p.key, c ≤ 0x10FFFF)
    (hsz : 2 + (P.map (·.key.length)).sum ≤ 4294967295)
    (hlen : ∀ p ∈ P, (p.key.map nb).sum = p.blen ∧ p.blen ≤ 4294967295) :
    norm (genBuildC nb kind cfg.nfb P) = norm ((buildDA .charwise cfg P).map (·.states)) :=
  genBuildC_eq_buildDA nb kind cfg P hkind hnfb hch hsz hlen

/-- The interleaved pattern loop is the insertion fold followed — only when no `add` failed — by the
counting fold of Props/TieMapper. -/
theorem generated_pattern_loop (nb : Nat → Nat) (ps : List (LPat V)) (g : NfaBuilder V) (fr : Array Nat) :
    addCountAllGen nb g fr ps =
      match addAllGen nb g ps with
      | .error e => .error e
      | .ok g' =>
        match countAll fr (ps.map (·.key)) with
        | .error e => .error e
        | .ok fr' => .ok (g', fr') :=
  addCountAllGen_eq nb ps g fr

/-- All parts of the automaton: when the translated insertion fold succeeds and registered a pattern,
the translated mapper `m`, the translated output records and the state count are those of the model
automaton, and the state tables agree up to panic texts. -/
theorem generated_parts_eq_model_charwise (nb : Nat → Nat) (kind : Nat) (cfg : Cfg) (P : List (LPat V))
    (hkind : cfg.kind = kind) (hnfb : 1 ≤ cfg.nfb) (hch : ∀ p ∈ P, ∀ c ∈ p.key, c ≤ 0x10FFFF)
    (hsz : 2 + (P.map (·.key.length)).sum ≤ 4294967295)
    (hlen : ∀ p ∈ P, (p.key.map nb).sum = p.blen ∧ p.blen ≤ 4294967295)
    (g : NfaBuilder V) (hadd : addAllGen nb (NfaBuilder.new kind) P = .ok g) (hl : g.len ≠ 0) :
    ∃ freqs m q g1 g2, addCountAllGen nb (NfaBuilder.new kind) #[] P = .ok (g, freqs) ∧
      CodeMapper.new freqs = .ok m ∧
      failPass kind g = .ok (q, g1) ∧ NfaBuilder.build_outputs g1 q = .ok ((), g2) ∧
      norm ((DC.Builder.build_double_array ⟨#[], toMapper m, kind, 0, cfg.nfb⟩ g2).map (·.2.states))
        = norm ((buildDA .charwise cfg P).map (·.states)) ∧
      ∀ da, buildDA .charwise cfg P = .ok da →
        OutsRel g2.outputs da.outputs ∧ da.numStates = g.states.size - 1 ∧ da.kind = kind ∧
        da.mapTable = m.table ∧ da.alphaSize = m.alphabet_size :=
  generated_charwise_build_eq_buildDA nb kind cfg P hkind hnfb hch hsz hlen g hadd hl

/-- … hence whenever the model builder succeeds, the translated pipeline succeeds with exactly the
model's table (no panic, no fuel exhaustion anywhere in the translated code). -/
theorem generated_table_of_model_ok_charwise (nb : Nat → Nat) (kind : Nat) (cfg : Cfg) (P : List (LPat V))
    (da : DA V) (hkind : cfg.kind = kind) (hnfb : 1 ≤ cfg.nfb)
    (hch : ∀ p ∈ P, ∀ c ∈ p.key, c ≤ 0x10FFFF)
    (hsz : 2 + (P.map (·.key.length)).sum ≤ 4294967295)
    (hlen : ∀ p ∈ P, (p.key.map nb).sum = p.blen ∧ p.blen ≤ 4294967295)
    (hb : buildDA .charwise cfg P = .ok da) :
    genBuildC nb kind cfg.nfb P = .ok da.states := by
  have h := genBuildC_eq_buildDA nb kind cfg P hkind hnfb hch hsz hlen
  rewrite [hb] at h
  exact Daac.Props.TieBuild.ok_of_norm h

theorem sum_widths (cs : List Nat) : (cs.map utf8Width).sum = (encAll cs).length := by
  induction cs with
  | nil => rfl
  | cons c cs ih =>
    simp only [List.map_cons, List.sum_cons, encAll_cons, List.length_append, encScalar_length, ih]

/-- **C01 for the table the translated char-wise builder computes** (standard kind): for every valid
collection of UTF-8 patterns (as scalar-value lists) within the `u32` scale and every
`num_free_blocks ≥ 1`, if the model builder succeeds then the TRANSLATED pipeline (label width
`utf8Width` = `char::len_utf8`) returns exactly that table, and the overlapping search on the automaton
returns `specOverlapping` of the encoded patterns on every valid UTF-8 haystack, with byte offsets. -/
theorem generated_table_overlapping_correct_charwise [DecidableEq V] (nfb : Nat) (Q : List (List Nat × V))
    (hQ : ScalarPats Q) (hQ0 : Q ≠ []) (hnd : (Q.map (·.1)).Nodup) (hnfb : 1 ≤ nfb)
    (hsz : 2 + ((Q.map charPat).map (·.key.length)).sum ≤ 4294967295)
    (hbl : ∀ q ∈ Q, (encAll q.1).length ≤ 4294967295)
    (da : DA V) (hb : buildDA .charwise ⟨0, nfb⟩ (Q.map charPat) = .ok da) :
    genBuildC utf8Width 0 nfb (Q.map charPat) = .ok da.states ∧
    ∀ t : List Nat, Scalars t →
      ∃ l fin, ovAll da (encAll t) = .ok (l, fin) ∧
        l.map (·.1) = specOverlapping (Q.map bytePat) (encAll t) := by
  have hlen : ∀ p ∈ Q.map charPat, (p.key.map utf8Width).sum = p.blen ∧ p.blen ≤ 4294967295 := by
    intro p hp
    obtain ⟨q, hq, rfl⟩ := List.mem_map.1 hp
    exact ⟨by simp only [charPat, sum_widths], by simp only [charPat]; exact hbl q hq⟩
  have hch : ∀ p ∈ Q.map charPat, ∀ c ∈ p.key, c ≤ 0x10FFFF := by
    intro p hp c hc
    obtain ⟨q, hq, rfl⟩ := List.mem_map.1 hp
    rcases (isScalar_iff c).mp ((hQ q hq).2 c hc) with h | ⟨_, h⟩
    · exact Nat.le_of_lt (Nat.lt_trans h (by decide))
    · exact Nat.le_of_lt_succ h
  refine ⟨generated_table_of_model_ok_charwise utf8Width 0 ⟨0, nfb⟩ (Q.map charPat) da rfl hnfb hch hsz
    hlen hb, ?_⟩
  intro t ht
  exact C01.overlapping_correct_build_charwise nfb Q hQ hQ0 hnd da hb t ht

end Daac.Props.TiePipelineC

#print axioms Daac.Props.TiePipelineC.generated_builder_eq_model_charwise
#print axioms Daac.Props.TiePipelineC.generated_parts_eq_model_charwise
#print axioms Daac.Props.TiePipelineC.generated_table_of_model_ok_charwise
#print axioms Daac.Props.TiePipelineC.generated_table_overlapping_correct_charwise
