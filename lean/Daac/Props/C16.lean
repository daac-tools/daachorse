/-
Property C16 — daacfind prints exactly the matching lines and highlights the matched text.

Model: `Daac.Cli` (Model/Cli.lean): pattern-list assembly, the per-line filter and the
depth-counter highlighting of `find_and_output`, with the two library searches as parameters
instantiated by the specification (justified by C02/C05). Tie K-cli: stdout and exit status of
the dev AND the release binary on generated invocations equal the model rendering byte for byte,
and the property is checked directly on the actual output. Not modelled (exercised only): clap's
parsing, file/stdin I/O, termcolor (its output = the two escape strings `ansiReset`, `ansiRed`).
"Starts without panicking" is observed on every invocation of the dev binary (defect D1, fixed).
-/
import Daac.Proofs.CliFacts
namespace Daac.Props.C16
open Daac Daac.Cli
variable {V : Type}

/-- A line is printed iff it contains at least one pattern occurrence — in both colour modes,
whatever the prefixes. -/
theorem prints_iff_occurs (P : List (Pat V)) (hv : ValidPats P) (color : Bool)
    (fn : Option (List Nat)) (ln : Option Nat) (line : List Nat) :
    findAndOutput (specFind P) (specNoSuffix P) color fn ln line ≠ [] ↔ ∃ m, IsOcc P line m :=
  (not_congr (findAndOutput_spec_eq_nil_iff hv color fn ln line)).trans Classical.not_not

/-- Without colouring the printed bytes are the prefixes, the unchanged line, a newline. -/
theorem plain_output (P : List (Pat V)) (hv : ValidPats P) (fn : Option (List Nat)) (ln : Option Nat)
    (line : List Nat) (hocc : ∃ m, IsOcc P line m) :
    findAndOutput (specFind P) (specNoSuffix P) false fn ln line = linePrefix fn ln ++ line ++ [10] :=
  plain_output_of_ne_nil hv fn ln line ((prints_iff_occurs P hv false fn ln line).2 hocc)

/-- With colouring the printed bytes are the prefixes, the rendering of the segments
`colourSegs` (those `highlight_exact` speaks of), a newline. -/
theorem highlight_segments_are_printed (P : List (Pat V)) (hv : ValidPats P) (fn : Option (List Nat))
    (ln : Option Nat) (line : List Nat) (hocc : ∃ m, IsOcc P line m) :
    findAndOutput (specFind P) (specNoSuffix P) true fn ln line =
      linePrefix fn ln ++ renderBytes (colourSegs line (specNoSuffix P line)) ++ [10] :=
  (findAndOutput_colour _ _ fn ln line).trans
    (if_neg fun he => (specNoSuffix_eq_nil_iff hv line).1 (List.isEmpty_iff.1 he) hocc)

/-- With colouring the output is the prefixes followed by segments, each introduced by one of
the two escape strings, and the segments concatenate to the unchanged line. -/
theorem text_unchanged (P : List (Pat V)) (hv : ValidPats P) (fn : Option (List Nat)) (ln : Option Nat)
    (line : List Nat) (hocc : ∃ m, IsOcc P line m) :
    ∃ segs : List (Bool × List Nat),
      findAndOutput (specFind P) (specNoSuffix P) true fn ln line =
        linePrefix fn ln ++ (segs.flatMap fun s => (if s.1 then ansiRed else ansiReset) ++ s.2) ++ [10] ∧
      segs.flatMap (·.2) = line :=
  ⟨colourSegs line (specNoSuffix P line), highlight_segments_are_printed P hv fn ln line hocc,
    colourSegs_text line _⟩

/-- **Highlight exactness**: byte `i` of a printed line is in a highlighted segment iff it is
covered by at least one occurrence of some pattern. -/
theorem highlight_exact (P : List (Pat V)) (hv : ValidPats P) (line : List Nat) (i : Nat)
    (hi : i < line.length) :
    (hlMask (colourSegs line (specNoSuffix P line)))[i]? = some true ↔
      ∃ m, IsOcc P line m ∧ m.start ≤ i ∧ i < m.stop :=
  (flag_iff_covered hv line i hi true).trans (by simp only [true_iff])

/-- The longest-match-per-end search the tool uses covers every occurrence. -/
theorem nosuffix_covers_all (P : List (Pat V)) (hv : ValidPats P) (line : List Nat) (i : Nat) :
    (∃ m, IsOcc P line m ∧ m.start ≤ i ∧ i < m.stop) ↔
      ∃ m ∈ specNoSuffix P line, m.start ≤ i ∧ i < m.stop :=
  Cli.covered_iff_nosuf_covered hv line i

/-- The pattern list never contains an empty pattern (empty lines of `-f` / `-p` are dropped). -/
theorem patterns_nonempty (f a : Option (List Nat)) : ∀ p ∈ patterns f a, p ≠ [] := by
  intro p hp
  simp only [patterns, List.mem_append, List.mem_filter, decide_eq_true_eq] at hp
  exact hp.elim (·.2) (·.2)

end Daac.Props.C16
