/-
Property C03 — leftmost-longest search picks the leftmost start, then the longest pattern there.

Rung 1 (proved, all haystacks): tables satisfying the evaluated invariant `leftmostInv` — (G1)
which pattern a node reports and (G3) where the leftmost transition goes, for every node and
every label — answer `leftmost_find_iter` on every haystack exactly like the specification.
The proof has three parts (DESIGN.md §3.4): tables ⇒ string-level semantics (`LmSem`,
Proofs/LmSem.lean); the abstract scan driven by (G1)/(G3) returns the leftmost-longest occurrence
(pure string combinatorics; the loop invariants K1–K3 appear as one statement about the current
node, `absLm_from` in Proofs/LmAbs.lean); the model
iterator — including the char-wise `skips` bookkeeping and the unchecked re-slicing at
`self.pos` — simulates the abstract scan (Proofs/LmIter.lean).
Rung 2 (second half of this file): in the model of the builder, every valid pattern collection
and every `num_free_blocks` yield tables that answer every haystack with `specLL`. Besides,
`leftmostInv` is evaluated on every automaton the implementation builds during a run.
-/
import Daac.Proofs.LmSem
import Daac.Proofs.LmAbs
import Daac.Proofs.LmIter
import Daac.Proofs.SpecProps
import Daac.Proofs.Rung2
import Daac.Proofs.Steps
namespace Daac.Props.C03
open Daac
variable {V : Type} [DecidableEq V]

/-- **Byte-wise, byte-level**: for every haystack of bytes the model of `leftmost_find_iter`
returns — without fault, within its fuel — exactly `specLL Ps h`: the unique greedy
left-to-right tiling by leftmost-longest occurrences. -/
theorem leftmost_longest_correct_bytewise (da : DA V) (Ps : List (Pat V)) (hV : ValidPats Ps)
    (hv : da.variant = .bytewise) (hT : da.leftmostInv (Ps.map lpOf) = true)
    (h : List Nat) (hb : ∀ b ∈ h, b < 256) :
    ∃ l, lmAll da h = .ok (l, 0) ∧ l.map (·.1) = specLL Ps h := by
  obtain ⟨_, hne, hnd⟩ := hV
  have hkeys : ((Ps.map lpOf).map (·.key)).Nodup := by
    rw [List.map_map]; exact hnd
  have hne' : ∀ p ∈ Ps.map lpOf, p.key ≠ [] := by
    intro p hp
    obtain ⟨q, hq, rfl⟩ := List.mem_map.1 hp
    exact hne q hq
  exact lmAll_bytewise_spec Ps (lmSem_of_leftmostInv da (Ps.map lpOf) hkeys hne' hT)
    (absLm_eq_bestIn (Ps.map lpOf) hne' hkeys) hv h
    (fun b hb' => labelOk_of_bytewise hv (hb b hb'))

/-- **Either variant, item level**: for any haystack that decodes into `all` (`Decodes`: the
items from offset 0 and from every item end, as the iterator re-slices them), the iterator
returns exactly the item-level specification `specLLItems`. -/
theorem leftmost_longest_correct_items (da : DA V) (P : List (LPat V))
    (hkeys : (P.map (·.key)).Nodup) (hne : ∀ p ∈ P, p.key ≠ [])
    (hT : da.leftmostInv P = true) (h : List Nat) (all : List WItem)
    (hd : Decodes da.variant h all) (hlab : ∀ it ∈ all, LabelOk da it.label) :
    ∃ l, lmAll da h = .ok (l, 0) ∧ l.map (·.1) = specLLItems P all 0 :=
  lmAll_spec (lmSem_of_leftmostInv da P hkeys hne hT) (absLm_eq_bestIn P hne hkeys) hd hlab

/-- Valid UTF-8 decodes (so the char-wise statement applies to every valid UTF-8 haystack), and
so does every byte string for the byte-wise variant. -/
theorem utf8_decodes (cs : List Nat) (hcs : ∀ c ∈ cs, isScalar c = true) :
    Decodes .charwise (encAll cs) (itemsOf cs 0) := decodes_charwise cs hcs
theorem bytes_decode (h : List Nat) : Decodes .bytewise h (byteItems h 0) := decodes_bytewise h

/-- The string-combinatorics core: the abstract leftmost scan returns the leftmost-longest
occurrence, for every valid pattern list and every text. -/
theorem abstract_scan_correct (P : List (LPat V)) (hne : ∀ p ∈ P, p.key ≠ [])
    (hkeys : (P.map (·.key)).Nodup) (x : List Nat) : absLm P x [] none 0 = bestIn P x 0 :=
  absLm_eq_bestIn P hne hkeys x


/-! ### The specification function meets the declarative statement of the property -/

/-- `specLL` is the sequence the property describes (`LLSpec`: smallest start among occurrences
starting at or after the end of the previous match, then the longest there; resume at its end) … -/
theorem spec_is_llspec (Ps : List (Pat V)) (hV : ValidPats Ps) (h : List Nat) :
    LLSpec Ps h 0 (specLL Ps h) := specLL_spec hV h
/-- … and the only one: the unique greedy left-to-right tiling. -/
theorem spec_unique (Ps : List (Pat V)) (hV : ValidPats Ps) (h : List Nat) (ms : List (Match V))
    (hms : LLSpec Ps h 0 ms) : ms = specLL Ps h :=
  LLSpec.unique hV.nodup hms (specLL_spec hV h)
theorem spec_nonoverlapping (Ps : List (Pat V)) (hV : ValidPats Ps) (h : List Nat) :
    (specLL Ps h).Pairwise (fun a b => a.stop ≤ b.start) :=
  (specLL_leftmost hV h).nonoverlap
theorem spec_true_occurrences (Ps : List (Pat V)) (hV : ValidPats Ps) (h : List Nat) (m : Match V)
    (hm : m ∈ specLL Ps h) : IsOcc Ps h m := ((specLL_leftmost hV h).all_occ m hm).1
/-- No occurrence starts in a gap before the next reported start. -/
theorem spec_no_occurrence_in_gap (Ps : List (Pat V)) (hV : ValidPats Ps) (h : List Nat)
    (l₁ l₂ : List (Match V)) (a b m' : Match V) (hl : specLL Ps h = l₁ ++ a :: b :: l₂)
    (ho : IsOcc Ps h m') : ¬ (a.stop ≤ m'.start ∧ m'.start < b.start) :=
  (hl ▸ specLL_leftmost hV h).no_occ_in_gap ho
theorem spec_no_occurrence_before_first (Ps : List (Pat V)) (hV : ValidPats Ps) (h : List Nat)
    (a : Match V) (l : List (Match V)) (m' : Match V) (hl : specLL Ps h = a :: l) (ho : IsOcc Ps h m') :
    a.start ≤ m'.start := (hl ▸ specLL_leftmost hV h).no_occ_before_first ho (Nat.zero_le _)
theorem spec_no_occurrence_after_last (Ps : List (Pat V)) (hV : ValidPats Ps) (h : List Nat)
    (l₁ : List (Match V)) (a m' : Match V) (hl : specLL Ps h = l₁ ++ [a]) (ho : IsOcc Ps h m') :
    m'.start < a.stop := (hl ▸ specLL_leftmost hV h).no_occ_after_last ho


/-! ### Rung 2 — every pattern collection, every `num_free_blocks`, in the model of the builder
(`buildDA`; the chain of proofs is described in Props/C01.lean) -/

theorem leftmost_longest_correct_build_bytewise (nfb : Nat) (Ps : List (Pat V)) (hV : ValidPats Ps)
    (hbytes : ∀ p ∈ Ps, ∀ b ∈ p.key, b < 256) (da : DA V)
    (hb : buildDA .bytewise ⟨1, nfb⟩ (Ps.map lpOf) = .ok da) (h : List Nat) (hh : ∀ b ∈ h, b < 256) :
    ∃ l, lmAll da h = .ok (l, 0) ∧ l.map (·.1) = specLL Ps h :=
  bytewise_leftmost_longest_correct nfb Ps hV hbytes da hb h hh

theorem leftmost_longest_correct_build_charwise (nfb : Nat) (Q : List (List Nat × V)) (hQ : ScalarPats Q)
    (hQ0 : Q ≠ []) (hnd : (Q.map (·.1)).Nodup) (da : DA V)
    (hb : buildDA .charwise ⟨1, nfb⟩ (Q.map charPat) = .ok da) (t : List Nat) (ht : Scalars t) :
    ∃ l, lmAll da (encAll t) = .ok (l, 0) ∧ l.map (·.1) = specLL (Q.map bytePat) (encAll t) :=
  charwise_leftmost_longest_correct nfb Q hQ hQ0 hnd da hb t ht

end Daac.Props.C03
