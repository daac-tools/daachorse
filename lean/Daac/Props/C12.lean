/-
Property C12 — byte-iterator searches equal slice searches and read their source lazily, once.

Model: the iterators consume a byte source `Src` with a counter of the bytes pulled so far; the
slice adapters (`U8SliceIterator`, `StrIterator`) are the same source built from the slice, so
"equal results" holds by construction of the model and is tied to the implementation by K-search
on both entry points. Laziness is proved for arbitrary tables (no invariant needed) and tied by
comparing, after EVERY `next()`, the number of bytes the real counting source has yielded with
the model's `pulled`.
-/
import Daac.Proofs.IterFacts
namespace Daac.Props.C12
open Daac
variable {V : Type}

/-- `find_iter_from_iter`: at the moment a match ending at offset `e` is returned exactly `e`
bytes have been pulled; when the iterator is exhausted all `h.length` bytes have been pulled;
the pulled counts strictly increase (each byte is pulled once, left to right). -/
theorem find_lazy (da : DA V) (h : List Nat) (l : List (Match V × Nat)) (fin : Nat) :
    findAll da h = .ok (l, fin) →
      Lazy l ∧ fin = h.length ∧ (l.map (·.2)).Pairwise (· < ·) := findAll_lazy

/-- `find_overlapping_no_suffix_iter_from_iter`. -/
theorem nosuffix_lazy (da : DA V) (h : List Nat) (l : List (Match V × Nat)) (fin : Nat) :
    noSufAll da h = .ok (l, fin) →
      Lazy l ∧ fin = h.length ∧ (l.map (·.2)).Pairwise (· < ·) := noSufAll_lazy

/-- `find_overlapping_iter_from_iter`: matches drained from a pending output chain pull nothing
(the counts are non-decreasing), and every returned match ends exactly at the pulled count. -/
theorem overlapping_lazy (da : DA V) (h : List Nat) (l : List (Match V × Nat)) (fin : Nat) :
    ovAll da h = .ok (l, fin) →
      Lazy l ∧ fin = h.length ∧ (l.map (·.2)).Pairwise (· ≤ ·) := ovAll_lazy

/-- One `next()` of the haystack iterator consumes a non-empty prefix of the remaining source,
in order, and the item's end offset is the number of bytes pulled so far. -/
theorem source_single_pass (v : Variant) (s s' : Src) (item : Item) :
    nextItem v s = .ok (some (item, s')) →
      item.stop = s'.pulled ∧ s.pulled < s'.pulled ∧ s'.rest.length < s.rest.length ∧
      s'.pulled + s'.rest.length = s.pulled + s.rest.length ∧
      (∃ k, s'.rest = s.rest.drop k ∧ s'.pulled = s.pulled + k) := nextItem_spec

/-- The single-step (history) form for the overlapping iterator, for every reachable state. -/
theorem overlapping_step (da : DA V) (it it' : OvIt) (r : Option (Match V)) :
    OvIt.next da it = .ok ⟨r, it'⟩ → it.Inv →
      it'.Inv ∧ (∀ m, r = some m → m.stop = it'.src.pulled) ∧ it.src.pulled ≤ it'.src.pulled :=
  fun h hinv =>
    have ⟨hinv', hs⟩ := (OvIt.next_spec da hinv).of_ok h
    ⟨hinv', fun m hm => (hs.stop m hm).1, hs.pulled_le fun _ _ h => h⟩

end Daac.Props.C12
