/-
Translation tie, the ENTRY POINT `build` of both builders (collection facts: Proofs/TieTopBuild).

`pub fn build<I, P, V>(self, patterns: I)` (src/bytewise/builder.rs, src/charwise/builder.rs):
    let patvals: Vec<_> = patterns.into_iter().enumerate()
        .map(|(i, p)| V::try_from(i).map(|i| (p, i))).collect::<Result<_, _>>()
        .map_err(|_| DaachorseError::invalid_conversion("index", "V"))?;
    self.build_with_values(patvals)
is translated as well: tools/top2lean.py matches its body token by
token against this chain on every run (any deviation: exit 2) and generates `TB.Builder.build` /
`TC.Builder.build` (Gen/BuildTopB.lean, Gen/BuildTopC.lean): `V::try_from` is a parameter
`conv : Nat → Option V`, the chain is the generated `enumTryCollect conv 0 patterns` (left to right, stops at
the first position that does not convert), its failure is the error kind of the constructor named in the
text, the tail call is the translated `build_with_values`.

What is tied: the collection step is the model's `convAll` on the (key, byte length) inputs of
`buildPositions` (`translated_collect_eq_convAll*`); it fails exactly when some position does not convert
(`translated_collect_none_iff`), and then both the translated `build` and the model fail with
`.invalidConversion` whatever the patterns are (`translated_build_invalidConversion_*`); and on every pattern
list within the `u32` scale the translated `build` and `buildPositions conv variant cfg` fail with the same
error kind or succeed with equal tables (`translated_build_eq_model_bytewise` / `_charwise`, composing with
Props/TieTop and Props/TieTopC).

Outside: the translator and the meaning it gives to the iterator chain (`enumTryCollect`, documented in the
header of tools/top2lean.py), `V::try_from` as a pure function of the position.
TODO: the converse "the result is `.invalidConversion` ONLY IF some position does not convert" needs
"`build_with_values` / `buildDA` never return `.invalidConversion`" (not proved here).
-/
import Daac.Proofs.TieTopBuild
namespace Daac.Props.TieTopBuild
open Daac Daac.Gen Daac.Tie.H Daac.Tie.F Daac.Tie.Top Daac.Tie.TopC Daac.Tie.TopBuild
variable {V : Type}

/-- The generated collection step of the byte-wise `build`, read at the label level, is the model's `convAll`. -/
theorem translated_collect_eq_convAll (conv : Nat → Option V) (pats : List (List Nat)) :
    (TB.enumTryCollect conv 0 pats).map toLPats = convAll conv 0 (keysB pats) :=
  collect_eq_convAll conv pats

/-- The same for the char-wise `build` (byte length = sum of the UTF-8 widths). -/
theorem translated_collect_eq_convAll_charwise (conv : Nat → Option V) (pats : List (List Nat)) :
    (TC.enumTryCollect conv 0 pats).map toLPatsC = convAll conv 0 (keysC pats) :=
  collect_eq_convAll_charwise conv pats

/-- The collection fails exactly when some position does not convert. -/
theorem translated_collect_none_iff (conv : Nat → Option V) (pats : List (List Nat)) :
    TB.enumTryCollect conv 0 pats = none ↔ ∃ j, j < pats.length ∧ conv (0 + j) = none := by
  simp only [Nat.zero_add]
  exact collect_none_iff conv pats

/-- A position that does not convert: translated byte-wise `build` and model both fail with
`.invalidConversion`, before anything else is looked at (any builder, configuration, patterns). -/
theorem translated_build_invalidConversion_bytewise (conv : Nat → Option V) (b : LB.Builder) (variant : Variant)
    (cfg : Cfg) (pats : List (List Nat)) (h : ∃ j, j < pats.length ∧ conv j = none) :
    TB.Builder.build conv b pats = .error .invalidConversion ∧
    buildPositions conv variant cfg (keysB pats) = .error .invalidConversion := by
  unfold TB.Builder.build buildPositions
  rw [← collect_eq_convAll, (collect_none_iff conv pats).mpr h]
  exact ⟨rfl, rfl⟩

/-- The same for the translated char-wise `build`. -/
theorem translated_build_invalidConversion_charwise (conv : Nat → Option V) (b : LC.Builder) (variant : Variant)
    (cfg : Cfg) (pats : List (List Nat)) (h : ∃ j, j < pats.length ∧ conv j = none) :
    TC.Builder.build conv b pats = .error .invalidConversion ∧
    buildPositions conv variant cfg (keysC pats) = .error .invalidConversion := by
  unfold TC.Builder.build buildPositions
  rw [← collect_eq_convAll_charwise, tc_eq_tb, (collect_none_iff conv pats).mpr h]
  exact ⟨rfl, rfl⟩

/-- The translated byte-wise `build` (Gen/BuildTopB.lean) and the model `buildPositions conv .bytewise cfg` agree on
every list of byte patterns within the `u32` scale and every conversion `conv`: same error kind
(`.invalidConversion` first), or the same state table, the same `num_states`, `match_kind = kind` = the model's
kind, and related output records. -/
theorem translated_build_eq_model_bytewise (conv : Nat → Option V)
    (kind : Nat) (cfg : Cfg) (pats : List (List Nat))
    (hk : kind ≤ 2) (hkind : cfg.kind = kind) (hnfb : 1 ≤ cfg.nfb)
    (hbytes : ∀ p ∈ pats, ∀ c ∈ p, c < 256)
    (hsz : 2 + (pats.map (·.length)).sum ≤ 4294967295) :
    match TB.Builder.build conv ⟨#[], kind, cfg.nfb⟩ pats, buildPositions conv .bytewise cfg (keysB pats) with
    | .error e, .error e' => norm (.error e : Except BuildErr Unit) = norm (.error e')
    | .ok a, .ok da => a.states = da.states ∧ a.num_states = da.numStates ∧ a.match_kind = kind ∧
        a.match_kind = da.kind ∧ OutsRel a.outputs da.outputs
    | _, _ => False := by
  unfold TB.Builder.build buildPositions
  rw [← collect_eq_convAll]
  cases hE : TB.enumTryCollect conv 0 pats with
  | none => exact rfl
  | some pv =>
    -- the collected pairs carry the patterns, so the hypotheses on `pats` are hypotheses on `pv`
    have hf := collect_fst conv pats 0 pv hE
    rw [← hf, List.map_map] at hsz
    exact generated_build_with_values_eq_buildDA_full kind cfg pv hk hkind hnfb
      (fun p hp => hbytes p.1 (hf ▸ List.mem_map_of_mem hp)) hsz

/-- The translated char-wise `build` (Gen/BuildTopC.lean) and the model `buildPositions conv .charwise cfg` agree on
every list of patterns (lists of Unicode scalar values) within the `u32` scale and every conversion `conv`: same
error kind (`.invalidConversion` first), or the same state table, `num_states`, code-mapper table and alphabet
size, `match_kind = kind` = the model's kind, and related output records. -/
theorem translated_build_eq_model_charwise (conv : Nat → Option V)
    (kind : Nat) (cfg : Cfg) (m0 : Mapper) (pats : List (List Nat))
    (hk : kind ≤ 2) (hkind : cfg.kind = kind) (hnfb : 1 ≤ cfg.nfb)
    (hch : ∀ p ∈ pats, ∀ c ∈ p, c ≤ 0x10FFFF)
    (hsz : 2 + (pats.map (·.length)).sum ≤ 4294967295)
    (hbl : ∀ p ∈ pats, (p.map Rs.lenUtf8).sum ≤ 4294967295) :
    match TC.Builder.build conv ⟨#[], m0, kind, 0, cfg.nfb⟩ pats, buildPositions conv .charwise cfg (keysC pats) with
    | .error e, .error e' => norm (.error e : Except BuildErr Unit) = norm (.error e')
    | .ok a, .ok da => a.states = da.states ∧ a.num_states = da.numStates ∧
        a.mapper.table = da.mapTable ∧ a.mapper.alphaSize = da.alphaSize ∧
        a.match_kind = kind ∧ a.match_kind = da.kind ∧ OutsRel a.outputs da.outputs
    | _, _ => False := by
  unfold TC.Builder.build buildPositions
  rw [← collect_eq_convAll_charwise, tc_eq_tb]
  cases hE : TB.enumTryCollect conv 0 pats with
  | none => exact rfl
  | some pv =>
    have hf := collect_fst conv pats 0 pv hE
    rw [← hf, List.map_map] at hsz
    exact generated_build_with_values_eq_buildDA_charwise kind cfg m0 pv hk hkind hnfb
      (fun p hp => hch p.1 (hf ▸ List.mem_map_of_mem hp)) hsz
      (fun p hp => hbl p.1 (hf ▸ List.mem_map_of_mem hp))

end Daac.Props.TieTopBuild

#print axioms Daac.Props.TieTopBuild.translated_collect_eq_convAll
#print axioms Daac.Props.TieTopBuild.translated_build_invalidConversion_bytewise
#print axioms Daac.Props.TieTopBuild.translated_build_eq_model_bytewise
#print axioms Daac.Props.TieTopBuild.translated_build_eq_model_charwise
