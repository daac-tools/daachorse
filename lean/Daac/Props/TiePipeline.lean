/-
Translation tie, end to end for the byte-wise builder — what Proofs/TieP buys.

Every step of `DoubleArrayAhoCorasickBuilder::build_with_values` is a Lean definition
GENERATED from /repo's current Rust source on every run:
  `NfaBuilder::new` / `add` (insertion, validation)            tools/nfa2lean.py  → Gen/Nfa.lean
  `build_fails` / `build_fails_leftmost` / `build_outputs`     tools/nfa2lean.py  → Gen/Nfa.lean
  `build_double_array` (DFS layout, fail/output pass, sanitising)  tools/dbl2lean.py → Gen/BuildB.lean
  `BuildHelper`, `init_array`, `find_base`, `extend_array`, `remove_invalid_checks`  tools/rs2lean.py → Gen/Helper, LayoutB
  the `State` setters and the `U24nU8` packing                 tools/acc2lean.py  → Gen/Access.lean
and each is tied to the hand-written path-keyed model by a kernel-checked refinement
(Proofs/TieN, TieF*, TieD, TieH, TieL, TieA). Proofs/TieP composes them: `Tie.P.genBuildB` runs the
generated steps in the order of `build_with_values` / `build_sparse_nfa` (that sequencing, with the
`len == 0` and `len > U24::MAX` tests, and the folds `Tie.N.addAllGen` / `Tie.F.failPass` it calls are
the only hand-written glue), and

    norm (genBuildB kind nfb P) = norm ((buildDA .bytewise ⟨kind, nfb⟩ P).map (·.states))

for EVERY collection of byte patterns within the `u32` scale, every match kind, every
`num_free_blocks ≥ 1`: the translated pipeline and the model builder fail with the same error kind or
return the same state table. Every Rung-2 theorem is about `buildDA`; composed with this equation
they are statements about the table the TRANSLATED Rust builder computes (first corollary below).

Outside: the translators and their preludes (meaning of `Vec`, `BTreeMap`, `RefCell`, integer
conversions), the sequencing glue `genBuildB` (itself tied to the TRANSLATED `build_sparse_nfa` /
`build_with_values` in Props/TieTop.lean), `build` (the position-conversion wrapper; tied in
Props/TieTopBuild.lean). The char-wise builder has its own end-to-end theorem in
Props/TiePipelineC.lean.
-/
import Daac.Proofs.TieP
import Daac.Props.C01
namespace Daac.Props.TiePipeline
open Daac Daac.Gen Daac.Tie.H Daac.Tie.P
variable {V : Type}

theorem mem_le_sum (l : List Nat) (x : Nat) (h : x ∈ l) : x ≤ l.sum := by
  induction l with
  | nil => cases h
  | cons a r ih =>
    rewrite [List.sum_cons]
    rcases List.mem_cons.1 h with rfl | h'
    · exact Nat.le_add_right _ _
    · exact Nat.le_trans (ih h') (Nat.le_add_left _ _)

/-- **Translated byte-wise builder = model builder**, as one equation (errors included). -/
theorem generated_builder_eq_model (kind : Nat) (cfg : Cfg) (P : List (LPat V))
    (hkind : cfg.kind = kind) (hnfb : 1 ≤ cfg.nfb) (hbytes : ∀ p ∈ P, ∀ c ∈ p.key, c < 256)
    (hsz : 2 + (P.map (·.key.length)).sum ≤ 4294967295)
    (hlen : ∀ p ∈ P, (p.key.map (fun _ => 1)).sum = p.blen ∧ p.blen ≤ 4294967295) :
    norm (genBuildB kind cfg.nfb P) = norm ((buildDA .bytewise cfg P).map (·.states)) :=
  genBuildB_eq_buildDA kind cfg P hkind hnfb hbytes hsz hlen

/-- … hence whenever the model builder succeeds, the translated pipeline succeeds with exactly the
model's table (no panic, no fuel exhaustion anywhere in the translated code). -/
theorem generated_table_of_model_ok (kind : Nat) (cfg : Cfg) (P : List (LPat V)) (da : DA V)
    (hkind : cfg.kind = kind) (hnfb : 1 ≤ cfg.nfb) (hbytes : ∀ p ∈ P, ∀ c ∈ p.key, c < 256)
    (hsz : 2 + (P.map (·.key.length)).sum ≤ 4294967295)
    (hlen : ∀ p ∈ P, (p.key.map (fun _ => 1)).sum = p.blen ∧ p.blen ≤ 4294967295)
    (hb : buildDA .bytewise cfg P = .ok da) :
    genBuildB kind cfg.nfb P = .ok da.states := by
  have h := genBuildB_eq_buildDA kind cfg P hkind hnfb hbytes hsz hlen
  rewrite [hb] at h
  exact Daac.Props.TieBuild.ok_of_norm h

/-- **C01 for the table the translated builder computes** (standard kind, byte-wise): for every
valid collection within the `u32` scale and every `num_free_blocks ≥ 1`, if the model builder
succeeds then the TRANSLATED pipeline returns exactly that table, and the overlapping search on it
returns `specOverlapping` on every haystack. -/
theorem generated_table_overlapping_correct [DecidableEq V] (nfb : Nat) (Ps : List (Pat V)) (hV : ValidPats Ps)
    (hbytes : ∀ p ∈ Ps, ∀ b ∈ p.key, b < 256) (hnfb : 1 ≤ nfb)
    (hsz : 2 + ((Ps.map lp).map (·.key.length)).sum ≤ 4294967295)
    (da : DA V) (hb : buildDA .bytewise ⟨0, nfb⟩ (Ps.map lp) = .ok da) :
    genBuildB 0 nfb (Ps.map lp) = .ok da.states ∧
    ∀ h : List Nat, (∀ b ∈ h, b < 256) →
      ∃ l fin, ovAll da h = .ok (l, fin) ∧ l.map (·.1) = specOverlapping Ps h := by
  have hlen : ∀ p ∈ Ps.map lp, (p.key.map (fun _ => 1)).sum = p.blen ∧ p.blen ≤ 4294967295 := by
    intro p hp
    have hle : p.key.length ≤ ((Ps.map lp).map (·.key.length)).sum :=
      mem_le_sum _ _ (List.mem_map_of_mem hp)
    obtain ⟨q, _, rfl⟩ := List.mem_map.1 hp
    exact ⟨by rw [List.map_const', List.sum_replicate_nat, Nat.mul_one]; rfl,
      Nat.le_trans hle (Nat.le_trans (Nat.le_add_left _ 2) hsz)⟩
  have hby : ∀ p ∈ Ps.map lp, ∀ c ∈ p.key, c < 256 := by
    intro p hp c hc
    obtain ⟨q, hq, rfl⟩ := List.mem_map.1 hp
    exact hbytes q hq c hc
  refine ⟨generated_table_of_model_ok 0 ⟨0, nfb⟩ (Ps.map lp) da rfl hnfb hby hsz hlen hb, ?_⟩
  intro h hh
  exact C01.overlapping_correct_build_bytewise nfb Ps hV hbytes da hb h hh

end Daac.Props.TiePipeline
