/-
Translation tie, construction of the char-wise code mapper — what Proofs/TieM buys (C08 / C14 and
every char-wise property that goes through `Mapper.build`).

`Daac/Gen/MapperNew.lean` is, as translated by tools/map2lean.py from the repository's current text
on every run,
  * `CodeMapper::new(freqs)` of src/charwise/mapper.rs: collecting `(c, f)` with `f != 0` in code-point
    order (`iter().enumerate().filter(..)`), `sort_unstable_by(|(c1, f1), (c2, f2)|
    f2.cmp(f1).then_with(|| c1.cmp(c2)))`, the `INVALID_CODE`-filled table, codes = ranks
    (`u32::try_from(i).unwrap()`), `alphabet_size = sorted.len()`;
  * the frequency-counting loop `for &c in &chars { if freqs.len() <= c { freqs.resize(c + 1, 0) }
    freqs[c] += 1 }` of `CharwiseDoubleArrayAhoCorasickBuilder::build_original_nfa_and_mapper`
    (src/charwise/builder.rs), as `count_chars freqs chars`.  The translator checks, token for token,
    the context of that loop: `freqs` starts as `vec![]`, the loop runs on the characters of every
    pattern after `nfa.add(&chars, value)?` returned `Ok` (so a pattern shadowed under leftmost-first
    IS counted, and an `add` error returns before the mapper exists), and the mapper is
    `CodeMapper::new(&freqs)`.

WHAT IS TIED.  `Tie.M.pipeline keys` = run `count_chars` over the keys in order from the empty vector,
then `CodeMapper.new`.  `generated_mapper` below: for EVERY pattern list `P` it returns `.ok` of
exactly the table and the alphabet size of the model's `Mapper.build P` (the model counts into a
pre-sized array of length max code point + 1 and inserts in code-point order into a list sorted by
(frequency descending, code point ascending); the Rust grows the vector on demand and sorts the
code-point-ordered list).  Nothing panics: the indexed writes are in range, and the two
`u32::try_from(..).unwrap()` succeed below the `u32` scale — always, for `char` labels
(`generated_mapper_char`).  Hence `mapper_maps_labels`, `mapperOk_build`, `Mapper.build_perm` (C14)
etc. are statements about the translated code.

WHAT IS OUTSIDE (trusted, Daac/Gen/PreludeMap.lean + header of tools/map2lean.py):
  * `sort_unstable_by(cmp)` is read as insertion sort with the translated comparator.  That is the
    meaning of the Rust method exactly when `cmp` is a total order under which the elements are pairwise
    distinct (unique sorted permutation).  Here the elements have distinct `c` and the comparator is
    lexicographic (freq desc, code asc) BECAUSE of the `then_with` tie-break (`Tie.M.closure1_lt`); if
    the tie-break is dropped the translation still succeeds but `closure1_lt`, hence this file, no
    longer builds;
  * integers are unbounded `Nat`s: the `u32` addition `freqs[c] += 1` (overflow needs 2^32 occurrences
    of one character) is not modelled; `char` is its code point;
  * in THIS file the pattern loop is represented by `Tie.M.countAll` (a fold of the generated
    `count_chars`), without the interleaved `nfa.add` calls (which do not touch `freqs`); the
    interleaved loop is `Tie.PC.addCountAllGen`, split into the two folds in Props/TiePipelineC and
    tied to the translated loop in Props/TieTopC; `CodeMapper::get` is tied elsewhere (Gen/SearchC
    via rs2lean);
  * the link "the layout pass uses this mapper" is Props/TiePipelineC / K-build.
-/
import Daac.Proofs.TieM
namespace Daac.Props.TieMapper
open Daac Daac.Gen Daac.Gen.M Daac.Tie.M
variable {V : Type}

theorem generated_mapper (P : List (LPat V)) (hsz : tableLen P ≤ 4294967295) :
    pipeline (P.map (·.key)) = .ok ⟨(Mapper.build P).table, (Mapper.build P).alphaSize⟩ :=
  mapper_refines P hsz

/-- For `char` labels the scale hypothesis is vacuous. -/
theorem generated_mapper_char (P : List (LPat V)) (hch : ∀ p ∈ P, ∀ c ∈ p.key, c ≤ 0x10FFFF) :
    pipeline (P.map (·.key)) = .ok ⟨(Mapper.build P).table, (Mapper.build P).alphaSize⟩ :=
  mapper_refines_char P hch

theorem generated_count (P : List (LPat V)) :
    countAll #[] (P.map (·.key)) = .ok (freqsOf (tableLen P) P) := count_eq P

theorem generated_new (freqs : Array Nat) (hsz : freqs.size ≤ 4294967295) :
    CodeMapper.new freqs =
      .ok ⟨(Mapper.ofFreqs freqs.size freqs).table, (Mapper.ofFreqs freqs.size freqs).alphaSize⟩ :=
  new_eq freqs hsz

/-- Consequence: the translated mapper is order-independent (C14) … -/
theorem generated_mapper_perm (P P' : List (LPat V)) (hp : P.Perm P')
    (hsz : tableLen P ≤ 4294967295) :
    pipeline (P.map (·.key)) = pipeline (P'.map (·.key)) := by
  rw [generated_mapper P hsz, generated_mapper P' (by rw [← tableLen_perm hp]; exact hsz),
    Mapper.build_perm hp]

/-- … and maps every character of every pattern to a code below the alphabet size. -/
theorem generated_mapper_maps (P : List (LPat V)) (hsz : tableLen P < 4294967295) :
    ∃ m, pipeline (P.map (·.key)) = .ok m ∧
      ∀ p ∈ P, ∀ c ∈ p.key, ∃ k, (⟨m.table, m.alphabet_size⟩ : Mapper).get c = some k ∧
        k < m.alphabet_size := by
  refine ⟨_, generated_mapper P (Nat.le_of_lt hsz), fun p hp c hc => ?_⟩
  obtain ⟨k, hk⟩ := mapper_maps_labels P hsz p hp c hc
  exact ⟨k, hk, (mapperOk_build' P).1 c k hk⟩

#print axioms generated_mapper
#print axioms generated_mapper_char
#print axioms generated_mapper_perm
#print axioms generated_mapper_maps
end Daac.Props.TieMapper
