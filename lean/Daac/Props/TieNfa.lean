/-
Translation tie, pattern insertion — what Proofs/TieN buys for C10 (and C04 / C15).

`Daac/Gen/Nfa.lean` is `NfaBuilder::{new, add, is_registered, child_id}` of /repo's
src/nfa_builder.rs as translated by tools/nfa2lean.py on every run: the id-indexed
`Vec<RefCell<NfaBuilderState>>` with `BTreeMap` edges, the leftmost-first early return, the
shadowed-pattern set of the D2 repair, the length conversion and the duplicate test.
Proofs/TieN proves that this code REFINES the path-keyed trie of the model (`Trie.insert`,
`NfaAcc.add`): same outcome (Ok / error kind) on every pattern, and the array keeps representing
the model's tree (`RepAcc`; a frame argument shows that writing one state leaves every other
subtree represented). All validation of C10 happens in this phase, so the model theorems about it
hold of the TRANSLATED code: the loop of `build_sparse_nfa` / `build_original_nfa_and_mapper`
(`add` for every pattern, then the `nfa.len == 0` test) accepts exactly the valid collections,
rejects the others with `InvalidArgument` / `DuplicatePattern`, and never panics.

The fail-link and output passes `build_fails`, `build_fails_leftmost`, `build_outputs` are translated
too (explicit BFS queue with a cursor, the inner fail walk with fuel) and proved to refine the
model's `buildFailMap` / `buildOutAcc` (Proofs/TieF*.lean): the explicit queue is the level order
`Trie.queue`, every state's `fail` is the id of the model's fail target (or the dead state under the
leftmost kinds), `output_pos` and the output records agree, nothing panics and no fuel runs out.
`generated_sparse_nfa` below is the whole of `build_sparse_nfa` after the insertion loop.

Outside: the prelude Daac/Gen/PreludeNfa.lean fixes the meaning of `BTreeMap`/`BTreeSet`/`RefCell`
(dynamic borrow checks of `RefCell` are not modelled); the DFS layout loops are tied in
Props/TieLayout.lean (byte-wise) and Props/TieLayoutC.lean (char-wise), the code-mapper construction
in Props/TieMapper.lean.
-/
import Daac.Proofs.TieN
import Daac.Proofs.TieFAll
import Daac.Props.C10
namespace Daac.Props.TieNfa
open Daac Daac.Gen.N Daac.Tie.N
variable {V : Type}

theorem model_add_err (lf : Bool) (a : NfaAcc V) (p : LPat V) (e : BuildErr)
    (h : a.add lf p = .error e) : e = .invalidArgument ∨ e = .duplicatePattern := by
  unfold NfaAcc.add at h
  split at h
  · cases h; exact Or.inl rfl
  · split at h
    · cases h
    · cases h; exact Or.inr rfl
    · split at h
      · cases h; exact Or.inr rfl
      · cases h

theorem model_addAll_err (lf : Bool) : (ps : List (LPat V)) → (a : NfaAcc V) → (e : BuildErr) →
    a.addAll lf ps = .error e → e = .invalidArgument ∨ e = .duplicatePattern
  | [], _, _, h => by cases h
  | p :: ps, a, e, h => by
    rw [NfaAcc.addAll] at h
    split at h
    · rename_i e' he
      cases h
      exact model_add_err lf a p _ he
    · exact model_addAll_err lf ps _ e h

/-- **C10 for the translated insertion phase**: `add` for every pattern followed by the
`nfa.len == 0` test succeeds precisely on the valid collections — non-empty, no empty pattern, no two
equal patterns — for every match kind, wherever the offending entry sits. -/
theorem generated_insertion_ok_iff (nb : Nat → Nat) (kind : Nat) (P : List (LPat V)) (hk : keysOk P)
    (hsz : 2 + (P.map (·.key.length)).sum ≤ 4294967295)
    (hlen : ∀ p ∈ P, (p.key.map nb).sum = p.blen ∧ p.blen ≤ 4294967295) :
    (∃ g, addAllGen nb (NfaBuilder.new kind) P = .ok g ∧ g.len ≠ 0) ↔
      (P ≠ [] ∧ (∀ p ∈ P, p.key ≠ []) ∧ (P.map (·.key)).Nodup) := by
  rw [← C10.insertion_ok_iff kind P hk]
  unfold buildTrie
  -- generated and model insertion agree (`build_agree`), and a represented accumulator has the same `len`
  rcases (build_agree nb kind P hsz hlen).cases with ⟨e, hg, hm⟩ | ⟨g, a, hg, hm, _, _, hl, _⟩
  · rw [hg, hm]
    constructor
    · rintro ⟨_, h, _⟩; cases h
    · rintro ⟨_, h⟩; cases h
  · rw [hg, hm]
    dsimp only
    rw [← hl]
    constructor
    · rintro ⟨g1, h, h0⟩
      cases h
      exact ⟨_, if_neg h0⟩
    · rintro ⟨t, ht⟩
      refine ⟨g, rfl, fun h0 => ?_⟩
      rw [if_pos h0] at ht
      cases ht

/-- The translated insertion loop never panics and fails only with the two documented kinds. -/
theorem generated_insertion_err_kind (nb : Nat → Nat) (kind : Nat) (P : List (LPat V))
    (hsz : 2 + (P.map (·.key.length)).sum ≤ 4294967295)
    (hlen : ∀ p ∈ P, (p.key.map nb).sum = p.blen ∧ p.blen ≤ 4294967295) (e : BuildErr)
    (h : addAllGen nb (NfaBuilder.new kind) P = .error e) :
    e = .invalidArgument ∨ e = .duplicatePattern :=
  match (build_agree nb kind P hsz hlen).cases with
  | .inl ⟨e', hg, hm⟩ => model_addAll_err _ P _ e (hm.trans (congrArg Except.error (Except.error.inj (hg.symm.trans h))))
  | .inr ⟨_, _, hg, _⟩ => by rw [hg] at h; cases h

/-- **The sparse NFA of the translated code = the model's**, every collection, every match kind:
after a successful translated insertion fold that registered a pattern, the translated fail pass
selected by the kind (standard for 0, leftmost for 1 / 2, as `build_sparse_nfa` does) and
`build_outputs` succeed, and the resulting states represent `buildNfa t (kind != 0)` for the model
trie `t`: the BFS queue is `t.queue`, each node's `fail` / `output_pos` are the model's, the output
records are the model's. -/
theorem generated_sparse_nfa (nb : Nat → Nat) (kind : Nat) (P : List (LPat V)) (g : NfaBuilder V)
    (hsz : 2 + (P.map (·.key.length)).sum ≤ 4294967295)
    (hlen : ∀ p ∈ P, (p.key.map nb).sum = p.blen ∧ p.blen ≤ 4294967295)
    (hadd : addAllGen nb (NfaBuilder.new kind) P = .ok g) (hl : g.len ≠ 0) :
    ∃ t pth q g1 g2, buildTrie kind P = .ok t ∧ Rep g.states pth t 0 [] ∧
      Tie.F.failPass kind g = .ok (q, g1) ∧ NfaBuilder.build_outputs g1 q = .ok ((), g2) ∧
      Tie.F.SameShape g.states g2.states ∧ q.toList.map pth = t.queue.map some ∧
      (∀ u i, Tie.F.idAt g.states 0 u = some i → ∃ s : NfaBuilderState V, g2.states[i]? = some s ∧
        Tie.F.FailRel g.states ((buildNfa t (kind != 0)).fail.get u) s.fail ∧
        Tie.F.OposRel s.output_pos ((buildNfa t (kind != 0)).out.opos.getD u 0)) ∧
      Tie.F.OutsRel g2.outputs (buildNfa t (kind != 0)).out.outs :=
  Tie.F.sparse_nfa_refines nb kind P g hsz hlen hadd hl

/-- Non-vacuity / the D2 witness on the translated code: under leftmost-first the repeated,
shadowed pattern of `["a","ab","ab"]` is rejected as a duplicate. -/
example : (match addAllGen (V := Nat) (fun _ => 1) (NfaBuilder.new 2)
    [⟨[97], 0, 1⟩, ⟨[97, 98], 1, 2⟩, ⟨[97, 98], 2, 2⟩] with
    | .error .duplicatePattern => true | _ => false) = true := by decide

end Daac.Props.TieNfa
