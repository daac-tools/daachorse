/-
Translation tie, the TOP of the char-wise builder — what Proofs/TieTopC buys.

The sequencing of `CharwiseDoubleArrayAhoCorasickBuilder::build_with_values` /
`build_original_nfa_and_mapper` (src/charwise/builder.rs) — the pattern loop
`chars.clear(); pattern.as_ref().chars().for_each(|c| chars.push(c)); nfa.add(&chars, value)?;` with the
frequency-counting loop, `self.mapper = CodeMapper::new(&freqs)`, the `nfa.len == 0` test, the
`match self.match_kind` choosing `build_fails` / `build_fails_leftmost`, `build_outputs`,
`build_double_array`, `num_states = u32::try_from(len - 1)`, the struct literal — is written by hand as the
glue `Tie.PC.addCountAllGen` / `Tie.PC.genBuildC`, and it is also a Lean definition GENERATED from the
repository's current Rust text on every run (tools/top2lean.py, profile `charwise` →
Gen/BuildTopC.lean: `TC.Builder.build_original_nfa_and_mapper`, `TC.Builder.build_with_values`,
`structure TC.CharwiseDoubleArrayAhoCorasick`), calling the already generated `N.NfaBuilder.*`
(Gen/Nfa.lean, label width `Rs.lenUtf8` = `char::len_utf8`), `M.count_chars` / `M.CodeMapper.new`
(Gen/MapperNew.lean) and `DC.Builder.build_double_array` (Gen/BuildC.lean).  Proofs/TieTopC proves
  * `loop0_eq`: the translated pattern loop = `addCountAllGen Rs.lenUtf8`;
  * `build_original_nfa_and_mapper_eq`: the translated function = the first part of the glue, and the
    builder it returns is the given one with the new mapper;
  * `build_with_values_states_eqC`: the `states` of the translated `build_with_values` = `genBuildC`;
  * Proofs/TieTopCFrame `build_double_array_frameC`: the translated char-wise `build_double_array` never
    writes `match_kind`, `mapper`, `num_free_blocks`;
and composes with Proofs/TiePC into the statement below.

What is tied: on every list of patterns given as lists of Unicode scalar values (`≤ 0x10FFFF`) within the
`u32` scale (`2 + Σ |pattern| ≤ u32::MAX`, each pattern's UTF-8 length `≤ u32::MAX`), every `MatchKind`
byte `kind ≤ 2`, every `num_free_blocks ≥ 1`, the translated `build_with_values` started from the builder
`new()` leaves and the model `buildDA .charwise` fail with the same error kind (panic texts ignored), or
both succeed with EQUAL `states`, EQUAL `num_states`, the SAME mapper table and alphabet size,
`match_kind = kind` = the model's kind, and output records related by `OutsRel`.

Outside: the translators (tools/top2lean.py, map2lean.py, nfa2lean.py, dbl2lean.py, rs2lean.py) and their
preludes (meaning of `Vec`, `BTreeMap`, `RefCell`, `IntoIterator` = list, `AsRef<str>` + `chars()` = the list
of scalar values, `for_each(push)` = append, integer conversions, `MatchKind` = its byte, `CodeMapper` =
the two-field record).  `build` (the index-assigning wrapper around `build_with_values`): Props/TieTopBuild.lean.
-/
import Daac.Proofs.TieTopC
import Daac.Proofs.Utf8
namespace Daac.Props.TieTopC
open Daac Daac.Gen Daac.Tie.H Daac.Tie.F Daac.Tie.PC Daac.Tie.TopC
variable {V : Type}

/-- The translated char-wise `build_with_values` (Gen/BuildTopC.lean) and the model `buildDA .charwise`
agree on every collection of patterns (lists of Unicode scalar values) within the `u32` scale: same error
kind, or the same state table, the same `num_states`, the same code-mapper table and alphabet size,
`match_kind = kind` = the model's kind, and related output records. -/
theorem translated_build_with_values_eq_model_charwise (kind : Nat) (cfg : Cfg) (m0 : Mapper)
    (pv : List (List Nat × V))
    (hk : kind ≤ 2) (hkind : cfg.kind = kind) (hnfb : 1 ≤ cfg.nfb)
    (hch : ∀ p ∈ pv, ∀ c ∈ p.1, c ≤ 0x10FFFF)
    (hsz : 2 + (pv.map (·.1.length)).sum ≤ 4294967295)
    (hbl : ∀ p ∈ pv, (p.1.map Rs.lenUtf8).sum ≤ 4294967295) :
    match TC.Builder.build_with_values ⟨#[], m0, kind, 0, cfg.nfb⟩ pv, buildDA .charwise cfg (toLPatsC pv) with
    | .error e, .error e' => norm (.error e : Except BuildErr Unit) = norm (.error e')
    | .ok a, .ok da => a.states = da.states ∧ a.num_states = da.numStates ∧
        a.mapper.table = da.mapTable ∧ a.mapper.alphaSize = da.alphaSize ∧
        a.match_kind = kind ∧ a.match_kind = da.kind ∧ OutsRel a.outputs da.outputs
    | _, _ => False :=
  generated_build_with_values_eq_buildDA_charwise kind cfg m0 pv hk hkind hnfb hch hsz hbl

/-- The translated `build_original_nfa_and_mapper` is the first part of the hand-written glue, and it only
replaces the `mapper` field of the builder. -/
theorem translated_build_original_nfa_and_mapper_eq_glue (b : LC.Builder) (pv : List (List Nat × V))
    (hk : b.match_kind ≤ 2) :
    TC.Builder.build_original_nfa_and_mapper b pv =
      match origGlue b.match_kind (toLPatsC pv) with
      | .error e => .error e
      | .ok (g2, m) => .ok (g2, { b with mapper := toMapper m }) :=
  build_original_nfa_and_mapper_eq b pv hk

/-- The translated pattern loop is the hand-written interleaved fold `addCountAllGen`. -/
theorem translated_pattern_loop_eq_addCountAllGen (pv : List (List Nat × V)) (g : N.NfaBuilder V)
    (fr : Array Nat) (ch : List Nat) :
    TC.Builder.build_original_nfa_and_mapper.loop0 pv g fr ch =
      match addCountAllGen Rs.lenUtf8 g fr (toLPatsC pv) with
      | .error e => .error e
      | .ok r => .ok (r.1, r.2, lastChars ch pv) :=
  loop0_eq pv g fr ch

/-- The translated char-wise `build_double_array` never writes `match_kind`, `mapper`, `num_free_blocks`. -/
theorem translated_build_double_array_frame_charwise (b b' : LC.Builder) (g : N.NfaBuilder V) (u : Unit)
    (h : DC.Builder.build_double_array b g = .ok (u, b')) :
    b'.match_kind = b.match_kind ∧ b'.mapper = b.mapper ∧ b'.num_free_blocks = b.num_free_blocks :=
  build_double_array_frameC b b' g u h

/-- The label width used by the translated `add` (`Rs.lenUtf8`, from `impl EdgeLabel for char`) is the
reference UTF-8 width, so `blen` of `toLPatsC` is the byte length of the pattern's UTF-8 encoding. -/
theorem lenUtf8_eq_utf8Width : Rs.lenUtf8 = utf8Width := rfl

end Daac.Props.TieTopC

#print axioms Daac.Props.TieTopC.translated_build_with_values_eq_model_charwise
#print axioms Daac.Props.TieTopC.translated_build_original_nfa_and_mapper_eq_glue
#print axioms Daac.Props.TieTopC.translated_pattern_loop_eq_addCountAllGen
#print axioms Daac.Props.TieTopC.translated_build_double_array_frame_charwise
