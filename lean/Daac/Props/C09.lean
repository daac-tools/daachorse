/-
Property C09 — serialisation round trip restores an equal, equally behaving automaton.

Model: `Daac.serialize` / `Daac.deserialize` (Model/Serial.lean), tied to the implementation byte
for byte by suite K-serial (image equality, restored tables, remainder) on every run; the width
table and the match-kind tables are generated from the current source (Gen/Consts.lean).
Proofs: Daac/Proofs/SerialRT.lean.
-/
import Daac.Proofs.SerialRT
import Daac.Proofs.WF2
import Daac.Proofs.Intpack
namespace Daac.Props.C09
open Daac
variable {V : Type}

/-- **Round trip, full strength in the model**: for *every* well-formed automaton value (not only
built ones), both variants, all three kinds, every lawful fixed-width value type, and arbitrary
trailing bytes: deserialising the image yields an automaton *equal* to the original, consumes
exactly the image and hands back the trailing bytes untouched. -/
theorem roundtrip (S : Ser V) (D : V → Prop) (hS : S.LawfulOn D) (da : DA V) (h : da.WF S D)
    (rest : List Nat) : deserialize S da.variant (serialize S da ++ rest) = some (da, rest) :=
  deserialize_serialize S D hS da h rest

/-- Serialising the restored automaton reproduces the same bytes. -/
theorem reserialize (S : Ser V) (D : V → Prop) (hS : S.LawfulOn D) (da : DA V) (h : da.WF S D)
    (rest : List Nat) (da' : DA V) (rest' : List Nat)
    (hd : deserialize S da.variant (serialize S da ++ rest) = some (da', rest')) :
    serialize S da' = serialize S da ∧ rest' = rest :=
  Daac.reserialize S D hS da h rest da' rest' hd

/-- The restored automaton answers every search identically: it *is* the same value, so any
function of it (every search method of the model) gives the same result. -/
theorem search_after_roundtrip {α : Type} (S : Ser V) (D : V → Prop) (hS : S.LawfulOn D) (da : DA V)
    (h : da.WF S D) (rest : List Nat) (search : DA V → α) :
    ∃ da', deserialize S da.variant (serialize S da ++ rest) = some (da', rest) ∧ search da' = search da :=
  ⟨da, deserialize_serialize S D hS da h rest, rfl⟩

/-- The built-in value types are lawful on their ranges (unsigned / signed of any width, `Empty`). -/
theorem unsigned_lawful (w : Nat) : (serUnsigned w).LawfulOn (fun v => 0 ≤ v ∧ v < 256 ^ w) :=
  serUnsigned_lawfulOn w
theorem signed_lawful (w : Nat) (hw : 1 ≤ w) :
    (serSigned w).LawfulOn (fun v => -(2 ^ (8 * w - 1)) ≤ v ∧ v < 2 ^ (8 * w - 1)) :=
  serSigned_lawfulOn w hw
theorem empty_lawful : serEmpty.LawfulOn (fun v => v = 0) := serEmpty_lawfulOn

/-- The match kind survives its one-byte encoding, for each of the three kinds. The decoding
table is generated from the current source (`From<u8> for MatchKind`), so this is re-proved
against what the code says now. -/
theorem kind_roundtrip : ∀ k ∈ [0, 1, 2], decodeKind k = k := decodeKind_eq

/-- Kinds are encoded as the bytes 0, 1, 2 (`From<MatchKind> for u8`, generated). -/
theorem kind_bytes : Gen.kindBytes.map (·.2) = [0, 1, 2] := rfl

/-- Bytes without an explicit arm decode to the default kind (Standard) — which a round trip
never produces, by `kind_roundtrip`. -/
theorem kind_default (b : Nat) (h : b ∉ Gen.kindFromU8.map (·.1)) :
    decodeKind b = kindByteOf Gen.kindFromU8Default := by
  unfold decodeKind
  have : Gen.kindFromU8.find? (fun x => x.1 == b) = none := by
    apply List.find?_eq_none.2
    intro x hx
    have : x.1 ≠ b := fun e => h (e ▸ List.mem_map_of_mem hx)
    simpa using this
  rw [this]

theorem kind_default_is_standard : kindByteOf Gen.kindFromU8Default = 0 := by decide

/-- The widths of the built-in integer types as the source defines them (generated table):
a wrong width in `define_serializable_primitive!` breaks this obligation. -/
theorem prim_widths :
    Gen.primWidths.map (fun x => (x.1, x.2.1)) =
      [("u8", 1), ("u16", 2), ("u32", 4), ("u64", 8), ("u128", 16), ("usize", 8),
       ("i8", 1), ("i16", 2), ("i32", 4), ("i64", 8), ("i128", 16), ("isize", 8)] := rfl

/-- Non-vacuity: a concrete non-trivial char-wise automaton satisfies the hypotheses. -/
example : exampleDA.WF (serUnsigned 4) (fun v => 0 ≤ v ∧ v < 256 ^ 4) := exampleDA_wf


/-- For every collection, kind, variant and `num_free_blocks`: the automaton the model builder
returns is well-formed for serialisation (`wf_of_build`: all fields within their widths — incl. the
24-bit output position and the CHECK byte of the byte-wise state, for vacant elements too), within
the documented size limits (pattern lengths, node count and mapper table below 2^32); hence
deserialising its image (plus arbitrary trailing bytes) restores an equal automaton and hands back
the trailing bytes. -/
theorem built_roundtrip (S : Ser V) (D : V → Prop) (variant : Variant) (cfg : Cfg)
    (P : List (LPat V)) (da : DA V) (hb : buildDA variant cfg P = .ok da) (hk : keysOk P)
    (hbytes : variant = .bytewise → ∀ p ∈ P, ∀ c ∈ p.key, c < 256)
    (hkind : cfg.kind ∈ [0, 1, 2]) (hvals : ∀ p ∈ P, D p.value) (hlen : ∀ p ∈ P, p.blen < 2 ^ 32)
    (hcount : P.length < 2 ^ 32) (htab : variant = .charwise → tableLen P < 2 ^ 32)
    (hnodes : ∀ t, buildTrie cfg.kind P = .ok t → t.size < 2 ^ 32)
    (hS : S.LawfulOn D) (rest : List Nat) :
    deserialize S da.variant (serialize S da ++ rest) = some (da, rest) :=
  roundtrip_of_build S D variant cfg P da hb hk hbytes hkind hvals hlen hcount htab hnodes hS rest

/-- The third word of a serialised byte-wise state is the `U24nU8` holding (output position,
CHECK) with the shift regenerated from the source; its accessors recover both fields, and the
setters of the builder (`set_a` = `set_output_pos`, `set_b` = `set_check`) do not disturb each
other. -/
theorem bytewise_state_word (s : St) (hc : s.check < 256) :
    serSt .bytewise s = serU32 s.base ++ serU32 s.fail ++ serU32 (U24nU8.pack s.opos s.check) ∧
    U24nU8.a (U24nU8.pack s.opos s.check) = s.opos ∧
    U24nU8.b (U24nU8.pack s.opos s.check) = s.check :=
  ⟨rfl, U24nU8.a_pack _ _ hc, U24nU8.b_pack _ _ hc⟩

theorem packed_setters (x a' b' : Nat) (hb : b' < 256) :
    (U24nU8.a (U24nU8.setA x a') = a' ∧ U24nU8.b (U24nU8.setA x a') = U24nU8.b x) ∧
    (U24nU8.b (U24nU8.setB x b') = b' ∧ U24nU8.a (U24nU8.setB x b') = U24nU8.a x) :=
  ⟨U24nU8.setA_spec x a', U24nU8.setB_spec x b' hb⟩

end Daac.Props.C09
