/-
Property C10 — construction accepts exactly the valid pattern collections and never panics.

Model: `Daac.buildDA` (Model/Trie.lean + Model/Build.lean), tied to the implementation by suite
K-build (same outcome — Ok / error kind / panic — and byte-identical tables on every generated
collection, invalid ones included). The pattern-insertion phase, where all validation happens
(including the leftmost-first early-return path and the repair of defect D2), is proved for ALL
collections. `keysOk P` says that a pattern's byte length is zero iff its key is empty — true of
every real input.
-/
import Daac.Proofs.BuildCor
import Daac.Proofs.Total
import Daac.Proofs.Total2
import Daac.Proofs.Positions
namespace Daac.Props.C10
open Daac
variable {V : Type}

/-- The validation phase succeeds precisely on the valid collections — for every match kind,
wherever the offending entry sits and whatever was inserted before it. -/
theorem insertion_ok_iff (kind : Nat) (P : List (LPat V)) (h : keysOk P) :
    (∃ t, buildTrie kind P = .ok t) ↔
      (P ≠ [] ∧ (∀ p ∈ P, p.key ≠ []) ∧ (P.map (·.key)).Nodup) :=
  buildTrie_ok_iff kind P h

/-- Whole pipeline, direction 1: construction succeeds only on valid collections. -/
theorem build_ok_valid (variant : Variant) (cfg : Cfg) (P : List (LPat V)) (h : keysOk P) (da : DA V) :
    buildDA variant cfg P = .ok da →
      P ≠ [] ∧ (∀ p ∈ P, p.key ≠ []) ∧ (P.map (·.key)).Nodup :=
  buildDA_ok_valid variant cfg P h da

/-- Whole pipeline, direction 2: an invalid collection is rejected in the insertion phase with
one of the documented error kinds, naming a defect that is actually present — never a panic,
never a scale error, and the layout phase is not reached. -/
theorem build_invalid_err (variant : Variant) (cfg : Cfg) (P : List (LPat V)) (h : keysOk P)
    (hn : cfg.nfb ≠ 0)
    (hinv : ¬ (P ≠ [] ∧ (∀ p ∈ P, p.key ≠ []) ∧ (P.map (·.key)).Nodup)) :
    ∃ e, buildDA variant cfg P = .error e ∧
      ((e = .invalidArgument ∧ (P = [] ∨ ∃ p ∈ P, p.key = [])) ∨
       (e = .duplicatePattern ∧ ¬ (P.map (·.key)).Nodup)) :=
  buildDA_invalid_err variant cfg P h hn hinv

/-- The two directions that need no assumption on the input sizes: success ⇒ valid,
invalid ⇒ documented error. -/
theorem build_ok_iff_partial (variant : Variant) (cfg : Cfg) (P : List (LPat V)) (h : keysOk P)
    (hn : cfg.nfb ≠ 0) :
    ((∃ da, buildDA variant cfg P = .ok da) → (P ≠ [] ∧ (∀ p ∈ P, p.key ≠ []) ∧ (P.map (·.key)).Nodup)) ∧
    (¬ (P ≠ [] ∧ (∀ p ∈ P, p.key ≠ []) ∧ (P.map (·.key)).Nodup) →
      ∃ e, buildDA variant cfg P = .error e ∧ (e = .invalidArgument ∨ e = .duplicatePattern)) := by
  refine ⟨fun ⟨da, hd⟩ => buildDA_ok_valid variant cfg P h da hd, fun hinv => ?_⟩
  obtain ⟨e, he, hk⟩ := buildDA_invalid_err variant cfg P h hn hinv
  exact ⟨e, he, hk.elim (fun x => Or.inl x.1) (fun x => Or.inr x.1)⟩

/-- The defect D2 witness, now rejected: under leftmost-first a repeated pattern whose later
copy is shadowed is a duplicate. (["a","ab","ab"] as labels 1,2.) -/
example : (buildTrie 2 [(⟨[1], 1, 0⟩ : LPat Nat), ⟨[1, 2], 2, 1⟩, ⟨[1, 2], 2, 2⟩]).toOption.isNone = true := by
  decide

/-- **`build_total`**: for EVERY collection (valid or not) of well-formed raw input (`keysOk`; byte
labels for the byte-wise builder; a mapper table within `u32` for the char-wise one, which holds
of all Unicode scalars), every kind, both variants and every
`num_free_blocks ≥ 1`, the model of `build_with_values` returns `Ok` or one of the documented
error kinds — never a panic (no assert, `unwrap`, out-of-range index or `debug_assert` of the
trie / fail-link / helper / layout code fires). Proofs/Total.lean, on top of the vacant-list
invariant of the ring-buffer helper (Proofs/HelperLL.lean). -/
theorem build_total (variant : Variant) (cfg : Cfg) (P : List (LPat V)) (hk : keysOk P)
    (hnfb : 1 ≤ cfg.nfb) (hbytes : variant = .bytewise → ∀ p ∈ P, ∀ c ∈ p.key, c < 256)
    (hsz : variant = .charwise → tableLen P < 4294967295) :
    (∃ da, buildDA variant cfg P = .ok da) ∨ buildDA variant cfg P = .error .invalidArgument ∨
      buildDA variant cfg P = .error .duplicatePattern ∨
      buildDA variant cfg P = .error .automatonScale :=
  buildDA_total variant cfg P hk hnfb hbytes hsz

/-- **`build_ok_iff`, full strength**: within the documented size limits (i.e. when the scale
error does not occur) construction succeeds PRECISELY on the valid collections — every kind,
both variants, every `num_free_blocks`. -/
theorem build_ok_iff (variant : Variant) (cfg : Cfg) (P : List (LPat V)) (hk : keysOk P)
    (hnfb : 1 ≤ cfg.nfb) (hbytes : variant = .bytewise → ∀ p ∈ P, ∀ c ∈ p.key, c < 256)
    (hsz : variant = .charwise → tableLen P < 4294967295)
    (hlim : buildDA variant cfg P ≠ .error .automatonScale) :
    (∃ da, buildDA variant cfg P = .ok da) ↔
      (P ≠ [] ∧ (∀ p ∈ P, p.key ≠ []) ∧ (P.map (·.key)).Nodup) :=
  buildDA_ok_iff variant cfg P hk hnfb hbytes hsz hlim

/-- A valid collection can only fail with the documented size-limit error. -/
theorem valid_ok_or_scale (variant : Variant) (cfg : Cfg) (P : List (LPat V)) (hk : keysOk P)
    (hnfb : 1 ≤ cfg.nfb) (hbytes : variant = .bytewise → ∀ p ∈ P, ∀ c ∈ p.key, c < 256)
    (hsz : variant = .charwise → tableLen P < 4294967295)
    (hvalid : P ≠ [] ∧ (∀ p ∈ P, p.key ≠ []) ∧ (P.map (·.key)).Nodup) :
    (∃ da, buildDA variant cfg P = .ok da) ∨ buildDA variant cfg P = .error .automatonScale :=
  buildDA_valid_ok_or_scale variant cfg P hk hnfb hbytes hsz hvalid

/-- Well-formed raw input of `build`: byte length zero iff no labels; labels are bytes for the
byte-wise builder and below `u32::MAX - 1` (every Unicode scalar is) for the char-wise one. -/
def InputOk (variant : Variant) (K : List (List Nat × Nat)) : Prop :=
  (∀ kb ∈ K, (kb.2 = 0 ↔ kb.1 = [])) ∧
  (variant = .bytewise → ∀ kb ∈ K, ∀ c ∈ kb.1, c < 256) ∧
  (variant = .charwise → ∀ kb ∈ K, ∀ c ∈ kb.1, c + 1 < 4294967295)

/-- `build` returns `InvalidConversion` exactly when some position does not convert — checked
before anything else, so also for collections that are invalid in other ways; never a panic. -/
theorem build_positions_conv_err (conv : Nat → Option V) (variant : Variant) (cfg : Cfg)
    (K : List (List Nat × Nat)) (j : Nat) (hj : j < K.length) (hn : conv j = none) :
    buildPositions conv variant cfg K = .error .invalidConversion := by
  unfold buildPositions
  rw [(convAll_none_iff conv K 0).mpr ⟨j, hj, by rw [Nat.zero_add]; exact hn⟩]

/-- **`build_positions_ok_iff`** — the second construction entry point, full statement of C10:
`build` succeeds precisely when every position converts to the value type AND the collection is
valid; then it is `build_with_values` on the collection whose i-th pattern carries the converted
position i (so every search theorem applies with value = position, property C06). -/
theorem build_positions_ok_iff (conv : Nat → Option V) (variant : Variant) (cfg : Cfg)
    (K : List (List Nat × Nat)) (hin : InputOk variant K) (hnfb : 1 ≤ cfg.nfb)
    (hlim : buildPositions conv variant cfg K ≠ .error .automatonScale) :
    (∃ da, buildPositions conv variant cfg K = .ok da) ↔
      ((∀ j, j < K.length → conv j ≠ none) ∧
        K ≠ [] ∧ (∀ kb ∈ K, kb.1 ≠ []) ∧ (K.map (·.1)).Nodup) := by
  obtain ⟨hk, hb, hs⟩ := hin
  by_cases hall : ∀ j, j < K.length → conv j ≠ none
  · -- `build` is `build_with_values` on some `P` whose keys and byte lengths are the input `K`
    obtain ⟨P, hP, _, rfl, _⟩ := buildPositions_eq conv variant cfg K hall
    have hmem : ∀ p ∈ P, (p.key, p.blen) ∈ P.map (fun p => (p.key, p.blen)) :=
      fun p hp => List.mem_map.2 ⟨p, hp, rfl⟩
    rw [hP] at hlim ⊢
    rw [buildDA_ok_iff variant cfg P (fun p hp => hk _ (hmem p hp)) hnfb
      (fun hv p hp => hb hv _ (hmem p hp))
      (fun hv => tableLen_lt_of_labels P _ (by decide) (fun p hp => hs hv _ (hmem p hp))) hlim]
    simp only [List.map_map, List.forall_mem_map, ne_eq, List.map_eq_nil_iff]
    exact ⟨fun h => ⟨hall, h⟩, fun h => h.2⟩
  · refine ⟨fun ⟨da, hda⟩ => ?_, fun h => absurd h.1 hall⟩
    obtain ⟨j, hj, hn⟩ : ∃ j, j < K.length ∧ conv j = none :=
      Classical.byContradiction fun hne => hall fun j hj hn => hne ⟨j, hj, hn⟩
    rw [build_positions_conv_err conv variant cfg K j hj hn] at hda
    cases hda

/-- Non-vacuity: `u8`-like conversion (positions 0..255 convert). 257 one-label patterns are
rejected with InvalidConversion whatever they are. -/
example (K : List (List Nat × Nat)) (h : 256 < K.length) (variant : Variant) (cfg : Cfg) :
    buildPositions (fun i => if i < 256 then some i else none) variant cfg K
      = .error .invalidConversion :=
  build_positions_conv_err _ variant cfg K 256 h (by simp)

end Daac.Props.C10
