/-
Property C13 — every search terminates and standard scans are linear in the haystack.

Termination in the model = "the loops never run out of the fuel the model supplies": for the
standard kind this is part of the correctness theorems (the iterators return `.ok`, Props/C01,
C02, C05) and of `scan_terminates` and `steps_le_2n_*` below; for the leftmost kinds of Props/C03.
The ranking facts are stated explicitly: fail links lead to strictly shorter nodes and reach the
root; output parents point strictly backwards (`boundsInv`). The 2n bound is proved by the
potential argument.
Ties: K-steps (the implementation's own loop counter, hook `verif::STEPS`, equals the model's
count on every scan), K-trans, watchdog in ./check for hangs.
-/
import Daac.InvExtra
import Daac.Proofs.Steps
import Daac.Proofs.Steps2
import Daac.Proofs.Rung2
namespace Daac.Props.C13
open Daac
variable {V : Type} [DecidableEq V]

/-- **2n bound, byte-wise**: scanning any haystack of `n` bytes takes at most `2n` automaton
transitions, and the scan returns (no fuel exhaustion). -/
theorem steps_le_2n_bytewise (da : DA V) (P : List (LPat V)) (hT : da.tableInv P = true)
    (hZ : da.sizeInv P = true) (hv : da.variant = .bytewise) (h : List Nat) (hb : ∀ b ∈ h, b < 256) :
    ∃ total, scanSteps da (h.length + 1) rootIdx (startSrc h) 0 = .ok total ∧ total ≤ 2 * h.length :=
  Daac.steps_le_2n_bytewise hT (DA.sizeInv_depth hZ) hv hb

/-- **2n bound, char-wise**: at most two transitions per character, hence at most `2n` for `n`
bytes, for every haystack that decodes. -/
theorem steps_le_2n_charwise (da : DA V) (P : List (LPat V)) (hT : da.tableInv P = true)
    (hZ : da.sizeInv P = true) (hv : da.variant = .charwise) (h : List Nat) (items : List WItem)
    (hi : allItems .charwise (h.length + 1) ⟨h, 0⟩ = .ok items) :
    ∃ total, scanSteps da (h.length + 1) rootIdx (startSrc h) 0 = .ok total ∧
      total ≤ 2 * items.length ∧ total ≤ 2 * h.length :=
  Daac.steps_le_2n_charwise hT (DA.sizeInv_depth hZ) hv hi

/-- One transition from node `u` on label `c` takes `k` loop iterations with
`k + |target| ≤ |u| + 2` — the potential argument behind the bound. -/
theorem one_transition (da : DA V) (P : List (LPat V)) (hT : da.tableInv P = true)
    (hZ : da.sizeInv P = true) (u : List Nat) (c : Nat) (hu : u ∈ nodeList P) (hc : LabelOk da c) :
    ∃ k, da.nextS (da.idx u) c = .ok (da.idx (lsuf (nodeList P) (u ++ [c])), k) ∧
      k + (lsuf (nodeList P) (u ++ [c])).length ≤ u.length + 2 :=
  nextS_steps hT (DA.sizeInv_depth hZ) hu hc

/-- Fail links cannot cycle: the fail link of a non-root node leads to a strictly shorter node. -/
theorem fail_rank (da : DA V) (P : List (LPat V)) (hT : da.tableInv P = true) (u : List Nat)
    (hu : u ∈ nodeList P) (hu0 : u ≠ []) :
    ∃ st, da.st (da.idx u) = .ok st ∧ st.fail = da.idx (lps (nodeList P) u) ∧
      lps (nodeList P) u ∈ nodeList P ∧ (lps (nodeList P) u).length < u.length :=
  Daac.fail_rank hT hu hu0

/-- … and following fail links from any node reaches the root within `|u|` steps. -/
theorem fail_reaches_root (da : DA V) (P : List (LPat V)) (hT : da.tableInv P = true) (u : List Nat)
    (hu : u ∈ nodeList P) : ∃ k, k ≤ u.length ∧ da.failIter k (da.idx u) = some rootIdx :=
  Daac.fail_reaches_root hT u.length u (Nat.le_refl _) hu

/-- The scan never runs out of fuel from any node on any source whose labels are in range. -/
theorem scan_terminates (da : DA V) (P : List (LPat V)) (hT : da.tableInv P = true)
    (hZ : da.sizeInv P = true) (u : List Nat) (hu : u ∈ nodeList P) (fuel : Nat) (src : Src) (n : Nat)
    (hok : ItemsOk da fuel src) (hf : src.rest.length < fuel) :
    scanSteps da fuel (da.idx u) src n ≠ .error .fuel :=
  scanSteps_ne_fuel hT (DA.sizeInv_depth hZ) hu hok hf


/-! ### Rung 2 — every pattern collection, in the model of the builder -/

/-- For EVERY collection and every `num_free_blocks`: if the model builder succeeds (standard
kind), scanning any haystack that decodes takes at most two transitions per item, hence at most
`2n` for `n` bytes, and the scan terminates. -/
theorem steps_le_2n_build (variant : Variant) (nfb : Nat) (P : List (LPat V)) (da : DA V)
    (hb : buildDA variant ⟨0, nfb⟩ P = .ok da) (hk : keysOk P)
    (hlabels : variant = .bytewise → ∀ p ∈ P, ∀ c ∈ p.key, c < 256)
    (h : List Nat) (items : List WItem)
    (hi : allItems da.variant (h.length + 1) ⟨h, 0⟩ = .ok items)
    (hl : ∀ w ∈ items, LabelOk da w.label) :
    ∃ total, scanSteps da (h.length + 1) rootIdx (startSrc h) 0 = .ok total ∧
      total ≤ 2 * items.length ∧ total ≤ 2 * h.length := by
  obtain ⟨t, idx, hS, _, hL, hlab, hD⟩ := build_layout variant ⟨0, nfb⟩ P P da hb
    (fun t ht => buildTrie_trieSem 0 (by decide) P t ht hk) (fun p hp => hp) hlabels
  exact steps_le_2n_of_layout hL hS hlab hD hi hl

/-- Termination of the leftmost search, stated here for the byte-wise leftmost-longest automaton of
every collection: the iterator returns. The other cases are the `lmAll … = .ok _` of Props/C03
`leftmost_longest_correct_build_charwise` and Props/C04 `leftmost_first_correct_build_*`; the
standard iterators return by Props/C01, C02, C05 `*_correct_build_*`. -/
theorem leftmost_terminates_build (nfb : Nat) (Ps : List (Pat V)) (hV : ValidPats Ps)
    (hbytes : ∀ p ∈ Ps, ∀ b ∈ p.key, b < 256) (da : DA V)
    (hb : buildDA .bytewise ⟨1, nfb⟩ (Ps.map lpOf) = .ok da) (h : List Nat) (hh : ∀ b ∈ h, b < 256) :
    ∃ l, lmAll da h = .ok (l, 0) := by
  obtain ⟨l, h1, _⟩ := bytewise_leftmost_longest_correct nfb Ps hV hbytes da hb h hh
  exact ⟨l, h1⟩

end Daac.Props.C13
