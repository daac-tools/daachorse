/-
Translation tie, serialisation side — what the equalities of Proofs/TieS buy for C09.

`Daac/Gen/Serial.lean` is the serialisation code of /repo (every `serialize_to_vec` /
`deserialize_from_slice` / `serialized_bytes`, the macro body of the primitive types, `serialize` and
`deserialize_unchecked` of both automata) as translated by tools/ser2lean.py on every run.
Proofs/TieS shows the translated entry points equal to the model's `serialize` / `deserialize`
(through `toDAB` / `toDAC`: the Rust representation with `Option<NonZeroU32>` fields and the packed
byte-wise state word). The C09 round-trip theorems therefore hold of the TRANSLATED code:

* for every well-formed automaton value — in particular for every automaton the model builder
  returns — `serialize` does not panic, `deserialize_unchecked` of its image followed by arbitrary
  trailing bytes does not panic, restores an equal automaton and hands back exactly the trailing bytes;
* `Vec::with_capacity(…)` in `serialize` reserves exactly the number of bytes written.

Outside: the translator and its prelude (Daac/Gen/PreludeSer.lean: `to_le_bytes`, `from_le_bytes`,
slicing, `NonZeroU32::new`, a value type = a `Ser V` record) are trusted; the builder in
`generated_roundtrip_of_build_bytewise` is the model's (Props/TieTop, TieTopC tie the translated
builders to it).
-/
import Daac.Proofs.TieS
import Daac.Props.C09
namespace Daac.Props.TieSer
open Daac Daac.Tie.S
variable {V : Type}

theorem generated_serial_eq_model (S : Ser V) (da : DA V) (bs : List Nat) :
    (da.variant = .bytewise → da.states.size ≤ 4294967295 → da.outputs.size ≤ 4294967295 →
      Gen.S.B.DA.serialize S (toDAB da) = some (Daac.serialize S da)) ∧
    (da.variant = .charwise → da.states.size ≤ 4294967295 → da.mapTable.size ≤ 4294967295 →
      da.outputs.size ≤ 4294967295 → Gen.S.C.DA.serialize S (toDAC da) = some (Daac.serialize S da)) ∧
    Gen.S.B.DA.deserialize_unchecked S bs = (Daac.deserialize S .bytewise bs).map (fun p => (toDAB p.1, p.2)) ∧
    Gen.S.C.DA.deserialize_unchecked S bs = (Daac.deserialize S .charwise bs).map (fun p => (toDAC p.1, p.2)) :=
  ⟨fun hv hs ho => serialize_eq_B S da hv hs ho, fun hv hs hm ho => serialize_eq_C S da hv hs hm ho,
   deserialize_eq_B S bs, deserialize_eq_C S bs⟩

/-- **Round trip of the translated byte-wise code**, every well-formed automaton value, arbitrary
trailing bytes; the reserved capacity is exact. -/
theorem generated_roundtrip_bytewise (S : Ser V) (D : V → Prop) (hS : S.LawfulOn D) (da : DA V)
    (h : da.WF S D) (hv : da.variant = .bytewise) (rest : List Nat) :
    ∃ bs, Gen.S.B.DA.serialize S (toDAB da) = some bs ∧
      Gen.S.B.DA.deserialize_unchecked S (bs ++ rest) = some (toDAB da, rest) ∧
      Gen.S.B.DA.serialize.capacity S (toDAB da) = bs.length := by
  refine ⟨Daac.serialize S da, ?_, ?_, ?_⟩
  · exact serialize_eq_B S da hv (Nat.le_of_lt_succ h.statesSize) (Nat.le_of_lt_succ h.outputsSize)
  · rw [deserialize_eq_B, ← hv, C09.roundtrip S D hS da h rest]
    rfl
  · exact capacity_exact_B S D hS da hv (fun o ho => (h.outputs o ho).value)

/-- **Round trip of the translated char-wise code** (the image contains the code mapper). -/
theorem generated_roundtrip_charwise (S : Ser V) (D : V → Prop) (hS : S.LawfulOn D) (da : DA V)
    (h : da.WF S D) (hv : da.variant = .charwise) (rest : List Nat) :
    ∃ bs, Gen.S.C.DA.serialize S (toDAC da) = some bs ∧
      Gen.S.C.DA.deserialize_unchecked S (bs ++ rest) = some (toDAC da, rest) ∧
      Gen.S.C.DA.serialize.capacity S (toDAC da) = bs.length := by
  refine ⟨Daac.serialize S da, ?_, ?_, ?_⟩
  · exact serialize_eq_C S da hv (Nat.le_of_lt_succ h.statesSize) (Nat.le_of_lt_succ h.mapSize)
      (Nat.le_of_lt_succ h.outputsSize)
  · rw [deserialize_eq_C, ← hv, C09.roundtrip S D hS da h rest]
    rfl
  · exact capacity_exact_C S D hS da hv (fun o ho => (h.outputs o ho).value)

/-- … in particular for EVERY automaton the model builder returns (any collection, kind,
`num_free_blocks`), byte-wise. -/
theorem generated_roundtrip_of_build_bytewise (S : Ser V) (D : V → Prop) (cfg : Cfg)
    (P : List (LPat V)) (da : DA V) (hb : buildDA .bytewise cfg P = .ok da) (hk : keysOk P)
    (hbytes : ∀ p ∈ P, ∀ c ∈ p.key, c < 256)
    (hkind : cfg.kind ∈ [0, 1, 2]) (hvals : ∀ p ∈ P, D p.value) (hlen : ∀ p ∈ P, p.blen < 2 ^ 32)
    (hcount : P.length < 2 ^ 32)
    (hnodes : ∀ t, buildTrie cfg.kind P = .ok t → t.size < 2 ^ 32)
    (hvar : da.variant = .bytewise)
    (hS : S.LawfulOn D) (rest : List Nat) :
    ∃ bs, Gen.S.B.DA.serialize S (toDAB da) = some bs ∧
      Gen.S.B.DA.deserialize_unchecked S (bs ++ rest) = some (toDAB da, rest) :=
  have wf := wf_of_build S D .bytewise cfg P da hb hk (fun _ => hbytes) hkind hvals hlen hcount nofun
    hnodes
  let ⟨bs, h1, h2, _⟩ := generated_roundtrip_bytewise S D hS da wf hvar rest
  ⟨bs, h1, h2⟩

/-- The primitive value types: every invocation of the macro passes the type's own width, and the
table equals the one the constants translator extracts (on which `C09.prim_widths` rests). -/
theorem generated_prim_table :
    (∀ r ∈ Gen.S.primInvocations, r.2.1 = r.2.2) ∧
    Gen.S.primInvocations.map (fun r => (r.1, r.2.2)) = Gen.primWidths.map (fun r => (r.1, r.2.1)) :=
  prim_invocations_ok

/-- Non-vacuity: the example automaton of Proofs/SerialRT (char-wise, with a mapper) meets the
hypotheses of `generated_roundtrip_charwise`. -/
example : exampleDA.WF (serUnsigned 4) (fun v => 0 ≤ v ∧ v < 256 ^ 4) ∧ exampleDA.variant = .charwise :=
  ⟨exampleDA_wf, rfl⟩

end Daac.Props.TieSer
