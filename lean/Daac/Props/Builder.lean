/-
Rung 2, NFA level — theorems about the model of the builder's trie, fail-link and output passes
(Model/Trie.lean, Model/Nfa.lean) for ALL pattern collections, all three kinds. Together with the
insertion-phase theorems (Props/C10, C14, C15) they show that the sparse NFA the model builds is
the textbook Aho-Corasick NFA (standard kind) resp. the leftmost automaton characterised by (F),
(G1), (G3) (leftmost kinds). The double-array *layout* (that the tables mirror this NFA) is proved
in Proofs/LayoutB, LayoutC, LayoutSem and assembled in Proofs/Rung2; independently it is covered
per instance by evaluating `tableInv`/`leftmostInv` on the real tables and by suite K-build.
These theorems serve C01–C05 (and through them C06, C08, C11, C13).
-/
import Daac.Proofs.NfaStd
import Daac.Proofs.NfaLm
import Daac.Proofs.NfaG
import Daac.Proofs.NfaLmIface
namespace Daac.Props.Builder
open Daac
variable {V : Type}

/-- The trie built from a valid collection holds exactly the patterns (kinds 0, 1) … -/
theorem trie_sem (kind : Nat) (hk : kind ≠ 2) (P : List (LPat V)) (t : Trie V)
    (ht : buildTrie kind P = .ok t) (hP : keysOk P) : TrieSem t P :=
  buildTrie_trieSem kind hk P t ht hP
/-- … resp. exactly the retained patterns (leftmost-first). -/
theorem trie_sem_lf (P : List (LPat V)) (t : Trie V) (ht : buildTrie 2 P = .ok t) (hP : keysOk P) :
    TrieSem t (retainedL P) := buildTrie_trieSem_lf P t ht hP

/-- `build_fails`: the fail link of every node is the longest proper suffix that is a node. -/
theorem fails_std (t : Trie V) (P : List (LPat V)) (hS : TrieSem t P) :
    ∀ u, u ∈ nodeList P → (buildFailMap t false).get u = .node (lps (nodeList P) u) :=
  failStd_eq_lps' hS

/-- `build_outputs` (standard): the output chain of every node lists exactly the patterns that
are suffixes of the node's string, longest first; there is one record per pattern and parents
point strictly backwards. -/
theorem outputs_std (t : Trie V) (P : List (LPat V)) (hS : TrieSem t P) (hsort : t.Sorted) :
    (∀ u, u ∈ nodeList P →
      chainList (buildOutAcc t (buildFailMap t false)).outs
        ((buildOutAcc t (buildFailMap t false)).outs.size + 1)
        ((buildOutAcc t (buildFailMap t false)).opos.getD u 0) =
      (sufLPats P u).map (fun p => (p.value, p.blen))) ∧
    (buildOutAcc t (buildFailMap t false)).outs.size = P.length ∧
    (∀ i o, (buildOutAcc t (buildFailMap t false)).outs[i]? = some o → o.parent < i + 1) :=
  have h := buildOutAcc_std_inv hS hsort
  ⟨fun u hu => h.chain_of (Trie.nil_or_mem_queue t ((hS.nodes u).mpr hu)), outsStd_size hS hsort,
    fun i o ho => Nat.lt_succ_of_le (h.parent i o ho)⟩

/-- `build_fails_leftmost`, statement (F): the fail link of a node is dead iff following the
ordinary link would lose the leftmost-longest occurrence contained in the node. -/
theorem fails_leftmost (t : Trie V) (P : List (LPat V)) (hS : TrieSem t P) (hsort : t.Sorted) :
    FailChar P (buildFailMap t true) := fun u hu hne => failLm_char hS u hu hne

/-- (G3) from (F): the leftmost transition on the NFA is `deltaL`. -/
theorem transition_leftmost (t : Trie V) (P : List (LPat V)) (hS : TrieSem t P) (hsort : t.Sorted) :
    ∀ u, u ∈ nodeList P → ∀ c fuel, u.length < fuel →
      nfaNextLm t (buildFailMap t true) fuel u c = deltaL P u c :=
  nfaNextLm_eq_deltaL hS (fails_leftmost t P hS hsort)

/-- (G1): the output position of a node is the record of `best u` iff it is a suffix of `u`. -/
theorem outputs_leftmost (t : Trie V) (P : List (LPat V)) (hS : TrieSem t P) (hsort : t.Sorted) :
    ∀ u, u ∈ nodeList P →
      (match oposL P u with
       | some p => (buildOutAcc t (buildFailMap t true)).opos.getD u 0 ≠ 0 ∧
           ∃ o, (buildOutAcc t (buildFailMap t true)).outs[(buildOutAcc t (buildFailMap t true)).opos.getD u 0 - 1]? = some o ∧
             o.value = p.value ∧ o.length = p.blen
       | none => (buildOutAcc t (buildFailMap t true)).opos.getD u 0 = 0) :=
  oposLm hS hsort (fails_leftmost t P hS hsort)

/-- Tries produced by the insertion phase are label-sorted (the hypothesis `hsort` above). -/
theorem trie_sorted (kind : Nat) (P : List (LPat V)) (t : Trie V) (ht : buildTrie kind P = .ok t) :
    t.Sorted := buildTrie_sorted kind P t ht

end Daac.Props.Builder
